/-
`Sim` is preserved by the erasure-coding middleware over `c.n` copies of a correct inner store
(helper for C15). As the code is, a `get` of an absent part is not covered (`absentGet := false`):
it heals an empty part into existence; with `notFoundWhenAllMissing` it is.
-/
import Pithos.Lemmas.PartStore
import Pithos.Lemmas.ErasureCodingHeal

namespace Pithos.PartStore
open Pithos.Codec

/-- What the shard stores hold for part `i`, store by store. -/
def ecStreams {S : Store} {R : Restr} (sim : Sim R S) (c : EC.Cfg) (s : Nat → S.σ) (i : PartId) : List (Option Bytes) :=
  (List.range c.n).map fun k => sim.abs (s k) i

/-- The content of the erasure-coded store for an id: what the (repaired) read logic makes of the
contents of the shard stores. It is the repaired logic whatever `F` the store runs with: under the
invariant the shards of a part are all there and intact, which every variant reads alike (`Holds.read`), or
all absent, which the repaired logic calls not found; so this is the map `m` of `Holds` (`Holds.abs_eq`). -/
def ecAbs {S : Store} {R : Restr} (P : Prims) (sim : Sim R S) (c : EC.Cfg) (s : Nat → S.σ) (i : PartId) : Option Bytes :=
  match EC.read c P.code P.hash EC.Fix.repaired (ecStreams sim c s i) with
  | .result r => if r.failed then none else some r.out
  | .notFound => none

theorem shard_gets_spec {σ : Type} (n : Nat) (g : Nat → GetRes σ) (e : Nat → Option Bytes)
    (h : ∀ k, k < n → OutOk (g k).out (e k)) :
    ((List.range n).map g).any (fun r => r.out == GetOut.err) = false ∧
    (((List.range n).map g).map fun r => r.out.bytes?) = (List.range n).map e := by
  constructor
  · rw [List.any_eq_false]
    intro r hr
    obtain ⟨k, hk, rfl⟩ := List.mem_map.1 hr
    simpa using (h k (List.mem_range.1 hk)).ne_err
  · rw [List.map_map]
    exact List.map_congr_left fun k hk => (h k (List.mem_range.1 hk)).bytes?

/-- The contents the erasure-coded store is claimed for: those all of whose shard streams are contents
the shard stores are claimed for. -/
def ecOk (P : Prims) (c : EC.Cfg) (Q : Bytes → Prop) (b : Bytes) : Prop :=
  ∀ k, k < c.n → Q (EC.shardStream c P.code P.hash k b)

section
variable {S : Store} {R : Restr} (P : Prims) (sim : Sim R S) (c : EC.Cfg)

/-- The shard stores are in order and hold of every part of `m` its shard streams, store `k` stream `k`,
and of no other id anything. -/
def Holds (s : Nat → S.σ) (m : PartId → Option Bytes) : Prop :=
  ∀ k, k < c.n → sim.Inv (s k) ∧ sim.abs (s k) = fun i => (m i).map (EC.shardStream c P.code P.hash k)

variable {P sim c}

theorem Holds.streams {s : Nat → S.σ} {m : PartId → Option Bytes} (h : Holds P sim c s m) (i : PartId) :
    ecStreams sim c s i = (List.range c.n).map fun k => (m i).map (EC.shardStream c P.code P.hash k) :=
  List.map_congr_left fun k hk => congrFun (h k (List.mem_range.1 hk)).2 i

theorem Holds.read (wf : EC.WF c P.code P.hash) {s : Nat → S.σ} {m : PartId → Option Bytes} (h : Holds P sim c s m)
    (i : PartId) (fix : EC.Fix) :
    EC.read c P.code P.hash fix (ecStreams sim c s i) =
      match m i with
      | none => EC.read c P.code P.hash fix (List.replicate c.n none)
      | some b => .result ⟨b, false, List.replicate c.n none, []⟩ := by
  rw [h.streams i]
  cases m i with
  | none => simp only [Option.map_none]; rw [List.map_const', List.length_range]
  | some b => exact EC.read_intact wf fix b

theorem Holds.abs_eq (wf : EC.WF c P.code P.hash) {s : Nat → S.σ} {m : PartId → Option Bytes} (h : Holds P sim c s m) :
    ecAbs P sim c s = m := by
  funext i
  rw [ecAbs, h.read wf]
  cases m i with
  | none => rw [EC.read_absent]; rfl
  | some b => rfl

/-- The invariant of the erasure-coded store: its shard stores hold the shard streams of some content. -/
def ECInv (P : Prims) (sim : Sim R S) (c : EC.Cfg) (s : Nat → S.σ) : Prop := ∃ m, Holds P sim c s m

theorem ECInv.step (wf : EC.WF c P.code P.hash) {s s' : Nat → S.σ} (f : (PartId → Option Bytes) → PartId → Option Bytes)
    (h : ECInv P sim c s) (hs : ∀ m, Holds P sim c s m → Holds P sim c s' (f m)) :
    ECInv P sim c s' ∧ ecAbs P sim c s' = f (ecAbs P sim c s) := by
  obtain ⟨m, hm⟩ := h
  rw [(hs m hm).abs_eq wf, hm.abs_eq wf]
  exact ⟨⟨_, hs m hm⟩, rfl⟩

end

section
variable {S : Store} {Q : Bytes → Prop} {g cin : Bool} {P : Prims} {sim : Sim ⟨Q, g, cin⟩ S} {c : EC.Cfg}

theorem ec_get_ok (F : Fixes) (wf : EC.WF c P.code P.hash) (tx : Bool) (s : Nat → S.σ) (i : PartId)
    (h : ECInv P sim c s) (a : (g && F.ec.notFoundWhenAllMissing) = true ∨ (ecAbs P sim c s i).isSome = true) :
    GetOk true (ECInv P sim c) (ecAbs P sim c) s i ((ecWrap P F c S).get tx s i) := by
  obtain ⟨m, hm⟩ := h
  have hmA := hm.abs_eq wf
  rw [hmA] at a
  have hG : ∀ k, k < c.n → GetOk cin sim.Inv sim.abs (s k) i (S.get tx (s k) i) := fun k hk =>
    sim.get_ok tx (s k) i (hm k hk).1 <| a.imp (fun a => (Bool.and_eq_true_iff.1 a).1) fun a => by
      rw [(hm k hk).2, Option.isSome_map]; exact a
  have hs1 : Holds P sim c (fun k => if k < c.n then (S.get tx (s k) i).st else s k) m := fun k hk => by
    simp only [hk, if_true]
    exact ⟨(hG k hk).inv, (hG k hk).abs_eq.trans (hm k hk).2⟩
  have hA := (hs1.abs_eq wf).trans hmA.symm
  have hpan : ((List.range c.n).map fun k => S.get tx (s k) i).any (·.panicked) = false := by
    rw [List.any_eq_false]
    intro r hr
    obtain ⟨k, hk, rfl⟩ := List.mem_map.1 hr
    simp [(hG k (List.mem_range.1 hk)).quiet]
  obtain ⟨herr, hstreams⟩ := shard_gets_spec c.n (fun k => S.get tx (s k) i) (fun k => sim.abs (s k) i)
    fun k hk => (hG k hk).out
  change _ = ecStreams sim c s i at hstreams
  have hread := hm.read wf i F.ec
  cases hmi : m i with
  | none =>
    -- no shard: only covered with the repair
    have hfix : F.ec.notFoundWhenAllMissing = true := by
      rw [hmi] at a
      exact (Bool.and_eq_true_iff.1 (a.resolve_right fun a => by cases a)).2
    rw [hmi, EC.read_absent, hfix] at hread
    simp only [herr, Bool.false_eq_true, if_false, hstreams, hread, if_true, hpan]
    exact .absent ⟨m, hs1⟩ hA rfl (by rw [hmA, hmi]) rfl
  | some b =>
    -- all shards present and intact
    rw [hmi] at hread
    simp only [herr, Bool.false_eq_true, if_false, hstreams, hread, hpan]
    have hheal : ∀ k, (List.replicate c.n (none : Option Bytes)).getD k none = none := by
      intro k; simp [List.getD_eq_getElem?_getD, List.getElem?_replicate]; split <;> rfl
    have hany : (List.replicate c.n (none : Option Bytes)).any Option.isSome = false := by simp
    simp only [hheal, hany, Bool.false_and, Bool.or_false]
    exact .found ⟨m, hs1⟩ hA rfl (by rw [hmA, hmi]) (fun _ => rfl) rfl

/-- **erasure coding preserves correctness** over `d + p` copies of a correct inner store. A `get` of
an absent part is covered only with the repair (`notFoundWhenAllMissing`). The streams handed out
are always clean (a pipe). -/
def ecSim (P : Prims) (F : Fixes) (c : EC.Cfg) (wf : EC.WF c P.code P.hash) (sim : Sim ⟨Q, g, cin⟩ S) :
    Sim ⟨ecOk P c Q, g && F.ec.notFoundWhenAllMissing, true⟩ (ecWrap P F c S) :=
  have h0 : Holds P sim c (fun _ => S.init) fun _ => none := fun _ _ => ⟨sim.inv_init, funext sim.abs_init⟩
  .of (ECInv P sim c) (ecAbs P sim c) ⟨⟨_, h0⟩, congrFun (h0.abs_eq wf)⟩
    (put := fun tx s i b h hb => h.step wf (upd · i (some b)) fun m hm k hk => by
      obtain ⟨hI, hA⟩ := hm k hk
      simp only [hk, if_true]
      exact ⟨sim.put_inv tx (s k) i _ hI (hb k hk),
        by rw [sim.put_abs tx (s k) i _ hI (hb k hk), hA]; exact (upd_comp (fun _ o => o.map _) m i (some b)).symm⟩)
    (get := ec_get_ok F wf)
    (del := fun tx s i h => h.step wf (upd · i none) fun m hm k hk => by
      obtain ⟨hI, hA⟩ := hm k hk
      simp only [hk, if_true]
      exact ⟨sim.del_inv tx (s k) i hI,
        by rw [sim.del_abs tx (s k) i hI, hA]; exact (upd_comp (fun _ o => o.map _) m i none).symm⟩)
    (tick := fun s h => h.step wf id fun m hm k hk => by
      obtain ⟨hI, hA⟩ := hm k hk
      simp only [hk, if_true]
      exact ⟨sim.tick_inv (s k) hI, (sim.tick_abs (s k) hI).trans hA⟩)
    (ids := fun s ⟨m, hm⟩ => ⟨nodup_dedup _, fun i => by
      have hn1 : 0 < c.n := Nat.lt_of_lt_of_le wf.d_pos (Nat.le_add_right _ _)
      have hk : ∀ k, k < c.n → (i ∈ S.ids (s k) ↔ (m i).isSome = true) := fun k hk => by
        rw [sim.ids_mem (s k) i (hm k hk).1, (hm k hk).2, Option.isSome_map]
      show i ∈ dedup ((List.range c.n).flatMap fun k => S.ids (s k)) ↔ _
      rw [mem_dedup, List.mem_flatMap, hm.abs_eq wf]
      exact ⟨fun ⟨k, hkn, hi⟩ => (hk k (List.mem_range.1 hkn)).1 hi,
        fun he => ⟨0, List.mem_range.2 hn1, (hk 0 hn1).2 he⟩⟩⟩)

end

end Pithos.PartStore
