/-
`determineCommonPrefix` against the S3 grouping for a delimiter of at most one byte, and the
convexity of the S3 groups in the byte order (any delimiter). Core Lean only.
-/
import Pithos.Lemmas.ListingOrder

namespace Pithos.Listing
open Pithos.S3List (Key keyLe throughDelim groupOf)

/-- What `splitGo` does to the first segment when a non-separator byte is prepended. -/
def consHead (c : UInt8) : List Key → List Key
  | hd :: tl => (c :: hd) :: tl
  | [] => [[c]]

theorem splitGo_ne_nil {sep : Key} {n : Nat} {s : Key} : splitGo sep n s ≠ [] := by
  induction s generalizing n with
  | nil => simp [splitGo]
  | cons c cs ih =>
    cases n with
    | zero =>
      simp only [splitGo]
      split
      · simp
      · split <;> simp
    | succ k => simpa [splitGo] using ih (n := k)

theorem splitGo1_eq (d : UInt8) (cs : Key) : splitGo [d] 0 (d :: cs) = [] :: splitGo [d] 0 cs := by
  simp [splitGo, List.isPrefixOf]

theorem splitGo1_ne {c d : UInt8} (h : c ≠ d) (cs : Key) :
    splitGo [d] 0 (c :: cs) = consHead c (splitGo [d] 0 cs) := by
  have : (d == c) = false := by simpa using fun e : d = c => h e.symm
  simp only [splitGo, List.isPrefixOf, this, Bool.false_and, Bool.false_eq_true, if_false]
  cases splitGo [d] 0 cs <;> rfl

theorem length_consHead (c : UInt8) {l : List Key} (h : l ≠ []) : (consHead c l).length = l.length := by
  cases l with
  | nil => exact absurd rfl h
  | cons a as => rfl

theorem length_splitGo1 (d : UInt8) (s : Key) : (splitGo [d] 0 s).length = s.count d + 1 := by
  induction s with
  | nil => simp [splitGo]
  | cons c cs ih =>
    by_cases h : c = d
    · subst h; simp [splitGo1_eq, ih]
    · rw [splitGo1_ne h, length_consHead c splitGo_ne_nil, ih, List.count_cons_of_ne h]

theorem head_splitGo1 (d : UInt8) (s : Key) :
    ∃ tl, splitGo [d] 0 s = s.takeWhile (· != d) :: tl := by
  induction s with
  | nil => exact ⟨[], by simp [splitGo]⟩
  | cons c cs ih =>
    by_cases h : c = d
    · subst h; exact ⟨splitGo [c] 0 cs, by simp [splitGo1_eq]⟩
    · obtain ⟨tl, htl⟩ := ih
      refine ⟨tl, ?_⟩
      rw [splitGo1_ne h, htl]
      simp [consHead, h]

theorem join_take_splitGo1 (d : UInt8) (p rest : Key) :
    (((splitGo [d] 0 (p ++ rest)).take (splitGo [d] 0 p).length).map (· ++ [d])).flatten
      = p ++ (rest.takeWhile (· != d) ++ [d]) := by
  induction p with
  | nil =>
    obtain ⟨tl, htl⟩ := head_splitGo1 d rest
    simp [splitGo, htl]
  | cons c p' ih =>
    by_cases h : c = d
    · subst h
      simp only [List.cons_append, splitGo1_eq, List.length_cons, List.take_succ_cons, List.map_cons,
        List.flatten_cons, List.nil_append, ih]
    · have hL : (splitGo [d] 0 p').length ≠ 0 := by
        rw [length_splitGo1]; omega
      rw [List.cons_append, splitGo1_ne h, splitGo1_ne h, length_consHead c splitGo_ne_nil]
      cases hsp : splitGo [d] 0 (p' ++ rest) with
      | nil => exact absurd hsp splitGo_ne_nil
      | cons hd tl =>
        obtain ⟨n, hn⟩ : ∃ n, (splitGo [d] 0 p').length = n + 1 := ⟨_, (Nat.succ_pred_eq_of_ne_zero hL).symm⟩
        rw [hsp, hn] at ih
        rw [hn]
        simp only [consHead, List.take_succ_cons, List.map_cons, List.flatten_cons] at ih ⊢
        rw [List.cons_append, List.cons_append, ih]
        rfl

theorem throughDelim1 (d : UInt8) (s : Key) :
    throughDelim [d] s = if d ∈ s then some (s.takeWhile (· != d) ++ [d]) else none := by
  induction s with
  | nil => simp [throughDelim]
  | cons c cs ih =>
    by_cases h : c = d
    · subst h; simp [throughDelim, List.isPrefixOf]
    · have h' : (d == c) = false := by simpa using fun e : d = c => h e.symm
      have hmem : d ∈ c :: cs ↔ d ∈ cs := by
        simp only [List.mem_cons]
        exact ⟨fun hh => hh.resolve_left (fun e => h e.symm), Or.inr⟩
      simp only [throughDelim, List.isPrefixOf, h', Bool.false_and, Bool.false_eq_true, if_false, ih,
        List.takeWhile_cons, hmem]
      split <;> simp [h]

theorem goContains1 (d : UInt8) (s : Key) : goContains [d] s = s.contains d := by
  induction s with
  | nil => simp [goContains]
  | cons c cs ih =>
    simp only [goContains, List.isPrefixOf, Bool.and_true, ih, List.contains_cons]

theorem code_grouping_eq (pfx delim k : Key) (hd : delim.length ≤ 1) (hp : pfx.isPrefixOf k = true) :
    codeCP pfx delim k = groupOf pfx delim k ∧
    codeKeep pfx delim k = (groupOf pfx delim k).isNone := by
  obtain ⟨rest, rfl⟩ := List.isPrefixOf_iff_prefix.mp hp
  cases delim with
  | nil => simp [codeCP, codeKeep, groupOf]
  | cons d ds =>
    have : ds = [] := by
      cases ds with
      | nil => rfl
      | cons _ _ => simp at hd
    subst this
    have hdrop : (pfx ++ rest).drop pfx.length = rest := by simp
    constructor
    · simp only [codeCP, List.isEmpty_cons, Bool.false_eq_true, if_false, determineCommonPrefix,
        goSplit, groupOf, hdrop, throughDelim1, length_splitGo1, List.count_append]
      by_cases hmem : d ∈ rest
      · have : rest.count d ≠ 0 := by
          intro h0; exact (List.count_eq_zero.mp h0) hmem
        have hlen : ¬ (pfx.count d + 1 ≥ pfx.count d + rest.count d + 1) := by omega
        rw [if_neg hlen, if_pos hmem]
        have := join_take_splitGo1 d pfx rest
        rw [length_splitGo1] at this
        rw [this]
        rfl
      · have : rest.count d = 0 := List.count_eq_zero.mpr hmem
        simp [this, hmem]
    · simp only [codeKeep, List.isEmpty_cons, Bool.false_or, goTrimPrefix, hp,
        if_true, hdrop, goContains1, groupOf, Bool.false_eq_true, if_false, throughDelim1]
      by_cases hmem : d ∈ rest <;> simp [hmem]

theorem prefix_between (c : Key) {a' b' x : Key} (hax : c ++ a' ≤ x) (hxb : x ≤ c ++ b') :
    ∃ x', x = c ++ x' := by
  induction c generalizing x with
  | nil => exact ⟨x, rfl⟩
  | cons h t ih =>
    cases x with
    | nil => simp at hax
    | cons y xs =>
      rw [List.cons_append, List.cons_le_cons_iff] at hax hxb
      rcases hax with h1 | ⟨rfl, h1⟩
      · rcases hxb with h2 | ⟨rfl, _⟩
        · exact absurd h1 (UInt8.lt_asymm h2)
        · exact absurd h1 (UInt8.lt_irrefl _)
      · rcases hxb with h2 | ⟨_, h2⟩
        · exact absurd h2 (UInt8.lt_irrefl _)
        · obtain ⟨x', rfl⟩ := ih h1 h2
          exact ⟨x', rfl⟩

theorem throughDelim_stable {delim s u : Key} (hd : delim ≠ []) (h : throughDelim delim s = some u) :
    delim.length ≤ u.length ∧ ∃ t, s = u ++ t ∧ ∀ t', throughDelim delim (u ++ t') = some u := by
  induction s generalizing u with
  | nil => simp [throughDelim] at h
  | cons c cs ih =>
    simp only [throughDelim] at h
    split at h
    · rename_i hp
      obtain rfl := Option.some.inj h
      obtain ⟨t, ht⟩ := List.isPrefixOf_iff_prefix.mp hp
      refine ⟨Nat.le_refl _, t, ht.symm, fun t' => ?_⟩
      cases delim with
      | nil => exact absurd rfl hd
      | cons d ds => simp [throughDelim]
    · rename_i hp
      obtain ⟨u', hu', rfl⟩ := Option.map_eq_some_iff.mp h
      obtain ⟨hlen, t, rfl, hst⟩ := ih hu'
      refine ⟨by simp; omega, t, rfl, fun t' => ?_⟩
      have : delim.isPrefixOf (c :: (u' ++ t')) = false := by
        rw [Bool.eq_false_iff]
        intro hp'
        have h1 := List.prefix_of_prefix_length_le (List.isPrefixOf_iff_prefix.mp hp')
          (List.prefix_append (c :: u') t') (by simp; omega)
        exact hp (List.isPrefixOf_iff_prefix.mpr (h1.trans (List.prefix_append (c :: u') t)))
      simp only [List.cons_append, throughDelim, this, hst t']
      rfl

theorem groupOf_convex (pfx delim : Key) {k1 k2 k3 : Key}
    (h1p : pfx.isPrefixOf k1 = true) (h3p : pfx.isPrefixOf k3 = true)
    (h12 : keyLe k1 k2 = true) (h23 : keyLe k2 k3 = true) (c : Key)
    (h1 : groupOf pfx delim k1 = some c) (h3 : groupOf pfx delim k3 = some c) :
    groupOf pfx delim k2 = some c := by
  obtain ⟨r1, rfl⟩ := List.isPrefixOf_iff_prefix.mp h1p
  obtain ⟨r3, rfl⟩ := List.isPrefixOf_iff_prefix.mp h3p
  unfold groupOf at h1 h3 ⊢
  split at h1
  · cases h1
  · rename_i hde
    have hne : delim ≠ [] := fun e => hde (by rw [e]; rfl)
    rw [if_neg hde, List.drop_left] at h3
    rw [List.drop_left] at h1
    obtain ⟨u, hu1, rfl⟩ := Option.map_eq_some_iff.mp h1
    obtain ⟨u3, hu3, e3⟩ := Option.map_eq_some_iff.mp h3
    obtain rfl := List.append_cancel_left e3
    obtain ⟨_, t1, rfl, hst⟩ := throughDelim_stable hne hu1
    obtain ⟨_, t3, rfl, _⟩ := throughDelim_stable hne hu3
    rw [← List.append_assoc] at h12 h23
    obtain ⟨t2, rfl⟩ := prefix_between (pfx ++ u3) (keyLe_iff.1 h12) (keyLe_iff.1 h23)
    rw [if_neg hde, List.append_assoc, List.drop_left, hst t2]
    rfl

end Pithos.Listing
