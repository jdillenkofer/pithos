/-
Tagging and storage-class transitions are one kind of call: the row that a read of the same address would
resolve is saved again with other tags, class or part numbering (`resave` in `Pithos.Lemmas.S3Write`;
`Resaves` in `Pithos.Lemmas.S3Shape` lists the calls with what each puts in place of the row).
`Resaves.acked` reads an acknowledgement: what was found before, and that the same address resolves to the
saved row afterwards; `Resaves.rows_map` says that a projection of rows the call does not touch is unchanged
on the whole bucket. The `Pithos.C11` and `Pithos.C14` blocks at the end say what the reads of that address
answer afterwards (`getTags_resaved`, `transition_reads`); the tagging theorems of C11 and Props/C14 are read
off them.
-/
import Pithos.Lemmas.S3Read

namespace Pithos.S3

variable {op : Op} {b k : String} {vid : Option (Option Nat)} {f : Row → Row} {q : Quirks} {s s1 : State}

theorem Resaves.acked (hr : Resaves op b k vid f) (hinv : Inv s) (hack : step q s op = (s1, .unit)) :
    ∃ bk r, findBucket s b = some bk ∧ resolve bk k vid = .ok r ∧
      findBucket s1 b = some (replaceRow bk (touch q (s.clock + 1) (f r))) ∧
      resolve (replaceRow bk (touch q (s.clock + 1) (f r))) k vid = .ok (touch q (s.clock + 1) (f r)) := by
  obtain ⟨g, h⟩ := hr.stepT_eq q { s with clock := s.clock + 1 }
  rw [step_eq_stepT, h] at hack
  obtain ⟨bk, hfb, h⟩ := found_of_ok rfl hack
  cases hres : resolve bk k vid with
  | error e => rw [hres] at h; cases h
  | ok r =>
    rw [hres] at h
    cases h
    obtain ⟨t, cl, sb, hf⟩ := hr.save r
    exact ⟨bk, r, hfb, hres, findBucket_setBucket hfb (findBucket_some_name hfb :), by
      rw [hf]; exact resolve_repl_keep (hinv bk (findBucket_mem hfb)) hres rfl rfl rfl rfl rfl⟩

theorem Resaves.rows_map (hr : Resaves op b k vid f) (hinv : Inv s) {bk : Bucket} (hfb : findBucket s b = some bk)
    (hack : step q s op = (s1, .unit)) {α : Type} (p : Row → α) (hp : ∀ r, p (touch q (s.clock + 1) (f r)) = p r) :
    ∃ bk1, findBucket s1 b = some bk1 ∧ bk1.rows.map p = bk.rows.map p := by
  obtain ⟨bk', r, hfb', hres, hfb1, _⟩ := hr.acked hinv hack
  cases hfb.symm.trans hfb'
  exact ⟨_, hfb1, map_replaceRow p (hinv bk (findBucket_mem hfb)).nodup (resolve_mem hres)
    (by obtain ⟨_, _, _, hf⟩ := hr.save r; rw [hf]; rfl) (hp r)⟩

end Pithos.S3

namespace Pithos.C11
open Pithos.S3

/-- After an acknowledged tagging call GetObjectTagging of the same address returns the tags of the row saved. -/
theorem getTags_resaved {op : Op} {b k : String} {vid : Option (Option Nat)} {f : Row → Row} (hr : Resaves op b k vid f)
    {q : Quirks} {s s1 : State} (hinv : Inv s) (hack : step q s op = (s1, .unit)) :
    ∃ r, (step q s1 (.getTags b k vid)).2 = .tags (f r).tags := by
  obtain ⟨bk, r, _, _, hfb1, hres1⟩ := hr.acked hinv hack
  exact ⟨r, by simp only [step_getTags, hfb1, hres1]; rfl⟩

end Pithos.C11

namespace Pithos.C14
open Pithos.S3

/-- A successful transition of the row addressed by `vid` (the current version, the null version or
a numbered one) changes, in what GET/HEAD addressed the same way return, only the storage class. -/
theorem transition_reads (q : Quirks) (s s1 : State) (hinv : Inv s) (b k cls : String) (vid : Option (Option Nat))
    (hack : step q s (.transition b k cls vid) = (s1, .unit)) :
    ∃ v0 v1, (step q s (.get b k vid)).2 = .obj v0 ∧ (step q s1 (.get b k vid)).2 = .obj v1 ∧
      (step q s (.head b k vid)).2 = .obj v0 ∧ (step q s1 (.head b k vid)).2 = .obj v1 ∧
      v1.vid = v0.vid ∧ v1.body = v0.body ∧ v1.size = v0.size ∧ v1.etag = v0.etag ∧ v1.ct = v0.ct ∧
      v1.md = v0.md ∧ v1.tags = v0.tags ∧ v1.cls = some cls := by
  obtain ⟨bk, r, hfb, hres, hfb1, hres1⟩ := (Resaves.transition b k cls vid).acked hinv hack
  obtain ⟨g0, h0⟩ := read_resolved (q := q) hfb hres
  obtain ⟨g1, h1⟩ := read_resolved (q := q) hfb1 hres1
  exact ⟨viewOf r, viewOf _, g0, g1, h0, h1, by simp [viewOf, touch, Row.content, Row.size]⟩

end Pithos.C14
