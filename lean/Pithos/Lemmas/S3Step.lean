/-
What the operations of the storage model do to the rows of the one bucket they change, and what is
kept along it. A call that writes key `k` edits only rows of `k`, in four ways (`Edit`: a row saved
again, overwritten in place, removed, a fresh one added), and removes or overwrites only rows it may
(`May`): `RowEff.edited`, read off `InstEff`, `DelEff` and the append shapes once. What every edit keeps,
the operations keep (`Edits.keeps`): a property of the rows of each bucket (`RowsClosed`, `ofEff`; the
row invariant `Inv` is the first instance, `step_inv`), a row that has a version id (`Pithos.Lemmas.S3Frozen`),
and what any lookup blind to `k` finds (`RowsEdited.find_other`, the frame: `Pithos.Lemmas.S3Frame`).
`run_preserves` carries what every step preserves along a history.
-/
import Pithos.Lemmas.S3Inv
import Pithos.Lemmas.S3Shape

namespace Pithos.S3

/-- The number by which `promote` chooses. -/
def promKey (q : Quirks) : Row → Nat := if q.promoteByCreated then (·.created) else (·.wrote)

/-- `Edit q now k A nr nv rows nr' nv' rows'`: one edit of the rows of a bucket by a call addressed to
key `k` at time `now`; `nr`, `nv` are the row and version counters. Only rows of `k` are edited, and a row
is removed or overwritten only if `A` allows it. -/
inductive Edit (q : Quirks) (now : Nat) (k : String) (A : Row → Prop) (nr nv : Nat) (rows : List Row) :
    Nat → Nat → List Row → Prop
  /-- a row is saved again, possibly with another flag, other tags, class, part numbering; the flag is
  raised (`promote`) only where the key has no flagged row, on its newest row -/
  | save {r : Row} (l : Bool) (t : Pairs) (cl : Option String) (sb : Nat) : r ∈ rows → r.key = k →
      (l = true → r.latest = true ∨ (lc rows k = 0 ∧ ∀ x ∈ rows, x.key = k → promKey q x ≤ promKey q r)) →
      Edit q now k A nr nv rows nr nv (repl rows (touch q now { r with latest := l, tags := t, cls := cl, seqBase := sb }))
  /-- a row is overwritten, under its key and version id, by an object written now; it was the flagged
  row of its key, or that key has no flagged row -/
  | over {r y : Row} : r ∈ rows → r.key = k → A r → y.rowId = r.rowId → y.key = k → y.vid = r.vid → y.dm = false →
      y.latest = true → y.wrote = now → r.latest = true ∨ lc rows k = 0 → Edit q now k A nr nv rows nr nv (repl rows y)
  | drop {r : Row} : r ∈ rows → r.key = k → A r → Edit q now k A nr nv rows nr nv (rows.filter fun x => x.rowId != r.rowId)
  /-- a flagged row written now is added under the next row id where no row of its key is flagged: an
  object or a delete marker under the next version id, or an object as the null version (of a key that
  has none, unless the quirk is on) -/
  | add {y : Row} {nv' : Nat} : y.rowId = nr → y.key = k → y.latest = true → y.wrote = now → lc rows k = 0 →
      (y.vid = some nv ∧ nv' = nv + 1) ∨
        (y.vid = none ∧ y.dm = false ∧ nv' = nv ∧ ((∀ x ∈ rows, x.key = k → x.vid ≠ none) ∨ q.appendLatestInPlace = true)) →
      Edit q now k A nr nv rows (nr + 1) nv' (rows ++ [y])

section
variable {q : Quirks} {now : Nat} {k : String} {A : Row → Prop} {nr nv nr' nv' : Nat} {rows rows' : List Row}

theorem Edit.inv (e : Edit q now k A nr nv rows nr' nv' rows') (h : RowsInv nr rows) : RowsInv nr' rows' := by
  cases e with
  | save l t cl sb hr hk hl => exact h.replace hr rfl fun hyl => (hl hyl).imp (fun hl => ⟨rfl, hl⟩) fun hn => hk ▸ hn.1
  | over hr hk _ hid hyk _ _ _ _ hone =>
    exact h.replace hr hid fun _ => hone.imp (fun hl => ⟨hk.trans hyk.symm, hl⟩) fun hz => hyk ▸ hz
  | drop => exact h.filter _
  | add hid hyk _ _ hz => exact h.add hid (.inl (hyk ▸ hz))

theorem Edit.le (e : Edit q now k A nr nv rows nr' nv' rows') : nr ≤ nr' ∧ nv ≤ nv' := by
  cases e with
  | add _ _ _ _ _ hv => rcases hv with ⟨_, rfl⟩ | ⟨_, _, rfl, _⟩ <;> exact ⟨Nat.le_succ _, by omega⟩
  | _ => exact ⟨Nat.le_refl _, Nat.le_refl _⟩

theorem Edit.find_other (e : Edit q now k A nr nv rows nr' nv' rows') (hb : RowsInv nr rows) {p : Row → Bool}
    (hp : ∀ x : Row, x.key = k → p x = false) : rows'.find? p = rows.find? p := by
  cases e with
  | save l t cl sb hr hk => exact find?_repl_irrel hb.nodup hr rfl (hp _ hk) (hp _ hk)
  | over hr hk _ hid hyk => exact find?_repl_irrel hb.nodup hr hid (hp _ hk) (hp _ hyk)
  | @drop r hr hk =>
    refine find?_filter_of_imp fun x hx hpx => ?_
    -- what the test accepts is no row of `k`, so not the row removed
    cases hf : x.rowId != r.rowId
    · rw [eq_of_id_eq hb.nodup hx hr (by simpa using hf), hp _ hk] at hpx; cases hpx
    · rfl
  | add _ hyk => rw [List.find?_append, List.find?_singleton, hp _ hyk]; simp

end

/-- A sequence of edits. -/
inductive Edits (q : Quirks) (now : Nat) (k : String) (A : Row → Prop) (nr nv : Nat) (rows : List Row) :
    Nat → Nat → List Row → Prop
  | refl : Edits q now k A nr nv rows nr nv rows
  | tail {n1 v1 n2 v2 : Nat} {r1 r2 : List Row} : Edits q now k A nr nv rows n1 v1 r1 → Edit q now k A n1 v1 r1 n2 v2 r2 →
      Edits q now k A nr nv rows n2 v2 r2

theorem Edits.keeps {q : Quirks} {now : Nat} {k : String} {A : Row → Prop} {P : Nat → Nat → List Row → Prop}
    (hP : ∀ {nr nv nr' nv' rows rows'}, Edit q now k A nr nv rows nr' nv' rows' → RowsInv nr rows → P nr nv rows → P nr' nv' rows')
    {nr nv nr' nv' : Nat} {rows rows' : List Row} (e : Edits q now k A nr nv rows nr' nv' rows') (hb : RowsInv nr rows)
    (h : P nr nv rows) : RowsInv nr' rows' ∧ P nr' nv' rows' := by
  induction e with
  | refl => exact ⟨hb, h⟩
  | tail _ e ih => exact ⟨e.inv ih.1, hP e ih.1 ih.2⟩

theorem Edits.trans {q : Quirks} {now : Nat} {k : String} {A : Row → Prop} {nr nv n1 v1 n2 v2 : Nat} {rows r1 r2 : List Row}
    (e1 : Edits q now k A nr nv rows n1 v1 r1) (e2 : Edits q now k A n1 v1 r1 n2 v2 r2) : Edits q now k A nr nv rows n2 v2 r2 := by
  induction e2 with
  | refl => exact e1
  | tail _ e ih => exact .tail ih e

theorem Edit.unflag {q : Quirks} {k : String} {A : Row → Prop} (now nr nv : Nat) {bk : Bucket} {r : Row} (hr : r ∈ bk.rows)
    (hk : r.key = k) : Edit q now k A nr nv bk.rows nr nv (unlatest q now bk r).rows :=
  .save false r.tags r.cls r.seqBase hr hk fun h => nomatch h

theorem Edits.unflagCur {q : Quirks} {A : Row → Prop} (now nr nv : Nat) (bk : Bucket) (k : String) :
    Edits q now k A nr nv bk.rows nr nv (unlatestCur q now bk k).rows := by
  unfold unlatestCur
  cases hl : latestRow bk k with
  | none => exact .refl
  | some r => exact .tail (.refl) (.unflag now nr nv (latestRow_some hl).1 (latestRow_some hl).2.1)

theorem Edits.promote {q : Quirks} {A : Row → Prop} (now nr nv : Nat) (bk : Bucket) (k : String) (hz : lc bk.rows k = 0) :
    Edits q now k A nr nv bk.rows nr nv (promote q now bk k).rows := by
  unfold S3.promote
  simp only []
  split
  · exact .refl
  · rename_i r hr
    have hm := List.mem_filter.1 (maxBy_mem _ _ _ hr)
    refine .tail (.refl) (.save true r.tags r.cls r.seqBase hm.1 (by simpa using hm.2) fun _ => .inr ⟨hz, fun x hx hxk => ?_⟩)
    exact maxBy_ge _ _ _ hr x (List.mem_filter.2 ⟨hx, by simp [hxk]⟩)

/-- `s'` is `s` with `bk` replaced by a bucket of its name whose rows are those of `bk` after edits
addressed to `k` (given that row ids are distinct), the counters moved along. -/
def RowsEdited (q : Quirks) (s : State) (bk : Bucket) (k : String) (A : Row → Prop) (s' : State) : Prop :=
  ∃ X nr nv, s' = { setBucket s X with nextVid := nv, nextRow := nr } ∧ X.name = bk.name ∧
    (RowsInv s.nextRow bk.rows → Edits q s.clock k A s.nextRow s.nextVid bk.rows nr nv X.rows)

theorem inv_tick {s : State} (h : Inv s) : Inv { s with clock := s.clock + 1 } := h

theorem beforeMarker_edits {q : Quirks} {A : Row → Prop} (now nr nv : Nat) {bk : Bucket} (k : String)
    (hA : ∀ c : Row, c.vid = none → A c) (hb : RowsInv nr bk.rows) :
    Edits q now k A nr nv bk.rows nr nv (beforeMarker q now bk k).rows ∧ lc (beforeMarker q now bk k).rows k = 0 := by
  have e1 : Edits q now k A nr nv bk.rows nr nv (lessNull bk k).rows := by
    rcases lessNull_cases bk k with h | ⟨m, hm, hmk, hmv, h⟩ <;> rw [h]
    · exact .refl
    · exact .tail .refl (.drop hm hmk (hA m hmv))
  have hsub : ∀ y ∈ (lessNull bk k).rows, y ∈ bk.rows := by
    rcases lessNull_cases bk k with h | ⟨m, _, _, _, h⟩ <;> rw [h]
    · exact fun _ h => h
    · exact fun y hy => (List.mem_filter.1 hy).1
  have hi1 := (e1.keeps (P := fun _ _ _ => True) (fun _ _ _ => trivial) hb trivial).1
  rcases beforeMarker_cases q now bk k with ⟨h, hno⟩ | ⟨r, hl, ⟨x, hx, hid⟩, h⟩ <;> rw [h]
  · refine ⟨e1, ?_⟩
    -- a flagged row of `k` would be the current row of `k` in `bk`, which is not among these rows
    exact lc_eq_zero.2 fun x hx hxl hxk => hno x (latestRow_eq_of_unique (hb.one k) (hsub x hx) hxk hxl) x hx rfl
  · obtain ⟨hr, hk, hlat⟩ := latestRow_some hl
    have hrin : r ∈ (lessNull bk k).rows := eq_of_id_eq hb.nodup (hsub x hx) hr hid ▸ hx
    exact ⟨.tail e1 (.unflag _ _ _ hrin hk), lc_unlatest q now _ hi1 hrin hk hlat⟩

theorem RowsEdited.find_other {q : Quirks} {s s' : State} {bk : Bucket} {k : String} {A : Row → Prop} (e : RowsEdited q s bk k A s')
    (hb : RowsInv s.nextRow bk.rows) : ∃ X, s'.buckets = (setBucket s X).buckets ∧ X.name = bk.name ∧
      ∀ p : Row → Bool, (∀ x : Row, x.key = k → p x = false) → X.rows.find? p = bk.rows.find? p := by
  obtain ⟨X, nr, nv, rfl, hX, he⟩ := e
  exact ⟨X, rfl, hX, fun p hp => ((he hb).keeps (P := fun _ _ rows => rows.find? p = bk.rows.find? p)
    (fun e hb h => (e.find_other hb hp).trans h) hb rfl).2⟩

theorem InstEff.edited {q : Quirks} {s s' : State} {bk : Bucket} {k : String} {n : NewObj} {v : Option Nat} {A : Row → Prop}
    (hA : ∀ c : Row, c.vid = none → A c) (e : InstEff q s bk k n s' v) : RowsEdited q s bk k A s' := by
  cases e with
  | add v c nv hv =>
    refine ⟨_, _, _, rfl, by rw [addRow_name, unlatestCur_name], fun hb =>
      .tail (.unflagCur ..) (.add rfl rfl rfl rfl (lc_unlatestCur q s.clock bk k hb) ?_)⟩
    rcases hv with ⟨rfl, rfl⟩ | ⟨rfl, rfl, hnone⟩
    · exact .inl ⟨rfl, rfl⟩
    · refine .inr ⟨rfl, rfl, rfl, .inl fun x hx hxk hxv => ?_⟩
      -- a null row of `k` would stem from a null row of `k` in `bk`
      obtain ⟨x0, hx0, hk0, hv0⟩ := of_mem_unlatestCur hx
      have := List.find?_eq_none.1 hnone x0 hx0
      simp [hk0, hv0, hxv, show x.key = k from hxk] at this
  | replace c _ hr' hid hk hv =>
    exact ⟨_, s.nextRow, s.nextVid, rfl, by rw [replaceRow_name, unlatestCur_name], fun hb =>
      .tail (.unflagCur ..) (.over hr' hk (hA _ hv) hid.symm rfl hv.symm rfl rfl rfl (.inr (lc_unlatestCur q s.clock bk k hb)))⟩

theorem DelEff.edited {q : Quirks} {s s' : State} {bk : Bucket} {k : String} {im : IfMatch} {vid : Option (Option Nat)} {o : Out}
    {A : Row → Prop} (hA : ∀ c : Row, vid = some c.vid ∨ c.vid = none ∨ (vid = none ∧ bk.ver = .off) → A c)
    (e : DelEff q s bk k im vid s' o) : s' = s ∨ RowsEdited q s bk k A s' := by
  cases e with
  | refused | nothing => exact .inl rfl
  | @version v r hv =>
    obtain ⟨hr, hk, hrv⟩ := rowByVid_mem hv
    refine .inr ⟨_, s.nextRow, s.nextVid, rfl, ?_, fun hb => ?_⟩
    · split
      · exact promote_name _ _ _ _
      · rfl
    · have hd : Edits q s.clock k A s.nextRow s.nextVid bk.rows s.nextRow s.nextVid (removeRow bk r.rowId).rows :=
        .tail (.refl) (.drop hr hk (hA r (.inl (by rw [hrv]))))
      split
      · rename_i hl
        exact hd.trans (.promote _ _ _ _ k (lc_remove_latest hb hr hk hl))
      · exact hd
  | marker =>
    exact .inr ⟨addRow _ _, _, _, rfl, beforeMarker_name q s.clock bk k, fun hb =>
      have e := beforeMarker_edits s.clock s.nextRow s.nextVid k (fun c hc => hA c (.inr (.inl hc))) hb
      .tail e.1 (.add rfl rfl rfl rfl e.2 (.inl ⟨rfl, rfl⟩))⟩
  | @current r _ hver hl =>
    obtain ⟨hr, hk, _⟩ := latestRow_some hl
    exact .inr ⟨removeRow bk r.rowId, s.nextRow, s.nextVid, rfl, rfl, fun _ =>
      .tail (.refl) (.drop hr hk (hA r (.inr (.inr ⟨rfl, hver⟩))))⟩

/-- The rows of the bucket `bk` it found that `op` may remove or overwrite in place: null versions
(all rows, with the quirk), and what a delete addresses. -/
def May (q : Quirks) (op : Op) (bk : Bucket) (c : Row) : Prop :=
  c.vid = none ∨ q.appendLatestInPlace = true ∨
    ∃ b k vid im, op = .del b k vid im ∧ (vid = some c.vid ∨ (vid = none ∧ bk.ver = .off))

theorem RowEff.edited {q : Quirks} {s s' : State} {bk : Bucket} {k : String} {op : Op} {o : Out}
    (hb : RowsInv s.nextRow bk.rows) (e : RowEff q s bk k op s' o) : s' = s ∨ RowsEdited q s bk k (May q op bk) s' := by
  cases e with
  | write hn hr hp =>
    obtain ⟨X, nr, nv, rfl, hX, he⟩ := (putRow_eff (hr ▸ hb) hp).edited (A := May q op bk) fun _ h => .inl h
    exact .inr ⟨X, nr, nv, rfl, hX.trans hn, fun _ => hr ▸ he (hr ▸ hb)⟩
  | del b vid im =>
    refine (deleteOp_eff q s bk k vid im).edited fun c hc => ?_
    rcases hc with h | h | h
    · exact .inr (.inr ⟨b, k, vid, im, rfl, .inl h⟩)
    · exact .inl h
    · exact .inr (.inr ⟨b, k, vid, im, rfl, .inr h⟩)
  | @extend _ r _ p e sb hl hv =>
    obtain ⟨hr, hk, hlat⟩ := latestRow_some hl
    refine .inr ⟨replaceRow bk _, s.nextRow, s.nextVid, rfl, rfl, fun _ =>
      .tail (.refl) (.over hr hk ?_ rfl hk rfl rfl rfl rfl (.inl hlat))⟩
    cases hq : q.appendLatestInPlace with
    | true => exact .inr (.inl hq)
    | false => exact .inl (hv hq)
  | fresh p e hq hl =>
    exact .inr ⟨addRow bk _, _, s.nextVid, rfl, rfl, fun _ =>
      .tail (.refl) (.add rfl rfl rfl rfl (latestRow_eq_none.1 hl) (.inr ⟨rfl, rfl, rfl, .inr hq⟩))⟩

/-- `P nr nv c rows`, a property of the rows of a bucket that may speak of the row counter `nr`, the
version counter `nv` and the clock `c`, is kept by every edit. The operations edit rows in no other way
(`RowEff.edited`), so `Rowwise P` is then kept by every operation (`RowsClosed.ofEff`). -/
structure RowsClosed (q : Quirks) (P : Nat → Nat → Nat → List Row → Prop) : Prop where
  nil : ∀ nr nv c, P nr nv c []
  mono : ∀ {nr nr' nv nv' c c' rows}, nr ≤ nr' → nv ≤ nv' → c ≤ c' → P nr nv c rows → P nr' nv' c' rows
  edit : ∀ {now k A nr nv nr' nv' rows rows'}, Edit q now k A nr nv rows nr' nv' rows' → RowsInv nr rows → P nr nv now rows →
    P nr' nv' now rows'

def Rowwise (P : Nat → Nat → Nat → List Row → Prop) (s : State) : Prop :=
  ∀ bk ∈ s.buckets, P s.nextRow s.nextVid s.clock bk.rows

theorem RowsClosed.ofEdited {q : Quirks} {P : Nat → Nat → Nat → List Row → Prop} (C : RowsClosed q P) {s s' : State}
    {bk : Bucket} {k : String} {A : Row → Prop} (h : Rowwise P s) (hb : RowsInv s.nextRow bk.rows)
    (hp : P s.nextRow s.nextVid s.clock bk.rows) (e : RowsEdited q s bk k A s') : Rowwise P s' := by
  obtain ⟨X, nr, nv, rfl, _, he⟩ := e
  obtain ⟨_, hle, hX⟩ := (he hb).keeps (P := fun nr' nv' rows' => (s.nextRow ≤ nr' ∧ s.nextVid ≤ nv') ∧ P nr' nv' s.clock rows')
    (fun e hb h => ⟨⟨Nat.le_trans h.1.1 e.le.1, Nat.le_trans h.1.2 e.le.2⟩, C.edit e hb h.2⟩) hb
    ⟨⟨Nat.le_refl _, Nat.le_refl _⟩, hp⟩
  exact forall_setBucket (P := fun b => P nr nv s.clock b.rows) (fun b hb => C.mono hle.1 hle.2 (Nat.le_refl _) (h b hb)) hX

theorem RowsClosed.ofEff {q : Quirks} {P : Nat → Nat → Nat → List Row → Prop} (C : RowsClosed q P) {s s' : State} {op : Op}
    {o : Out} (hi : Inv s) (h : Rowwise P s) (e : Eff q s op s' o) : Rowwise P s' := by
  cases e with
  | same => exact h
  | mkb b => exact List.forall_mem_append.2 ⟨h, fun bk hbk => by rw [List.mem_singleton.1 hbk]; exact C.nil _ _ _⟩
  | rmb _ _ => exact fun bk hbk => h bk (List.mem_filter.1 hbk).1
  | aside _ u hfb _ hr => exact forall_setBucket (s := s) h (by rw [hr]; exact h _ (findBucket_mem hfb))
  | @resave _ _ _ _ _ _ c hr hfb hres =>
    obtain ⟨t, cl, sb, hf⟩ := hr.save c
    rw [hf]
    exact forall_setBucket h (C.edit (A := fun _ => True) (.save c.latest t cl sb (resolve_mem hres) rfl .inl)
      (hi _ (findBucket_mem hfb)) (h _ (findBucket_mem hfb)))
  | rows _ hfb e =>
    have hb := hi _ (findBucket_mem hfb)
    rcases e.edited hb with rfl | e
    · exact h
    · exact C.ofEdited h hb (h _ (findBucket_mem hfb)) e

theorem rowsInv_closed (q : Quirks) : RowsClosed q (fun nr _ _ rows => RowsInv nr rows) where
  nil := fun nr _ _ => RowsInv.nil nr
  mono := fun hle _ _ h => h.mono hle
  edit := fun e h _ => e.inv h

theorem inv_putRow (q : Quirks) (s : State) (bk : Bucket) (k : String) (n : NewObj) (inm : Bool) (im : IfMatch)
    (h : Inv s) (hb : RowsInv s.nextRow bk.rows) {s' : State} {vid : Option Nat}
    (hok : putRow q s bk k n inm im = .ok (s', vid)) : Inv s' :=
  (rowsInv_closed q).ofEdited h hb hb ((putRow_eff hb hok).edited (A := fun _ => True) fun _ _ => trivial)

theorem inv_ofPutRow {q : Quirks} {s : State} {bk : Bucket} {k : String} {n : NewObj} {inm : Bool} {im : IfMatch}
    {f : State × Option Nat → State × Out} (h : Inv s) (hb : RowsInv s.nextRow bk.rows)
    (hf : ∀ x, (f x).1 = x.1) :
    Inv (match putRow q s bk k n inm im with
         | .error e => (s, Out.err e)
         | .ok x => f x).1 := by
  cases hp : putRow q s bk k n inm im with
  | error e => exact h
  | ok x =>
    simp only []
    rw [hf]
    obtain ⟨s', vid⟩ := x
    exact inv_putRow q s bk k n inm im h hb hp

theorem step_inv (q : Quirks) (s0 : State) (op : Op) (h0 : Inv s0) : Inv (step q s0 op).1 :=
  (rowsInv_closed q).ofEff (inv_tick h0) (inv_tick h0) (stepT_eff q _ op)

theorem run_preserves_mem {P : State → Prop} (q : Quirks) : ∀ (ops : List Op),
    (∀ op ∈ ops, ∀ s, P s → P (step q s op).1) → ∀ (s : State), P s → P (run q s ops).1
  | [], _, _, h => h
  | op :: ops, hstep, s, h =>
    run_preserves_mem q ops (fun o ho => hstep o (List.mem_cons_of_mem _ ho)) _ (hstep op (List.mem_cons_self ..) s h)

theorem run_preserves {P : State → Prop} (q : Quirks) (hstep : ∀ s op, P s → P (step q s op).1) (ops : List Op) :
    ∀ (s : State), P s → P (run q s ops).1 :=
  run_preserves_mem q ops fun op _ s => hstep s op

theorem RowsClosed.step {q : Quirks} {P : Nat → Nat → Nat → List Row → Prop} (C : RowsClosed q P) {s : State} (hi : Inv s)
    (h : Rowwise P s) (op : Op) : Rowwise P (step q s op).1 :=
  C.ofEff (s := { s with clock := s.clock + 1 }) hi
    (fun bk hbk => C.mono (Nat.le_refl _) (Nat.le_refl _) (Nat.le_succ _) (h bk hbk)) (stepT_eff q _ op)

theorem RowsClosed.run {q : Quirks} {P : Nat → Nat → Nat → List Row → Prop} (C : RowsClosed q P) (ops : List Op) (s : State)
    (hi : Inv s) (h : Rowwise P s) : Inv (S3.run q s ops).1 ∧ Rowwise P (S3.run q s ops).1 :=
  run_preserves (P := fun s => Inv s ∧ Rowwise P s) q (fun s op h => ⟨step_inv q s op h.1, C.step h.1 h.2 op⟩) ops s ⟨hi, h⟩

theorem inv_empty : Inv {} := fun _ h => nomatch h

theorem RowsClosed.reachable {q : Quirks} {P : Nat → Nat → Nat → List Row → Prop} (C : RowsClosed q P) (ops : List Op) :
    Inv (S3.run q {} ops).1 ∧ Rowwise P (S3.run q {} ops).1 :=
  C.run ops {} inv_empty (fun _ h => nomatch h)

theorem run_inv (q : Quirks) : ∀ (ops : List Op) (s : State), Inv s → Inv (run q s ops).1 :=
  run_preserves q (step_inv q)

end Pithos.S3
