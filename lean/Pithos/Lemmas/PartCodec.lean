/-
Lemmas about the byte-level codecs of `Pithos.Model.PartCodec` (helpers for C15/C16/C17).
-/
import Pithos.Model.PartCodec

namespace Pithos.Codec

theorem concat_chunksF {f n : Nat} {bs : Bytes} (hn : 0 < n) (hf : bs.length ≤ f) :
    concat (chunksF f n bs) = bs := by
  fun_induction chunksF f n bs with
  | case1 => exact (List.eq_nil_of_length_eq_zero (Nat.le_zero.1 hf)).symm
  | case2 f n bs hb => exact (List.isEmpty_iff.1 hb).symm
  | case3 f n bs hb ih =>
    have hne : bs.length ≠ 0 := mt List.isEmpty_iff_length_eq_zero.2 hb
    have := ih hn (by rw [List.length_drop]; omega)
    simp only [concat, List.flatten_cons] at this ⊢
    rw [this, List.take_append_drop]

/-- for a positive row size `chunks` is the fuelled loop; the lemmas about it are inductions over the fuel -/
theorem chunks_eq {n : Nat} (hn : 0 < n) (bs : Bytes) : chunks n bs = chunksF bs.length n bs :=
  if_neg (Nat.ne_of_gt hn)

theorem concat_chunks (n : Nat) (bs : Bytes) : concat (chunks n bs) = bs := by
  by_cases hn : n = 0
  · unfold chunks
    simp only [hn, if_true]
    by_cases hb : bs.isEmpty
    · have : bs = [] := by simpa using hb
      subst this; simp [concat]
    · simp [hb, concat]
  · rw [chunks_eq (by omega)]
    exact concat_chunksF (by omega) (Nat.le_refl _)

theorem chunks_nil (n : Nat) : chunks n [] = [] := by
  unfold chunks; by_cases hn : n = 0 <;> simp [hn, chunksF]

theorem chunks_eq_nil_iff (n : Nat) (bs : Bytes) : chunks n bs = [] ↔ bs = [] := by
  constructor
  · intro h
    have := concat_chunks n bs
    rw [h] at this
    simpa [concat] using this.symm
  · intro h; subst h; exact chunks_nil n

theorem chunksF_mem {f n : Nat} {bs : Bytes} (hn : 0 < n) {x : Bytes} (hx : x ∈ chunksF f n bs) :
    x ≠ [] ∧ x.length ≤ n := by
  fun_induction chunksF f n bs with
  | case1 => cases hx
  | case2 => cases hx
  | case3 f n bs hb ih =>
    rcases List.mem_cons.1 hx with rfl | hx
    · refine ⟨fun h => ?_, by rw [List.length_take]; omega⟩
      rcases List.take_eq_nil_iff.1 h with h0 | h0
      · omega
      · exact hb (List.isEmpty_iff.2 h0)
    · exact ih hn hx

theorem chunksF_length_le (f n : Nat) (bs : Bytes) (hn : 0 < n) : (chunksF f n bs).length ≤ bs.length := by
  fun_induction chunksF f n bs with
  | case1 => exact Nat.zero_le _
  | case2 => exact Nat.zero_le _
  | case3 f n bs hb ih =>
    have hne : bs.length ≠ 0 := mt List.isEmpty_iff_length_eq_zero.2 hb
    have := ih hn
    rw [List.length_drop] at this
    rw [List.length_cons]
    omega

theorem chunks_mem (n : Nat) (bs : Bytes) (hn : 0 < n) (x : Bytes) (hx : x ∈ chunks n bs) : x ≠ [] ∧ x.length ≤ n :=
  chunksF_mem hn (chunks_eq hn bs ▸ hx)

theorem chunks_length_le (n : Nat) (bs : Bytes) (hn : 0 < n) : (chunks n bs).length ≤ bs.length := by
  rw [chunks_eq hn]
  exact chunksF_length_le _ n bs hn

theorem chunksF_full (f n : Nat) (bs : Bytes) (hn : 0 < n) :
    ∀ i, i + 1 < (chunksF f n bs).length → ((chunksF f n bs).getD i []).length = n := by
  fun_induction chunksF f n bs with
  | case1 => intro i hi; cases hi
  | case2 => intro i hi; cases hi
  | case3 f n bs hb ih =>
    intro i hi
    rw [List.length_cons] at hi
    cases i with
    | zero =>
      -- a second row exists, so more than n bytes were there
      have := chunksF_length_le f n (bs.drop n) hn
      rw [List.getD_cons_zero, List.length_take]
      rw [List.length_drop] at this
      omega
    | succ i => exact ih hn i (by omega)

theorem chunks_full (n : Nat) (bs : Bytes) (hn : 0 < n) :
    ∀ i, i + 1 < (chunks n bs).length → ((chunks n bs).getD i []).length = n := by
  rw [chunks_eq hn]
  exact chunksF_full _ n bs hn

theorem beN_length (w v : Nat) : (beN w v).length = w := by
  induction w with
  | zero => rfl
  | succ w ih => simp [beN, ih]

theorem fromBE_go (bs : Bytes) (a : Nat) :
    bs.foldl (fun acc b => acc * 256 + b.toNat) a = a * 256 ^ bs.length + fromBE bs := by
  induction bs generalizing a with
  | nil => simp [fromBE]
  | cons x t ih =>
    simp only [List.foldl_cons, List.length_cons, fromBE]
    rw [ih, ih (0 * 256 + x.toNat)]
    simp [Nat.pow_succ, Nat.add_mul, Nat.mul_assoc, Nat.add_assoc]
    rw [Nat.mul_comm 256]

theorem fromBE_cons (x : UInt8) (t : Bytes) : fromBE (x :: t) = x.toNat * 256 ^ t.length + fromBE t := by
  simp only [fromBE, List.foldl_cons]
  rw [fromBE_go]
  simp [fromBE]

theorem fromBE_beN (w v : Nat) : fromBE (beN w v) = v % 256 ^ w := by
  induction w with
  | zero => simp [beN, fromBE, Nat.mod_one]
  | succ w ih =>
    simp only [beN]
    rw [fromBE_cons, ih, beN_length]
    have h256 : (UInt8.ofNat (v / 256 ^ w % 256)).toNat = v / 256 ^ w % 256 := by
      simp [UInt8.toNat_ofNat']
    rw [h256]
    rw [Nat.pow_succ, Nat.mod_mul, Nat.mul_comm]
    omega

theorem fromBE_beN_of_lt (w v : Nat) (h : v < 256 ^ w) : fromBE (beN w v) = v := by
  rw [fromBE_beN, Nat.mod_eq_of_lt h]

theorem fromBE_lt (bs : Bytes) : fromBE bs < 256 ^ bs.length := by
  induction bs with
  | nil => simp [fromBE]
  | cons x t ih =>
    rw [fromBE_cons, List.length_cons, Nat.pow_succ]
    have hx : x.toNat < 256 := x.toNat_lt
    have : x.toNat * 256 ^ t.length + fromBE t < (x.toNat + 1) * 256 ^ t.length := by
      rw [Nat.add_mul, Nat.one_mul]; omega
    have h2 : (x.toNat + 1) * 256 ^ t.length ≤ 256 * 256 ^ t.length := Nat.mul_le_mul_right _ (by omega)
    rw [Nat.mul_comm (256 ^ t.length) 256]
    omega

theorem beN_add_mul (w a r : Nat) : beN w (a * 256 ^ w + r) = beN w r := by
  induction w generalizing a r with
  | zero => rfl
  | succ w ih =>
    simp only [beN]
    have e : a * 256 ^ (w + 1) = (a * 256) * 256 ^ w := by
      rw [Nat.pow_succ, Nat.mul_comm (256 ^ w) 256, ← Nat.mul_assoc]
    have h1 : (a * 256 ^ (w + 1) + r) / 256 ^ w % 256 = r / 256 ^ w % 256 := by
      rw [e, Nat.add_comm, Nat.add_mul_div_right _ _ (Nat.pow_pos (by decide)), Nat.add_mul_mod_self_right]
    have h2 : beN w (a * 256 ^ (w + 1) + r) = beN w r := by
      rw [e]; exact ih (a * 256) r
    rw [h1, h2]

theorem beN_fromBE (bs : Bytes) : beN bs.length (fromBE bs) = bs := by
  induction bs with
  | nil => rfl
  | cons x t ih =>
    rw [fromBE_cons, List.length_cons]
    simp only [beN]
    have hlt := fromBE_lt t
    have h1 : (x.toNat * 256 ^ t.length + fromBE t) / 256 ^ t.length % 256 = x.toNat := by
      rw [Nat.add_comm, Nat.add_mul_div_right _ _ (Nat.pow_pos (by decide)), Nat.div_eq_of_lt hlt, Nat.zero_add]
      exact Nat.mod_eq_of_lt x.toNat_lt
    rw [h1, beN_add_mul, ih]
    simp

theorem fromBE_be16 (v : Nat) (h : v < 65536) : fromBE (be16 v) = v := fromBE_beN_of_lt 2 v h
theorem fromBE_be32 (v : Nat) (h : v < 4294967296) : fromBE (be32 v) = v := fromBE_beN_of_lt 4 v h
theorem fromBE_be64 (v : Nat) : fromBE (be64 v) = v % 18446744073709551616 := fromBE_beN 8 v

theorem headerPrefix_length (a : Alg) : (headerPrefix a).length = 24 := by
  simp [headerPrefix, headerMagic]

theorem newHeader_length (crc : Bytes → Nat) (a : Alg) : (newHeader crc a).length = headerSize := by
  simp [newHeader, headerPrefix_length, be64, beN_length, headerSize]

theorem newHeader_take24 (crc : Bytes → Nat) (a : Alg) : (newHeader crc a).take 24 = headerPrefix a := by
  simp [newHeader, headerPrefix_length]

theorem newHeader_drop24 (crc : Bytes → Nat) (a : Alg) :
    (newHeader crc a).drop 24 = be64 (crc (headerPrefix a)) := by
  have h := headerPrefix_length a
  simp [newHeader, h]

theorem Alg.ofId_id (a : Alg) : Alg.ofId a.id = some a := by
  cases a <;> decide

theorem parseHeader_prefix (crc : Bytes → Nat) (a : Alg) (t : Bytes) (ht : t.length = 8) :
    parseHeader crc (headerPrefix a ++ t) = if be64 (crc (headerPrefix a)) ≠ t then none else some a := by
  have h16 : (headerPrefix a ++ t).take 16 = headerMagic := rfl
  have g16 : (headerPrefix a ++ t).getD 16 0 = headerVersion := rfl
  have g17 : (headerPrefix a ++ t).getD 17 0 = a.id := rfl
  have g18 : (headerPrefix a ++ t).getD 18 0 = 0 := rfl
  have h24 : (headerPrefix a ++ t).take headerPrefixSize = headerPrefix a := rfl
  have hd : (headerPrefix a ++ t).drop headerPrefixSize = t := rfl
  have hres : (headerPrefix a).drop 19 = List.replicate 5 0 := rfl
  rw [parseHeader, h16, g16, g17, g18, h24, hd, hres, Alg.ofId_id, List.length_append, headerPrefix_length, ht,
    if_neg (fun h => h rfl), if_neg (fun h => h rfl), if_neg (fun h => h rfl), if_neg (fun h => h rfl),
    if_neg (fun h => h rfl)]

theorem parseHeader_newHeader (crc : Bytes → Nat) (a : Alg) :
    parseHeader crc (newHeader crc a) = some a := by
  rw [newHeader, parseHeader_prefix crc a (be64 (crc (headerPrefix a))) (beN_length 8 _), if_neg (fun h => h rfl)]

theorem stored_begins_with_header (crc : Bytes → Nat) (a : Alg) (body : Bytes) :
    (newHeader crc a ++ body).length ≥ headerSize ∧
    parseHeader crc ((newHeader crc a ++ body).take headerSize) = some a ∧
    (newHeader crc a ++ body).drop headerSize = body := by
  have hlen := newHeader_length crc a
  refine ⟨by simp [hlen], ?_, ?_⟩
  · rw [List.take_append_of_le_length (by omega)]
    rw [← hlen, List.take_length]
    exact parseHeader_newHeader crc a
  · rw [← hlen]; simp

theorem padTo_length (n : Nat) (bs : Bytes) : (padTo n bs).length = max n bs.length := by
  simp [padTo]; omega

theorem padTo_take_append (x : Bytes) (K L : Nat) :
    padTo K (x.take K) ++ padTo L ((x.drop K).take L) = padTo (K + L) (x.take (K + L)) := by
  by_cases h : K ≤ x.length
  · -- no padding in the first part
    have h1 : (x.take K).length = K := by simp [List.length_take]; omega
    have e2 : x.take (K + L) = x.take K ++ (x.drop K).take L := by rw [List.take_add]
    rw [e2]
    simp only [padTo, List.length_append, h1, List.append_assoc, Nat.sub_self, List.replicate_zero,
      List.nil_append]
    generalize ((x.drop K).take L).length = m
    rw [show K + L - (K + m) = L - m by omega]
  · -- the content ended before K: the second part is all padding
    have d0 : x.drop K = [] := by simp [List.drop_eq_nil_iff]; omega
    have t1 : x.take K = x := List.take_of_length_le (by omega)
    have t2 : x.take (K + L) = x := List.take_of_length_le (by omega)
    rw [d0, t1, t2]
    simp only [padTo, List.take_nil, List.length_nil, List.nil_append, Nat.sub_zero, List.append_assoc,
      List.replicate_append_replicate]
    rw [show K - x.length + L = K + L - x.length by omega]

theorem flatten_stripe_prefix (L : Nat) (x : Bytes) (k : Nat) :
    ((List.range k).map fun i => padTo L ((x.drop (i * L)).take L)).flatten
      = padTo (k * L) (x.take (k * L)) := by
  induction k with
  | zero => simp [padTo]
  | succ k ih =>
    rw [List.range_succ, List.map_append, List.flatten_append, ih]
    simp only [List.map_cons, List.map_nil, List.flatten_cons, List.flatten_nil, List.append_nil]
    have hk : (k + 1) * L = k * L + L := by rw [Nat.add_mul, Nat.one_mul]
    rw [hk]
    exact padTo_take_append x (k * L) L

theorem le_mul_shardLen {d : Nat} (n : Nat) (hd : 0 < d) : n ≤ d * shardLen d n := by
  unfold shardLen
  have := Nat.div_add_mod (n + d - 1) d
  have hm := Nat.mod_lt (n + d - 1) hd
  omega

theorem unstripe_stripe {d : Nat} (x : Bytes) (hd : 0 < d) : unstripe x.length (stripe d x) = x := by
  unfold unstripe stripe
  simp only
  rw [flatten_stripe_prefix]
  have hle := le_mul_shardLen x.length hd
  have t : x.take (d * shardLen d x.length) = x := List.take_of_length_le hle
  rw [t]
  simp only [padTo, List.length_append, List.length_replicate]
  split
  · simp
  · have : d * shardLen d x.length - x.length = 0 := by omega
    simp [this]

theorem stripe_length (d : Nat) (x : Bytes) : (stripe d x).length = d := by
  simp [stripe]

theorem stripe_shard_length (d : Nat) (x : Bytes) (s : Bytes) (hs : s ∈ stripe d x) :
    s.length = shardLen d x.length := by
  simp only [stripe, List.mem_map, List.mem_range] at hs
  obtain ⟨i, _, rfl⟩ := hs
  rw [padTo_length]
  simp [List.length_take]
  omega

theorem shardLen_pos {d n : Nat} (hd : 0 < d) (hn : 0 < n) : 0 < shardLen d n := by
  unfold shardLen
  exact Nat.div_pos (by omega) hd

end Pithos.Codec
