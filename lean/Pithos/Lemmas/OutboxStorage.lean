/-
Helper lemmas for C21 (model: Pithos.Model.OutboxStorage): flushing, waiting, and commuting a
written-through operation past the independent rest of the table. `run_sound` is the simulation
(the replayed table `pending` follows the sequential state) that both theorems of C21 are read off.
-/
import Pithos.Model.OutboxStorage

namespace Pithos.OutboxStorage

variable {σ Op Out : Type}

/-- What the theorems assume of the inner storage semantics and the wait scopes. `R` is the
equivalence "the two storages answer every future operation alike". -/
structure Sound (I : Inner σ Op Out) (P : Policy σ Op) (R : σ → σ → Prop) : Prop where
  refl : ∀ s, R s s
  symm : ∀ {s t}, R s t → R t s
  trans : ∀ {s t u}, R s t → R t u → R s u
  /-- equivalent storages answer alike and stay equivalent -/
  congr : ∀ {s t} (op : Op), R s t → (I.step s op).2 = (I.step t op).2 ∧ R (I.step s op).1 (I.step t op).1
  /-- an operation that can be written through commutes with every queued entry outside its wait scopes -/
  commute : ∀ (t : σ) (a e : Op), (∃ u, P.queues u a = false) → Indep I P a e →
    (I.step (I.step t e).1 a).2 = (I.step t a).2 ∧
    R (I.step (I.step t e).1 a).1 (I.step (I.step t a).1 e).1

theorem seqState_cons (I : Inner σ Op Out) (t : σ) (e : Op) (q : List Op) :
    seqState I t (e :: q) = seqState I (I.step t e).1 q := rfl

theorem seqState_append (I : Inner σ Op Out) (t : σ) (q r : List Op) :
    seqState I t (q ++ r) = seqState I (seqState I t q) r := by
  simp [seqState, List.foldl_append]

theorem seqState_congr {I : Inner σ Op Out} {P : Policy σ Op} {R : σ → σ → Prop} (h : Sound I P R)
    (q : List Op) {s t : σ} (hr : R s t) : R (seqState I s q) (seqState I t q) := by
  induction q generalizing s t with
  | nil => exact hr
  | cons e q ih => exact ih (h.congr e hr).2

theorem flushN_eq (I : Inner σ Op Out) (n : Nat) (s : St σ Op) :
    flushN I n s = { inner := seqState I s.inner (s.queue.take n), queue := s.queue.drop n } := by
  induction n generalizing s with
  | zero => simp [flushN, seqState]
  | succ n ih =>
    cases hq : s.queue with
    | nil => simp [flushN, hq, seqState]; cases s; simp_all
    | cons e q => simp [flushN, hq, ih, seqState]

theorem pending_flushN (I : Inner σ Op Out) (n : Nat) (s : St σ Op) :
    pending I (flushN I n s) = pending I s := by
  rw [flushN_eq]
  simp only [pending]
  rw [← seqState_append, List.take_append_drop]

theorem needFor_drop (I : Inner σ Op Out) (sc : Scope) (q : List Op) :
    ∀ e ∈ q.drop (needFor I sc q), sc.mem (I.addr e) = false := by
  induction q with
  | nil => intro e he; simp at he
  | cons a q ih =>
    simp only [needFor]
    split
    · exact ih
    · -- nothing of `q` is in scope, so it is a matter of `a` alone
      have hz : needFor I sc q = 0 := by omega
      rw [hz, List.drop_zero] at ih
      split
      · exact ih
      next ha => exact List.forall_mem_cons.2 ⟨by simpa using ha, ih⟩

theorem waitScope_queue (I : Inner σ Op Out) (s : St σ Op) (sc : Scope) :
    (waitScope I s sc).queue = s.queue.drop (needFor I sc s.queue) := by
  simp [waitScope, flushN_eq]

theorem wait_all (I : Inner σ Op Out) (scs : List Scope) (s : St σ Op) :
    let s1 := scs.foldl (waitScope I) s
    pending I s1 = pending I s ∧ (∃ m, s1.queue = s.queue.drop m) ∧
    ∀ e ∈ s1.queue, ∀ sc ∈ scs, sc.mem (I.addr e) = false := by
  induction scs generalizing s with
  | nil => exact ⟨rfl, ⟨0, by simp⟩, fun e _ sc hsc => by cases hsc⟩
  | cons sc scs ih =>
    obtain ⟨hp, ⟨m, hm⟩, hno⟩ := ih (waitScope I s sc)
    rw [waitScope_queue, List.drop_drop] at hm
    refine ⟨hp.trans (pending_flushN I _ s), ⟨_, hm⟩, fun e he => List.forall_mem_cons.2 ⟨?_, hno e he⟩⟩
    -- what later waits leave was already left by the wait for `sc`
    rw [List.foldl_cons, hm, ← List.drop_drop] at he
    exact needFor_drop I sc s.queue e (List.mem_of_mem_drop he)

theorem commute_past {I : Inner σ Op Out} {P : Policy σ Op} {R : σ → σ → Prop} (h : Sound I P R)
    (a : Op) (ha : ∃ u, P.queues u a = false) (q : List Op) (hq : ∀ e ∈ q, Indep I P a e) (t : σ) :
    (I.step (seqState I t q) a).2 = (I.step t a).2 ∧
    R (I.step (seqState I t q) a).1 (seqState I (I.step t a).1 q) := by
  induction q generalizing t with
  | nil => exact ⟨rfl, h.refl _⟩
  | cons e q ih =>
    have he := hq e List.mem_cons_self
    have hq' : ∀ x ∈ q, Indep I P a x := fun x hx => hq x (List.mem_cons_of_mem _ hx)
    obtain ⟨ho, hr⟩ := ih hq' (I.step t e).1
    obtain ⟨co, cr⟩ := h.commute t a e ha he
    refine ⟨?_, ?_⟩
    · rw [seqState_cons, ho, co]
    · rw [seqState_cons, seqState_cons]
      exact h.trans hr (seqState_congr h q cr)

theorem drain_eq_pending (I : Inner σ Op Out) (s : St σ Op) : drain I s = pending I s := by
  simp [drain, flushN_eq, pending]

theorem accept_accepted (I : Inner σ Op Out) (P : Policy σ Op) (s : St σ Op) (op : Op) :
    (accept I P s op).2.2.2 = !P.rejects op := by
  unfold accept
  cases P.queues s.inner op <;> cases P.rejects op <;> rfl

theorem rejected_unchanged (I : Inner σ Op Out) (P : Policy σ Op) (s : St σ Op) (op : Op)
    (hr : P.rejects op = true) :
    (accept I P s op).2.2.2 = false ∧ (accept I P s op).2.1 = I.rejected op ∧
    pending I (accept I P s op).1 = pending I s ∧
    (∃ m, (accept I P s op).1.queue = s.queue.drop m) ∧
    (P.queues s.inner op = true → (accept I P s op).1 = s) := by
  by_cases hq : P.queues s.inner op = true
  · simp [accept, hq, hr]
    exact ⟨0, by simp⟩
  · have hq' : P.queues s.inner op = false := by simpa using hq
    obtain ⟨hp, hm, _⟩ := wait_all I (P.scopes op) s
    simp [accept, hq', hr]
    exact ⟨hp, hm⟩

/-- Queued, the entry is replayed last; written through, it commutes past what the wait left in
the table. -/
theorem accept_sim {I : Inner σ Op Out} {P : Policy σ Op} {R : σ → σ → Prop} (h : Sound I P R)
    {s : St σ Op} {t : σ} (hinv : R (pending I s) t) (op : Op) (hrf : P.rejects op = false) :
    ((accept I P s op).2.2.1 = true → (accept I P s op).2.1 = (I.step t op).2) ∧
    R (pending I (accept I P s op).1) (I.step t op).1 := by
  cases hq : P.queues s.inner op with
  | true =>
    simp only [accept, hq, hrf, if_true, Bool.false_eq_true, if_false, false_implies, true_and,
      pending, seqState_append]
    exact (h.congr op hinv).2
  | false =>
    obtain ⟨hp, _, hno⟩ := wait_all I (P.scopes op) s
    simp only [accept, hq, hrf, Bool.false_eq_true, if_false, forall_const]
    generalize (P.scopes op).foldl (waitScope I) s = s1 at hp hno
    obtain ⟨co, cr⟩ := commute_past h op ⟨s.inner, hq⟩ s1.queue hno s1.inner
    have hinv1 : R (pending I s1) t := hp ▸ hinv
    exact ⟨co ▸ (h.congr op hinv1).1, h.trans (h.symm cr) (h.congr op hinv1).2⟩

theorem run_sound {I : Inner σ Op Out} {P : Policy σ Op} {R : σ → σ → Prop} (h : Sound I P R)
    (evs : List (Event Op)) (s : St σ Op) (t : σ) (hinv : R (pending I s) t) :
    Agree I t (run I P s evs).2 ∧
    R (pending I (run I P s evs).1) (seqState I t (acceptedOps (run I P s evs).2)) := by
  induction evs generalizing s t with
  | nil => exact ⟨trivial, hinv⟩
  | cons ev evs ih =>
    cases ev with
    | flush =>
      simp only [run]
      exact ih _ t (by rw [pending_flushN]; exact hinv)
    | accept op =>
      simp only [run, Agree, acceptedOps, List.filter_cons, accept_accepted]
      cases hrj : P.rejects op with
      | true =>
        -- nothing happens to the replayed table, the sequential state does not move
        obtain ⟨_, hout, hp, _, _⟩ := rejected_unchanged I P s op hrj
        obtain ⟨ha, hr⟩ := ih (accept I P s op).1 t (hp ▸ hinv)
        exact ⟨by simpa using ⟨hout, ha⟩, by simpa [acceptedOps] using hr⟩
      | false =>
        obtain ⟨hout, hinv'⟩ := accept_sim h hinv op hrj
        obtain ⟨ha, hr⟩ := ih _ _ hinv'
        exact ⟨by simpa using ⟨hout, ha⟩, by simpa [acceptedOps, seqState_cons] using hr⟩

end Pithos.OutboxStorage
