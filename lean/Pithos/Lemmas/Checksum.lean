/-
Helper lemmas for C35 / C04 (model: `Pithos.Model.Checksum`). Core Lean only.

Chain: `shift1` is xor-linear → `raw` is affine in the register (`raw_xor`) → `crc_append`;
a matrix that *represents* a linear map (`Rep`) is applied correctly by `gf2MatrixTimes`
(`times_rep`), squaring represents the composition (`square_rep`), the loop of `combine` applies
`(g ∘ g)^len2` (`combineLoop_spec`), hence `combine_eq`. After that: the exported `CombineCrc*` on
the big-endian `Sum` bytes, and the block dispatcher of `parallelHashWriter` (`Phw`).
-/
import Pithos.Model.Checksum

namespace Pithos.Checksum

theorem iter_add {α : Type} (f : α → α) (a b : Nat) (x : α) :
    iter f (a + b) x = iter f b (iter f a x) := by
  induction a generalizing x with
  | zero => simp [iter]
  | succ a ih => rw [Nat.succ_add]; simp [iter, ih]

theorem iter_succ' {α : Type} (f : α → α) (a : Nat) (x : α) : iter f (a + 1) x = f (iter f a x) := by
  rw [iter_add]; rfl

theorem iter_iter {α : Type} (f : α → α) (a b : Nat) (x : α) :
    iter (iter f a) b x = iter f (a * b) x := by
  induction b generalizing x with
  | zero => simp [iter]
  | succ b ih =>
    show iter (iter f a) b (iter f a x) = _
    rw [ih, Nat.mul_succ, Nat.add_comm, iter_add]

/-- GF(2)-linearity (xor-homomorphism) of a map on registers. -/
def Lin {n : Nat} (f : BitVec n → BitVec n) : Prop := ∀ x y, f (x ^^^ y) = f x ^^^ f y

theorem Lin.zero {n : Nat} {f : BitVec n → BitVec n} (h : Lin f) : f 0#n = 0#n := by
  have h1 := h 0#n 0#n
  rw [BitVec.xor_self] at h1
  have h2 : f 0#n ^^^ f 0#n = 0#n := BitVec.xor_self
  rw [← h1] at h2; exact h2

theorem shift1_lin {n : Nat} (P : BitVec n) : Lin (shift1 P) := by
  intro x y
  simp only [shift1, BitVec.getLsbD_xor, BitVec.ushiftRight_xor_distrib]
  generalize x >>> 1 = a
  generalize y >>> 1 = b
  cases x.getLsbD 0 <;> cases y.getLsbD 0 <;> simp
  · ac_rfl
  · ac_rfl
  · have h : a ^^^ P ^^^ (b ^^^ P) = a ^^^ b ^^^ (P ^^^ P) := by ac_rfl
    rw [h, BitVec.xor_self, BitVec.xor_zero]

theorem iter_lin {n : Nat} {f : BitVec n → BitVec n} (h : Lin f) (k : Nat) : Lin (iter f k) := by
  induction k with
  | zero => intro x y; rfl
  | succ k ih => intro x y; simp only [iter]; rw [h, ih]

theorem comp_lin {n : Nat} {f g : BitVec n → BitVec n} (hf : Lin f) (hg : Lin g) :
    Lin (fun x => f (g x)) := by
  intro x y; simp only []; rw [hg, hf]

/-- `k` zero bits through the register. -/
abbrev zeros {n : Nat} (P : BitVec n) (k : Nat) : BitVec n → BitVec n := iter (shift1 P) k

theorem stepByte_xor {n : Nat} (P s t : BitVec n) (b : UInt8) :
    stepByte P (s ^^^ t) b = stepByte P s b ^^^ zeros P 8 t := by
  unfold stepByte
  have h : s ^^^ t ^^^ BitVec.ofNat n b.toNat = (s ^^^ BitVec.ofNat n b.toNat) ^^^ t := by ac_rfl
  rw [h, iter_lin (shift1_lin P) 8]

theorem raw_xor {n : Nat} (P s t : BitVec n) (bs : List UInt8) :
    raw P (s ^^^ t) bs = raw P s bs ^^^ zeros P (8 * bs.length) t := by
  induction bs generalizing s t with
  | nil => simp [raw, iter]
  | cons b bs ih =>
    show raw P (stepByte P (s ^^^ t) b) bs = raw P (stepByte P s b) bs ^^^ _
    rw [stepByte_xor, ih]
    have : 8 * (b :: bs).length = 8 + 8 * bs.length := by simp [Nat.mul_succ, Nat.add_comm]
    rw [this]; exact congrArg _ (iter_add _ 8 _ t).symm

theorem raw_append {n : Nat} (P s : BitVec n) (a b : List UInt8) :
    raw P s (a ++ b) = raw P (raw P s a) b := by
  simp [raw, List.foldl_append]

theorem crc_append {n : Nat} (p : Params n) (a b : List UInt8) :
    crc p (a ++ b) = zeros p.poly (8 * b.length) (crc p a ^^^ (p.init ^^^ p.xorOut)) ^^^ crc p b := by
  unfold crc
  rw [raw_append]
  have h : raw p.poly p.init a = p.init ^^^ (raw p.poly p.init a ^^^ p.xorOut ^^^ (p.init ^^^ p.xorOut)) := by
    have e : p.init ^^^ (raw p.poly p.init a ^^^ p.xorOut ^^^ (p.init ^^^ p.xorOut))
        = raw p.poly p.init a ^^^ ((p.init ^^^ p.init) ^^^ (p.xorOut ^^^ p.xorOut)) := by ac_rfl
    rw [e, BitVec.xor_self, BitVec.xor_self, BitVec.xor_zero, BitVec.xor_zero]
  conv => lhs; rw [h, raw_xor]
  ac_rfl

/-- `mat` is the matrix of `f`: it has `n` rows and row `i` is the image of the `i`-th unit vector. -/
def Rep {n : Nat} (mat : List (BitVec n)) (f : BitVec n → BitVec n) : Prop :=
  mat.length = n ∧ ∀ (i : Nat) (h : i < mat.length), mat[i] = f (BitVec.twoPow n i)

theorem low_bit_split {n : Nat} (v : BitVec n) :
    v = (if v.getLsbD 0 then BitVec.twoPow n 0 else 0#n) ^^^ (v >>> 1) <<< 1 := by
  apply BitVec.eq_of_getLsbD_eq
  intro i hi
  rw [BitVec.getLsbD_xor, BitVec.getLsbD_shiftLeft, BitVec.getLsbD_ushiftRight]
  cases i with
  | zero => cases v.getLsbD 0 <;> simp [hi]
  | succ j => cases v.getLsbD 0 <;> simp [hi, Nat.add_comm]

/-- Peel the low bit: the remaining rows are the matrix of `x ↦ g (x <<< 1)`, applied to
`vec >>> 1`. -/
theorem timesAux_lin {n : Nat} (rows : List (BitVec n)) :
    ∀ (g : BitVec n → BitVec n) (vec s : BitVec n), Lin g → vec >>> rows.length = 0#n →
      (∀ (j : Nat) (h : j < rows.length), rows[j] = g (BitVec.twoPow n j)) →
      gf2MatrixTimesAux rows vec s = s ^^^ g vec := by
  induction rows with
  | nil =>
    intro g vec s hg h0 _
    rw [show vec = 0#n from h0, hg.zero, BitVec.xor_zero]; rfl
  | cons row rest ih =>
    intro g vec s hg h0 hrow
    simp only [gf2MatrixTimesAux]
    split
    · next hv => rw [hv, hg.zero, BitVec.xor_zero]
    · have hg' : Lin fun x => g (x <<< 1) := fun x y => by
        simp only [BitVec.shiftLeft_xor_distrib, hg _ _]
      rw [ih (fun x => g (x <<< 1)) _ _ hg' (by rw [← BitVec.shiftRight_add, Nat.add_comm]; exact h0)
        (fun j h => by
          rw [BitVec.twoPow_eq, ← BitVec.shiftLeft_add, ← BitVec.twoPow_eq]
          exact hrow (j + 1) (Nat.succ_lt_succ h))]
      conv => rhs; rw [low_bit_split vec, hg]
      rw [show row = g (BitVec.twoPow n 0) from hrow 0 (Nat.zero_lt_succ _)]
      cases vec.getLsbD 0 <;> simp [hg.zero, BitVec.xor_assoc]

theorem times_rep {n : Nat} {f : BitVec n → BitVec n} {mat : List (BitVec n)} (hf : Lin f)
    (h : Rep mat f) (v : BitVec n) : gf2MatrixTimes mat v = f v := by
  unfold gf2MatrixTimes
  rw [timesAux_lin mat f v _ hf (BitVec.ushiftRight_eq_zero (Nat.le_of_eq h.1.symm)) h.2, BitVec.zero_xor]

theorem square_rep {n : Nat} {f : BitVec n → BitVec n} {mat : List (BitVec n)} (hf : Lin f)
    (h : Rep mat f) : Rep (gf2MatrixSquare mat) (fun x => f (f x)) := by
  refine ⟨by simpa [gf2MatrixSquare] using h.1, ?_⟩
  intro i hi
  have hi' : i < mat.length := by simpa [gf2MatrixSquare] using hi
  simp only [gf2MatrixSquare, List.getElem_map]
  rw [times_rep hf h, h.2 i hi']

theorem mkRows_length {n : Nat} (k : Nat) (r : BitVec n) : (mkRows k r).length = k := by
  induction k generalizing r with
  | zero => rfl
  | succ k ih => simp [mkRows, ih]

theorem mkRows_getElem {n : Nat} (k : Nat) (r : BitVec n) (j : Nat) (h : j < (mkRows k r).length) :
    (mkRows k r)[j] = r <<< j := by
  induction k generalizing r j with
  | zero => simp [mkRows] at h
  | succ k ih =>
    cases j with
    | zero => simp [mkRows]
    | succ j =>
      simp only [mkRows, List.getElem_cons_succ]
      rw [ih]
      rw [← BitVec.shiftLeft_add, Nat.add_comm]

theorem twoPow_succ_ushiftRight {n : Nat} (j : Nat) (h : j + 1 < n) :
    BitVec.twoPow n (j + 1) >>> 1 = BitVec.twoPow n j := by
  apply BitVec.eq_of_getLsbD_eq
  intro i hi
  rw [BitVec.getLsbD_ushiftRight, BitVec.getLsbD_twoPow, BitVec.getLsbD_twoPow]
  have h1 : j < n := by omega
  by_cases e : j = i
  · subst e; simp [h, h1, Nat.add_comm]
  · have e' : ¬ j + 1 = 1 + i := by omega
    simp [e, e']

/-- The matrix `combine` starts from is the matrix of one zero bit. -/
theorem odd0_rep {n : Nat} (hn : 0 < n) (P : BitVec n) :
    Rep (P :: mkRows (n - 1) 1#n) (shift1 P) := by
  refine ⟨by simp [mkRows_length]; omega, ?_⟩
  intro i hi
  cases i with
  | zero =>
    have h0 : (BitVec.twoPow n 0).getLsbD 0 = true := by simp [hn]
    have h1 : BitVec.twoPow n 0 >>> 1 = 0#n := by
      apply BitVec.eq_of_getLsbD_eq
      intro i _
      simp [BitVec.getLsbD_ushiftRight, BitVec.getLsbD_twoPow]
      omega
    simp [shift1, h0, h1]
  | succ j =>
    have hj : j + 1 < n := by simp [mkRows_length] at hi; omega
    have h0 : (BitVec.twoPow n (j + 1)).getLsbD 0 = false := by simp [BitVec.getLsbD_twoPow]
    simp only [List.getElem_cons_succ, shift1, h0]
    rw [mkRows_getElem, twoPow_succ_ushiftRight j hj]
    rfl

theorem iter_comp2 {α : Type} (f : α → α) (m : Nat) (x : α) :
    iter (fun y => f (f y)) m x = iter f (2 * m) x := by
  show iter (iter f 2) m x = _
  rw [iter_iter]

/-- One binary digit of the exponent: the low bit applies `f` once, the rest counts in `f ∘ f`. -/
theorem iter_halve {α : Type} (f : α → α) (m : Nat) (x : α) :
    iter (fun y => f (f y)) (m / 2) (if m % 2 = 1 then f x else x) = iter f m x := by
  rw [iter_comp2]
  rcases Nat.mod_two_eq_zero_or_one m with h | h
  · rw [if_neg (by omega)]; congr 1; omega
  · rw [if_pos h]
    show iter f (2 * (m / 2) + 1) x = _
    congr 1; omega

theorem square_op {n : Nat} {f : BitVec n → BitVec n} {mat : List (BitVec n)}
    (h : Lin f ∧ Rep mat f) :
    Lin (fun x => f (f x)) ∧ Rep (gf2MatrixSquare mat) (fun x => f (f x)) :=
  ⟨comp_lin h.1 h.1, square_rep h.1 h.2⟩

theorem combineLoop_spec {n : Nat} (fuel : Nat) :
    ∀ (even odd : List (BitVec n)) (g : BitVec n → BitVec n) (crc1 : BitVec n) (len2 : Nat),
      Lin g ∧ Rep odd g → len2 ≤ fuel →
      combineLoop fuel even odd crc1 len2 = iter (fun x => g (g x)) len2 crc1 := by
  induction fuel with
  | zero =>
    intro even odd g crc1 len2 _ h
    have : len2 = 0 := by omega
    subst this; rfl
  | succ fuel ih =>
    intro even odd g crc1 len2 h hle
    have h2 := square_op h
    have h4 := square_op h2
    simp only [combineLoop]
    -- two digits of `len2` per round: the first counts in `g ∘ g`, the second in its square
    rw [times_rep h2.1 h2.2, times_rep h4.1 h4.2, ← iter_halve _ len2, ← iter_halve _ (len2 / 2)]
    by_cases hA : len2 / 2 = 0
    · rw [if_pos hA, hA]; rfl
    · rw [if_neg hA]
      by_cases hB : len2 / 2 / 2 = 0
      · rw [if_pos hB, hB]; rfl
      · rw [if_neg hB]
        exact ih _ _ _ _ _ h4 (by omega)

theorem combine_eq {n : Nat} (hn : 0 < n) (P I X c1 c2 : BitVec n) (len2 : Nat) :
    combine P I X c1 c2 len2
      = if len2 = 0 then c1 else zeros P (8 * len2) (c1 ^^^ (I ^^^ X)) ^^^ c2 := by
  unfold combine
  by_cases h0 : len2 = 0
  · simp [h0]
  · rw [if_neg h0, if_neg h0]
    -- the loop starts from the matrix of four zero bits and counts in its square, eight
    have h4 := square_op (square_op ⟨shift1_lin P, odd0_rep hn P⟩)
    simp only []
    rw [combineLoop_spec len2 _ _ _ _ len2 h4 (Nat.le_refl _)]
    exact congrArg (· ^^^ c2) (iter_iter (shift1 P) 8 len2 _)

theorem combine_crc {n : Nat} (p : Params n) (a b : List UInt8) :
    combine p.poly p.init p.xorOut (crc p a) (crc p b) b.length = crc p (a ++ b) := by
  cases n with
  | zero => exact Subsingleton.elim _ _
  | succ m =>
    rw [combine_eq (Nat.succ_pos m)]
    by_cases hb : b.length = 0
    · have : b = [] := List.eq_nil_of_length_eq_zero hb
      subst this; simp
    · rw [if_neg hb, crc_append]

theorem decodeBE_append_singleton (l : List UInt8) (b : UInt8) :
    decodeBE (l ++ [b]) = decodeBE l * 256 + b.toNat := by
  simp [decodeBE, List.foldl_append]

theorem decodeBE_encodeBE (k v : Nat) : decodeBE (encodeBE k v) = v % 256 ^ k := by
  induction k generalizing v with
  | zero => simp [encodeBE, decodeBE, Nat.mod_one]
  | succ k ih =>
    simp only [encodeBE]
    rw [decodeBE_append_singleton, ih]
    have hb : (UInt8.ofNat (v % 256)).toNat = v % 256 := by
      simp [UInt8.toNat_ofNat']
    rw [hb, Nat.pow_succ, Nat.mul_comm (256 ^ k) 256, Nat.mod_mul (a := 256) (b := 256 ^ k)]
    omega

theorem encodeBE_length (k v : Nat) : (encodeBE k v).length = k := by
  induction k generalizing v with
  | zero => rfl
  | succ k ih => simp [encodeBE, ih]

theorem ofNat_decode_sum {n : Nat} (h8 : 8 * (n / 8) = n) (x : BitVec n) :
    BitVec.ofNat n (decodeBE (encodeBE (n / 8) x.toNat)) = x := by
  have e : 256 ^ (n / 8) = 2 ^ n := by rw [show 256 = 2 ^ 8 from rfl, ← Nat.pow_mul, h8]
  rw [decodeBE_encodeBE, e, Nat.mod_eq_of_lt x.isLt, BitVec.ofNat_toNat, BitVec.setWidth_eq]

/-- The normal-form polynomials handed to `createCombineFunction`, bit-reversed by `bitrev`, are
the reflected polynomials the hashes use. -/
theorem bitrev_ieee : bitrev (0x104C11DB7 &&& (2 ^ 32 - 1)) 32 = 0xEDB88320 := by decide
theorem bitrev_castagnoli : bitrev (0x1EDC6F41 &&& (2 ^ 32 - 1)) 32 = 0x82F63B78 := by decide
theorem bitrev_nvme : bitrev (0xAD93D23594C93659 &&& (2 ^ 64 - 1)) 64 = 0x9a6c9329ac4bc9b5 := by decide

/-- `createCombineFunction(poly, n, xorOut)` on the `Sum` bytes of the CRC variant `p` it is meant
for (`bitrev` of the normal-form polynomial, decode, `combine`, encode), for every width of whole
bytes that `encode_to_bytes` accepts. -/
theorem createCombine_sumBE {n : Nat} (p : Params n) (poly xorOut : Nat) (h8 : 8 * (n / 8) = n)
    (henc : ∀ v, encodeToBytes v n = some (encodeBE (n / 8) v))
    (hpoly : bitrev (poly &&& (2 ^ n - 1)) n = p.poly.toNat)
    (hinit : BitVec.ofNat n (0 ^^^ xorOut) = p.init) (hxor : BitVec.ofNat n xorOut = p.xorOut)
    (a b : List UInt8) :
    createCombine poly n xorOut (sumBE p a) (sumBE p b) b.length = some (sumBE p (a ++ b)) := by
  unfold createCombine sumBE
  simp only [ofNat_decode_sum h8, hpoly, BitVec.ofNat_toNat, BitVec.setWidth_eq, hinit, hxor,
    combine_crc, henc]

theorem combineCrc32_sumBE (a b : List UInt8) :
    combineCrc32 (sumBE crc32IEEE a) (sumBE crc32IEEE b) b.length = some (sumBE crc32IEEE (a ++ b)) :=
  createCombine_sumBE crc32IEEE _ _ rfl (fun _ => rfl) bitrev_ieee rfl rfl a b

theorem combineCrc32c_sumBE (a b : List UInt8) :
    combineCrc32c (sumBE crc32C a) (sumBE crc32C b) b.length = some (sumBE crc32C (a ++ b)) :=
  createCombine_sumBE crc32C _ _ rfl (fun _ => rfl) bitrev_castagnoli rfl rfl a b

theorem combineCrc64Nvme_sumBE (a b : List UInt8) :
    combineCrc64Nvme (sumBE crc64NVME a) (sumBE crc64NVME b) b.length
      = some (sumBE crc64NVME (a ++ b)) :=
  createCombine_sumBE crc64NVME _ _ rfl (fun _ => rfl) bitrev_nvme rfl rfl a b

/-- Everything written so far: dispatched blocks, then the partially filled buffer. -/
def Phw.content (w : Phw) : List UInt8 := w.out.flatten ++ w.fill

/-- Dispatcher invariant: the active buffer is never full between calls, and every block already
dispatched by `Write` is a full block. -/
def Phw.Inv (B : Nat) (w : Phw) : Prop := w.fill.length < B ∧ ∀ blk ∈ w.out, blk.length = B

theorem Phw.dispatchActive_content (w : Phw) : w.dispatchActive.content = w.content := by
  unfold Phw.dispatchActive Phw.content
  split <;> simp

theorem Phw.dispatch_if_full (B : Nat) (w : Phw) (hle : w.fill.length ≤ B) (hpos : 0 < B)
    (hout : ∀ blk ∈ w.out, blk.length = B) :
    (if w.fill.length = B then w.dispatchActive else w).content = w.content ∧
      Phw.Inv B (if w.fill.length = B then w.dispatchActive else w) := by
  split
  · next h =>
    have hne : w.fill.isEmpty = false := by
      cases hf : w.fill with
      | nil => rw [hf] at h; exact absurd h (by simp; omega)
      | cons _ _ => rfl
    refine ⟨Phw.dispatchActive_content w, ?_⟩
    simp only [Phw.dispatchActive, hne]
    refine ⟨hpos, fun blk hb => ?_⟩
    rcases List.mem_append.1 hb with hb | hb
    · exact hout blk hb
    · rw [List.mem_singleton.1 hb]; exact h
  · next h => exact ⟨rfl, by omega, hout⟩

theorem Phw.writeLoop_spec (B : Nat) (fuel : Nat) :
    ∀ (w : Phw) (p : List UInt8), p.length ≤ fuel → Phw.Inv B w →
      (Phw.writeLoop B fuel w p).content = w.content ++ p ∧ Phw.Inv B (Phw.writeLoop B fuel w p) := by
  induction fuel with
  | zero =>
    intro w p hp hinv
    have : p = [] := List.eq_nil_of_length_eq_zero (by omega)
    subst this
    exact ⟨by simp [Phw.writeLoop], hinv⟩
  | succ fuel ih =>
    intro w p hp hinv
    simp only [Phw.writeLoop]
    by_cases hpe : p.isEmpty = true
    · have : p = [] := by simpa using hpe
      subst this
      simp [hinv]
    · rw [if_neg hpe]
      have hpl : 0 < p.length := List.length_pos_iff.2 (by simpa using hpe)
      obtain ⟨hfill, hout⟩ := hinv
      -- `copy` transfers `k ≥ 1` bytes and does not overfill the buffer
      generalize hk : min (B - w.fill.length) p.length = k
      have hstep := Phw.dispatch_if_full B { w with fill := w.fill ++ p.take k }
        (by simp; omega) (by omega) hout
      have h := ih _ (p.drop k) (by simp; omega) hstep.2
      refine ⟨?_, h.2⟩
      rw [h.1, hstep.1]
      simp [Phw.content, List.append_assoc]

theorem Phw.write_spec (B : Nat) (w : Phw) (p : List UInt8) (h : Phw.Inv B w) :
    (w.write B p).content = w.content ++ p ∧ Phw.Inv B (w.write B p) :=
  Phw.writeLoop_spec B p.length w p (Nat.le_refl _) h

theorem Phw.foldl_write_spec (B : Nat) (writes : List (List UInt8)) (w : Phw) (h : Phw.Inv B w) :
    (writes.foldl (Phw.write B) w).content = w.content ++ writes.flatten ∧
      Phw.Inv B (writes.foldl (Phw.write B) w) := by
  induction writes generalizing w with
  | nil => simp [h]
  | cons p ps ih =>
    have h1 := Phw.write_spec B w p h
    have h2 := ih (w.write B p) h1.2
    simp only [List.foldl_cons, List.flatten_cons]
    refine ⟨?_, h2.2⟩
    rw [h2.1, h1.1, List.append_assoc]

theorem Phw.foldl_write_empty (B : Nat) (hB : 0 < B) (writes : List (List UInt8)) :
    (writes.foldl (Phw.write B) {}).content = writes.flatten ∧
      Phw.Inv B (writes.foldl (Phw.write B) {}) := by
  simpa [Phw.content] using Phw.foldl_write_spec B writes {} ⟨hB, fun _ hb => nomatch hb⟩

theorem Phw.flush_out_flatten (w : Phw) : w.flush.out.flatten = w.content := by
  unfold Phw.flush Phw.dispatchActive Phw.content
  split
  · next h =>
    have e : w.fill = [] := by simpa using h
    rw [e]; simp
  · simp

theorem Phw.flush_out_shape {B : Nat} {w : Phw} (h : Phw.Inv B w) :
    ∀ blk ∈ w.flush.out, 0 < blk.length ∧ blk.length ≤ B := by
  obtain ⟨hfill, hout⟩ := h
  intro blk hb
  unfold Phw.flush Phw.dispatchActive at hb
  split at hb
  · have := hout blk hb; omega
  · next hne =>
    rcases List.mem_append.1 hb with hb | hb
    · have := hout blk hb; omega
    · rw [List.mem_singleton.1 hb]
      exact ⟨List.length_pos_iff.2 (by simpa using hne), Nat.le_of_lt hfill⟩

end Pithos.Checksum
