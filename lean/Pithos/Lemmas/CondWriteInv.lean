/-
Well-formedness `WF` of `Pithos.Lemmas.CondWrite` is the row invariant `Inv` of `Pithos.Lemmas.S3Inv` in
another form (`wf_iff_inv`), so it is preserved by every operation because `Inv` is (`S3.step_inv`).
What that gives for conditional writes, after (A) for DeleteObject (`del_deleted_ifMatch`), which needs no
invariant but the description `S3.DelEff` of `deleteOp`:

(D) `WF` is an invariant of every operation (`wf_step`), hence of every reachable state (`wf_reachable`)
(E) a successful write to a well-formed state makes the key present (`WriteAnswer.wrote_present`)
(F) an If-None-Match put on an absent key of a well-formed state with `NoNullMarker` succeeds
    (`put_inm_absent_wrote`, from the specification `putRow_spec` of the write path in invariant states)
(G) among If-None-Match writes to one key of a well-formed state at most one wins, and after a winner all
    later ones fail (`inm_winner_then_all_fail`); among If-None-Match puts to an absent key exactly the first
    wins (`inm_puts_first_wins`)
(H) `MarkersVersioned` is an invariant of every operation on a well-formed state (`mv_closed`), so in
    reachable states (F) needs no hypothesis (`put_inm_absent_succeeds_reachable`), nor does (G) (Props/C07)
-/
import Pithos.Lemmas.CondWrite
import Pithos.Lemmas.S3Read

namespace Pithos.S3

theorem bucketWF_iff_rowsInv {n : Nat} {bk : Bucket} : BucketWF n bk ↔ RowsInv n bk.rows := by
  rw [bucketWF_iff]
  constructor
  · intro h
    refine ⟨h.bound, List.pairwise_map.2 h.ids, fun k => countP_le_one h.ids ?_⟩
    intro x hx y hy hpx hpy
    simp only [Bool.and_eq_true, beq_iff_eq] at hpx hpy
    exact h.uniq x hx y hy (hpx.1.trans hpy.1.symm) hpx.2 hpy.2
  · intro h
    refine ⟨List.pairwise_map.1 h.nodup, ?_, h.fresh⟩
    intro x hx y hy hk hlx hly
    rw [h.latest_unique hx hy hk hlx hly]

theorem wf_iff_inv {s : State} : WF s ↔ Inv s :=
  ⟨fun h bk hb => bucketWF_iff_rowsInv.1 (h bk hb), fun h bk hb => bucketWF_iff_rowsInv.2 (h bk hb)⟩

theorem deleteOp_none_deleted_ifMatch {q : Quirks} {s : State} {bk : Bucket} {k : String} {im : IfMatch} {vid dm}
    (h : (deleteOp q s bk k none im).2 = .deleted vid dm) : ifMatchOk im (latestRow bk k) = true := by
  have e := deleteOp_eff q s bk k none im
  rw [h] at e
  generalize (deleteOp q s bk k none im).1 = s' at e
  cases e with
  | nothing _ _ him => rw [him]; rfl
  | marker hm | current hm => exact hm

theorem deleteOp_bogus (q : Quirks) (s : State) (bk : Bucket) (k : String) (vid : Option (Option Nat)) :
    (deleteOp q s bk k vid .bogus).2 = .err .preconditionFailed := by
  have e := deleteOp_eff q s bk k vid .bogus
  generalize (deleteOp q s bk k vid .bogus).1 = s' at e
  generalize (deleteOp q s bk k vid .bogus).2 = o at e
  cases e with
  | refused => rfl
  | nothing _ _ him => cases him
  | version _ hb => exact absurd rfl hb
  | marker hm | current hm => cases hm

theorem del_deleted_ifMatch {q : Quirks} {s : State} {b k : String} {im : IfMatch} {vid dm}
    (h : (step q s (.del b k none im)).2 = .deleted vid dm) : IfMatchMet s b k im := by
  rw [step_tick, stepT_del_eq] at h
  revert h
  exact withB_ind (P := fun x => x.2 = _ → _) (fun h => nomatch h) fun bk hbk h =>
    ⟨bk, hbk, deleteOp_none_deleted_ifMatch h⟩

theorem del_if_match_star_spec (q : Quirks) (s : State) (b k : String) (vid : Option (Option Nat)) (dm : Bool)
    (h : (step q s (.del b k none .star)).2 = .deleted vid dm) : present s b k = true :=
  (del_deleted_ifMatch h).star

theorem del_if_match_bogus_fails (q : Quirks) (s : State) (b k : String) (vid : Option (Option Nat)) :
    (step q s (.del b k vid .bogus)).2 = .err .preconditionFailed ∨
    (step q s (.del b k vid .bogus)).2 = .err .noSuchBucket := by
  rw [step_tick, stepT_del_eq]
  exact withB_ind (P := fun x => x.2 = .err .preconditionFailed ∨ x.2 = .err .noSuchBucket) (.inr rfl) fun bk _ =>
    .inl (deleteOp_bogus ..)

theorem wf_step (q : Quirks) (s : State) (op : Op) (h : WF s) : WF (step q s op).1 :=
  wf_iff_inv.2 (step_inv q s op (wf_iff_inv.1 h))

theorem wf_reachable (q : Quirks) (ops : List Op) : WF (run q {} ops).1 :=
  run_preserves q (wf_step q) ops {} fun _ h => nomatch h

theorem WriteAnswer.wrote_present {b k : String} {inm : Bool} {im : IfMatch} {q : Quirks} {s : State} {x : State × Out}
    (hw : WriteAnswer q s b k inm im x) (hwf : WF s) {vid et} (h : x.2 = .wrote vid et) : present x.1 b k = true := by
  rcases hw with ⟨e, rfl⟩ | ⟨bk, bk0, n, s', v, hbk, hname, hrows, hp, rfl⟩
  · cases h
  · have hinv : RowsInv (tick s).nextRow bk0.rows := by
      rw [hrows]; exact wf_iff_inv.1 hwf bk (findBucket_mem hbk)
    obtain ⟨bk', id, c, hf, hr⟩ := instEff_current (s := tick s) hbk
      (hname.trans (findBucket_some_name hbk)) hinv (putRow_eff hinv hp)
    rw [present_of_found hf, hr]; rfl

theorem complete_wrote_present (q : Quirks) (s : State) (b k : String) (uid : Nat) (declared : Option (List Nat))
    (inm : Bool) (im : IfMatch) (vid : Option Nat) (et : ETag) (hwf : WF s)
    (h : (step q s (.complete b k uid declared inm im)).2 = .wrote vid et) :
    present (step q s (.complete b k uid declared inm im)).1 b k = true :=
  (step_complete_cases ..).wrote_present hwf h

/-- The third test of `putRow` (a current null version refuses If-None-Match) never decides in a well-formed
bucket whose delete markers carry version ids: a current null version is a live object, which the second
test has refused. -/
theorem nullRow_latest_live {n : Nat} {bk : Bucket} {k : String} (hb : RowsInv n bk.rows)
    (hm : ∀ r, latestRow bk k = some r → r.dm = true → r.vid ≠ none) (h : (nullRow bk k).any (·.latest) = true) :
    live (latestRow bk k) = true := by
  cases hy : nullRow bk k with
  | none => rw [hy] at h; cases h
  | some y =>
    rw [hy] at h
    obtain ⟨hmem, hk, hv⟩ := rowByVid_mem hy
    have hl := latestRow_eq_of_unique (hb.one k) hmem hk h
    cases hd : y.dm with
    | false => rw [hl]; simp [live, hd]
    | true => exact absurd hv (hm y hl hd)

theorem putRow_spec {q : Quirks} {s : State} {bk : Bucket} {k : String} {n : NewObj} {inm : Bool} {im : IfMatch}
    (hb : RowsInv s.nextRow bk.rows) (hm : ∀ r, latestRow bk k = some r → r.dm = true → r.vid ≠ none) :
    putRow q s bk k n inm im =
      if ifMatchOk im (latestRow bk k) && !(inm && live (latestRow bk k)) then .ok (install q s bk k n)
      else .error .preconditionFailed := by
  rw [putRow_eq_of_nodup hb.nodup]
  cases him : ifMatchOk im (latestRow bk k)
  · rfl
  · cases hl : inm && live (latestRow bk k)
    · have : (inm && bk.ver != .enabled && (nullRow bk k).any (·.latest)) = false := by
        cases hn : (nullRow bk k).any (·.latest)
        · simp
        · have : inm = false := by simpa [nullRow_latest_live hb hm hn] using hl
          simp [this]
      simp [this]
    · rfl

/-- (F), with the version id written -/
theorem put_inm_absent_wrote (q : Quirks) (s : State) (b k : String) (body : Bytes) (o : WriteOpts) (bk : Bucket)
    (hwf : WF s) (hb : findBucket s b = some bk) (ha : present s b k = false) (hm : NoNullMarker s b k) :
    (step q s (.put b k body o true .none)).2 =
      .wrote (if bk.ver = .enabled then some s.nextVid else none) (singleETag body) := by
  rw [step_tick, stepT_put_eq, withB_some (s := tick s) hb]
  simp only [putRow_spec (s := tick s) (wf_iff_inv.1 hwf bk (findBucket_mem hb)) (hm bk · hb), ifMatchOk_none,
    (present_of_found hb k).symm.trans ha, Bool.and_false, Bool.not_false, Bool.and_self, ↓reduceIte, unpack_ok, install_snd]
  rfl

theorem inm_winner_then_all_fail (q : Quirks) (s : State) (b k : String) (ops : List Op) (hwf : WF s)
    (hops : ∀ op ∈ ops, IsInmWrite b k op) :
    (run q s ops).2.Pairwise fun o o' => o.isWrote = true → o'.isWrote = false := by
  induction ops generalizing s with
  | nil => exact .nil
  | cons op ops ih =>
    obtain ⟨im, hw'⟩ := (hops op (List.mem_cons_self ..)).answer q s
    have hops' : ∀ op' ∈ ops, IsInmWrite b k op' := fun op' h' => hops op' (List.mem_cons_of_mem _ h')
    rw [run_cons]
    refine List.pairwise_cons.2 ⟨?_, ih _ (wf_step q s op hwf) hops'⟩
    intro o' ho' hw
    rcases hw'.out_cases with ⟨e, he⟩ | ⟨vid, et, h⟩
    · rw [he] at hw; cases hw
    · exact inm_present_all_fail q b k ops _ (hw'.wrote_present hwf h) hops' o' ho'

theorem inm_at_most_one_winner (q : Quirks) (s : State) (b k : String) (ops : List Op) (hwf : WF s)
    (hops : ∀ op ∈ ops, IsInmWrite b k op) : ((run q s ops).2.filter Out.isWrote).length ≤ 1 :=
  filter_length_le_one (inm_winner_then_all_fail q s b k ops hwf hops)

theorem inm_puts_first_wins (q : Quirks) (s : State) (b k : String) (body : Bytes) (o : WriteOpts)
    (rest : List (Bytes × WriteOpts)) (bk : Bucket) (hwf : WF s) (hb : findBucket s b = some bk)
    (ha : present s b k = false) (hm : NoNullMarker s b k) :
    (run q s (((body, o) :: rest).map fun (body, o) => Op.put b k body o true .none)).2
      = .wrote (if bk.ver = .enabled then some s.nextVid else none) (singleETag body)
          :: List.replicate rest.length (.err .preconditionFailed) := by
  have hw := put_inm_absent_wrote q s b k body o bk hwf hb ha hm
  rw [List.map_cons, run_cons, hw]
  rw [inm_puts_present_all_fail q b k rest _ ((step_put_cases ..).wrote_present hwf hw)]

theorem inm_puts_exactly_first (q : Quirks) (s : State) (b k : String) (bodies : List (Bytes × WriteOpts)) (hwf : WF s)
    (hb : (findBucket s b).isSome = true) (ha : present s b k = false) (hm : NoNullMarker s b k)
    (hne : bodies ≠ []) :
    (run q s (bodies.map fun (body, o) => Op.put b k body o true .none)).2
      = .wrote (if ((findBucket s b).map (·.ver)) = some .enabled then some s.nextVid else none)
            (singleETag (bodies.head hne).1)
          :: List.replicate (bodies.length - 1) (.err .preconditionFailed) := by
  cases hbk : findBucket s b with
  | none => rw [hbk] at hb; cases hb
  | some bk =>
    cases bodies with
    | nil => exact absurd rfl hne
    | cons x rest =>
      obtain ⟨body, o⟩ := x
      rw [inm_puts_first_wins q s b k body o rest bk hwf hbk ha hm]
      simp

/-! ### (H) delete markers always carry a version id

`MarkersVersioned` (`BucketMV` of `Pithos.Lemmas.CondWrite` in every bucket; `mv_closed` says it of a row list) is kept by each of the row edits the operations
make (`RowsClosed`): rows are removed, saved again with the same marker flag and version id, overwritten by
or added as live objects; the one delete marker ever added carries a fresh version id. -/

theorem mv_closed (q : Quirks) : RowsClosed q (fun _ _ _ rows => ∀ r ∈ rows, r.dm = true → r.vid ≠ none) where
  nil := fun _ _ _ _ hr => nomatch hr
  mono := fun _ _ _ h => h
  edit := fun e _ h => by
    cases e with
    | @save r _ _ _ _ hr => exact forall_mem_repl h (h r hr)
    | over _ _ _ _ _ _ hd => exact forall_mem_repl h fun hyd => by rw [hd] at hyd; cases hyd
    | drop => exact fun r hr => h r (List.mem_filter.1 hr).1
    | add _ _ _ _ _ hy =>
      refine List.forall_mem_append.2 ⟨h, fun r hr => ?_⟩
      rw [List.mem_singleton.1 hr]
      -- the row added has the next version id, or is an object
      rcases hy with ⟨hv, _⟩ | ⟨_, hd, _⟩
      · exact fun _ hn => by rw [hv] at hn; cases hn
      · exact fun hyd => by rw [hd] at hyd; cases hyd

theorem mv_reachable (q : Quirks) (ops : List Op) : MarkersVersioned (run q {} ops).1 :=
  ((mv_closed q).reachable ops).2

theorem MarkersVersioned.noNullMarker {s : State} (h : MarkersVersioned s) (b k : String) : NoNullMarker s b k :=
  fun bk r hb hr hd => h bk (findBucket_mem hb) r (latestRow_some hr).1 hd

/-- (F) in reachable states, without extra hypothesis -/
theorem put_inm_absent_succeeds_reachable (q : Quirks) (pre : List Op) (b k : String) (body : Bytes) (o : WriteOpts)
    (hb : (findBucket (run q {} pre).1 b).isSome = true) (ha : present (run q {} pre).1 b k = false) :
    ∃ vid, (step q (run q {} pre).1 (.put b k body o true .none)).2 = .wrote vid (singleETag body) :=
  let ⟨bk, hbk⟩ := Option.isSome_iff_exists.1 hb
  ⟨_, put_inm_absent_wrote q _ b k body o bk (wf_reachable q pre) hbk ha ((mv_reachable q pre).noNullMarker b k)⟩

end Pithos.S3
