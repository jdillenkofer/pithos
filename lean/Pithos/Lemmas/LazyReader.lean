/-
Helper lemmas for C40 (lazy part-sequence reader): what one `pull`/`read` does, the download
invariant `Good` and what it gives for a download from the start (`run_prefix`), progress of snapshot
readers, and the range arithmetic of `planFrom`; a snapshot reader over any store that holds every part
of the version delivers the full content (`C40.snapshot_stream_full_of_present`).
-/
import Pithos.Model.LazyReader
import Pithos.Lemmas.ListFacts

namespace Pithos.LazyReader

/-- What the reader has yet to deliver if every part still to be opened holds its original bytes:
the rest of the open part, then the ranges not yet opened. -/
def remaining (orig : PartId → Bytes) (r : Reader) : Bytes := r.cur.getD [] ++ target orig r.todo

theorem target_cons (orig : PartId → Bytes) (p : PartRange) (ps : List PartRange) :
    target orig (p :: ps) = openPart (orig p.id) p ++ target orig ps := by
  simp [target]

theorem take_ne_nil {bs : Bytes} {n : Nat} (hn : 0 < n) (h : ¬ bs.isEmpty = true) : bs.take n ≠ [] := by
  intro h0
  rcases List.take_eq_nil_iff.1 h0 with h1 | h1
  · omega
  · exact h (by rw [h1]; rfl)

/-- What a read does whatever the store holds: it only consumes ranges, a piece it delivers is not
empty, and it fails only on an absent part. -/
structure Outcome (store : Store) (n : Nat) (todo : List PartRange) (res : Reader × Out) : Prop where
  sub : ∀ p ∈ res.1.todo, p ∈ todo
  data_ne : ∀ bs, res.2 = .data bs → 0 < n → bs ≠ []
  absent : res.2 = .err → ∃ p ∈ todo, store p.id = none

theorem pull_outcome (store : Store) (n : Nat) (todo : List PartRange) :
    Outcome store n todo (pull store n todo) := by
  -- the cases of `pull`: no range left, part absent, range empty (`ih` for the rest), range with bytes
  fun_induction pull store n todo with
  | case1 => exact ⟨fun _ h => h, fun _ h => (by cases h), fun h => (by cases h)⟩
  | case2 p rest h => exact ⟨fun q hq => .tail _ hq, fun _ h => (by cases h), fun _ => ⟨p, .head _, h⟩⟩
  | case3 p rest _ _ _ _ ih =>
    exact ⟨fun q hq => .tail _ (ih.sub q hq), ih.data_ne, fun h => let ⟨q, hq, h0⟩ := ih.absent h; ⟨q, .tail _ hq, h0⟩⟩
  | case4 p rest _ _ _ he =>
    exact ⟨fun q hq => .tail _ hq, fun _ h hn => (by cases h; exact take_ne_nil hn he), fun h => (by cases h)⟩

theorem read_outcome (store : Store) (r : Reader) (n : Nat) : Outcome store n r.todo (read store r n) := by
  unfold read
  cases r.cur with
  | none => exact pull_outcome store n r.todo
  | some bs =>
    by_cases he : bs.isEmpty = true
    · simp only [he, if_true]
      exact pull_outcome store n r.todo
    · simp only [he]
      exact ⟨fun _ h => h, fun _ h hn => (by cases h; exact take_ne_nil hn he), fun h => (by cases h)⟩

theorem pull_spec (orig : PartId → Bytes) (store : Store) (n : Nat) (todo : List PartRange)
    (hs : StoreOK orig todo store) :
    match (pull store n todo).2 with
    | .data bs => bs ++ remaining orig (pull store n todo).1 = target orig todo
    | .eof => target orig todo = []
    | .err => True := by
  fun_induction pull store n todo with
  | case1 => simp [target]
  | case2 => trivial
  | case3 p rest bytes h bs he ih =>
    obtain rfl : bytes = orig p.id := by simpa [h] using hs p (List.mem_cons_self ..)
    rw [target_cons, (List.isEmpty_iff.1 he : openPart _ p = []), List.nil_append]
    exact ih fun q hq => hs q (List.mem_cons_of_mem _ hq)
  | case4 p rest bytes h bs he =>
    obtain rfl : bytes = orig p.id := by simpa [h] using hs p (List.mem_cons_self ..)
    simp [remaining, target_cons, bs, ← List.append_assoc, List.take_append_drop]

theorem read_spec (orig : PartId → Bytes) (store : Store) (n : Nat) (r : Reader)
    (hs : StoreOK orig r.todo store) :
    match (read store r n).2 with
    | .data bs => bs ++ remaining orig (read store r n).1 = remaining orig r
    | .eof => remaining orig r = []
    | .err => True := by
  unfold read
  cases hc : r.cur with
  | none => simpa [remaining, hc] using pull_spec orig store n r.todo hs
  | some bs =>
    by_cases he : bs.isEmpty = true
    · simpa [remaining, hc, he, List.isEmpty_iff.1 he] using pull_spec orig store n r.todo hs
    · simp [he, remaining, hc, ← List.append_assoc, List.take_append_drop]

/-- The invariant of a download: the reader opens ranges of the version only, and what was delivered
is the promised content less what remains (all of it after end-of-file, a prefix after an error). -/
def Good (orig : PartId → Bytes) (ps : List PartRange) (r : Reader) (seen : Seen) : Prop :=
  (∀ p ∈ r.todo, p ∈ ps) ∧
  match seen.ended with
  | none => seen.delivered ++ remaining orig r = target orig ps
  | some true => seen.delivered = target orig ps
  | some false => seen.delivered <+: target orig ps

theorem run_ended {snapshot : Bool} {evs : List Ev} {store : Store} {r : Reader} {seen : Seen}
    (h : seen.ended.isSome = true) : run snapshot store r seen evs = seen := by
  induction evs generalizing store with
  | nil => rfl
  | cons e evs ih =>
    cases e with
    | store s => exact ih
    | read m => simp only [run, h, if_true]; exact ih

theorem run_read (snapshot : Bool) (store : Store) (r : Reader) (seen : Seen) (n : Nat) (evs : List Ev)
    (h : seen.ended = none) :
    run snapshot store r seen (.read n :: evs) =
      match (read store r n).2 with
      | .data bs => run snapshot store (read store r n).1 { seen with delivered := seen.delivered ++ bs } evs
      | .eof => { seen with ended := some true }
      | .err => { seen with ended := some false } := by
  simp only [run, h, Option.isSome_none, Bool.false_eq_true, if_false]
  rcases read store r n with ⟨r', _ | _ | _⟩
  · rfl
  · exact run_ended rfl
  · exact run_ended rfl

theorem run_good (orig : PartId → Bytes) (ps : List PartRange) (evs : List Ev) (snapshot : Bool)
    (hev : ∀ s, .store s ∈ evs → snapshot = true ∨ StoreOK orig ps s) (store : Store) (r : Reader) (seen : Seen)
    (hst : StoreOK orig ps store) (hg : Good orig ps r seen) :
    ∃ r', Good orig ps r' (run snapshot store r seen evs) := by
  induction evs generalizing store r seen with
  | nil => exact ⟨r, hg⟩
  | cons e evs ih =>
    have hrest : ∀ s, .store s ∈ evs → snapshot = true ∨ StoreOK orig ps s := fun s hs => hev s (List.mem_cons_of_mem _ hs)
    cases e with
    | store s =>
      cases snapshot with
      | false => exact ih hrest s r seen ((hev s (List.mem_cons_self ..)).resolve_left (by simp)) hg
      | true => exact ih hrest store r seen hst hg
    | read n =>
      cases hend : seen.ended with
      | some b => rw [run_ended (by rw [hend]; rfl)]; exact ⟨r, hg⟩
      | none =>
        obtain ⟨hmem, hinv⟩ := hg
        simp only [hend] at hinv
        have hout := read_spec orig store n r fun p hp => hst p (hmem p hp)
        have hmem' : ∀ p ∈ (read store r n).1.todo, p ∈ ps := fun p hp => hmem p ((read_outcome store r n).sub p hp)
        rw [run_read _ _ _ _ _ _ hend]
        cases hrd : (read store r n).2 with
        | data bs =>
          rw [hrd] at hout
          refine ih hrest store _ _ hst ⟨hmem', ?_⟩
          simp only [hend]
          rw [List.append_assoc, hout, hinv]
        | eof =>
          rw [hrd] at hout
          exact ⟨_, hmem', by simp only; rw [← hinv, hout, List.append_nil]⟩
        | err => exact ⟨_, hmem', _, hinv⟩

/-- A download from the start, while the store changes keep each part absent or unchanged (or do not
reach the reader): a prefix at every moment, and everything once end-of-file is reported. -/
theorem run_prefix (orig : PartId → Bytes) (ps : List PartRange) (evs : List Ev) (snapshot : Bool)
    (hev : ∀ s, .store s ∈ evs → snapshot = true ∨ StoreOK orig ps s) (store : Store) (hst : StoreOK orig ps store) :
    (run snapshot store ⟨ps, none⟩ {} evs).delivered <+: target orig ps ∧
    ((run snapshot store ⟨ps, none⟩ {} evs).ended = some true →
      (run snapshot store ⟨ps, none⟩ {} evs).delivered = target orig ps) := by
  obtain ⟨r', _, h⟩ := run_good orig ps evs snapshot hev store ⟨ps, none⟩ {} hst ⟨fun p hp => hp, by simp [remaining]⟩
  generalize run snapshot store ⟨ps, none⟩ {} evs = seen at h
  cases he : seen.ended with
  | none => simp only [he] at h; exact ⟨⟨_, h⟩, by simp⟩
  | some b =>
    cases b with
    | true => simp only [he] at h; exact ⟨by rw [h]; exact List.prefix_refl _, fun _ => h⟩
    | false => simp only [he] at h; exact ⟨h, by simp⟩

/-- How many events of a schedule are reads: the measure of progress in `run_snapshot_progress` (a
read that finds every part present and has room delivers at least one byte, or ends the stream). -/
def readCount : List Ev → Nat
  | [] => 0
  | .read _ :: evs => readCount evs + 1
  | .store _ :: evs => readCount evs

theorem run_snapshot_progress (store : Store) (evs : List Ev) (hev : ∀ e ∈ evs, ∀ n, e = .read n → 0 < n)
    (r : Reader) (seen : Seen) (hs : ∀ p ∈ r.todo, store p.id ≠ none) (hne : seen.ended ≠ some false) :
    (run true store r seen evs).ended ≠ some false ∧
    ((run true store r seen evs).ended = some true ∨
      seen.delivered.length + readCount evs ≤ (run true store r seen evs).delivered.length) := by
  induction evs generalizing r seen with
  | nil => simp [run, readCount, hne]
  | cons e evs ih =>
    have hrest : ∀ e ∈ evs, ∀ n, e = .read n → 0 < n := fun e he => hev e (List.mem_cons_of_mem _ he)
    cases e with
    | store s => exact ih hrest r seen hs hne
    | read n =>
      cases hend : seen.ended with
      | some b =>
        rw [run_ended (by rw [hend]; rfl)]
        cases b with
        | true => exact ⟨hne, .inl hend⟩
        | false => exact absurd hend hne
      | none =>
        rw [run_read _ _ _ _ _ _ hend]
        cases hrd : (read store r n).2 with
        | data bs =>
          have := ih hrest (read store r n).1 { seen with delivered := seen.delivered ++ bs }
            (fun p hp => hs p ((read_outcome store r n).sub p hp)) hne
          refine ⟨this.1, this.2.imp_right fun h => ?_⟩
          have : 0 < bs.length :=
            List.length_pos_iff.2 ((read_outcome store r n).data_ne bs hrd (hev _ (List.mem_cons_self ..) n rfl))
          simp only [List.length_append] at h
          simp only [readCount]
          omega
        | eof => exact ⟨by simp, .inl rfl⟩
        | err =>
          obtain ⟨p, hp, h0⟩ := (read_outcome store r n).absent hrd
          exact absurd h0 (hs p hp)

theorem planFrom_target (skipEmpty : Bool) (lo hi : Nat) (orig : PartId → Bytes) (cs : List Bytes) :
    ∀ (idx start : Nat), (∀ j (h : j < cs.length), orig (idx + j) = cs[j]) →
    target orig (planFrom skipEmpty lo hi idx start (cs.map List.length))
      = (cs.flatten.drop (lo - start)).take ((hi - start) - (lo - start)) := by
  induction cs with
  | nil => intro idx start _; simp [planFrom, target]
  | cons c rest ih =>
    intro idx start horig
    have hc : orig idx = c := horig 0 (Nat.zero_lt_succ _)
    have ihr := ih (idx + 1) (start + c.length) fun j hj => by
      rw [Nat.add_assoc, Nat.add_comm 1 j]; exact horig (j + 1) (Nat.succ_lt_succ hj)
    simp only [List.map_cons, planFrom]
    rw [List.flatten_cons, window_append]
    by_cases h1 : lo ≥ start + c.length
    · rw [if_pos h1, Nat.sub_sub lo start c.length, Nat.sub_sub hi start c.length, ← ihr, List.drop_of_length_le (by omega), List.take_nil,
        List.nil_append]
    · by_cases h2 : hi ≤ start
      · rw [if_neg h1, if_pos h2, Nat.sub_eq_zero_of_le h2]
        simp only [Nat.zero_sub, List.take_zero, List.append_nil]; rfl
      · have ha : (if lo > start then lo - start else 0) = lo - start := by split <;> omega
        rw [if_neg h1, if_neg h2, ha, Nat.sub_sub lo start c.length, Nat.sub_sub hi start c.length, ← ihr]
        have hpart : ∀ b, b = (if hi < start + c.length then hi - start else c.length) →
            openPart (orig idx) ⟨idx, lo - start, b - (lo - start)⟩ =
              (c.drop (lo - start)).take (hi - start - (lo - start)) := by
          intro b hb
          rw [hc]
          by_cases h3 : hi < start + c.length
          · rw [hb, if_pos h3]; rfl
          · rw [hb, if_neg h3, openPart, take_drop_of_length_le c (Nat.le_refl _),
              take_drop_of_length_le c (by omega)]
        generalize hb : (if hi < start + c.length then hi - start else c.length) = b
        rw [← hpart b hb.symm]
        by_cases hz : (skipEmpty && (b - (lo - start) == 0)) = true
        · rw [if_pos hz]
          have hz' : b - (lo - start) = 0 := eq_of_beq (Bool.and_eq_true_iff.1 hz).2
          rw [hz', openPart, List.take_zero, List.nil_append]
        · rw [if_neg hz, target_cons]

end Pithos.LazyReader

namespace Pithos.C40
open Pithos.LazyReader

/-- A snapshot reader over a store in which every part of the resolved version is present with its
original bytes: never an error, a prefix at every moment, the full content at end-of-file, and
end-of-file after at most `length + 1` reads. Store changes made by others do not reach it. -/
theorem snapshot_stream_full_of_present (orig : PartId → Bytes) (ps : List PartRange) (store : Store) (evs : List Ev)
    (hpres : ∀ p ∈ ps, store p.id = some (orig p.id))
    (hev : ∀ e ∈ evs, ∀ n, e = .read n → 0 < n) :
    (run true store ⟨ps, none⟩ {} evs).ended ≠ some false ∧
    (run true store ⟨ps, none⟩ {} evs).delivered <+: target orig ps ∧
    ((run true store ⟨ps, none⟩ {} evs).ended = some true →
      (run true store ⟨ps, none⟩ {} evs).delivered = target orig ps) ∧
    ((target orig ps).length < readCount evs →
      (run true store ⟨ps, none⟩ {} evs).ended = some true ∧
      (run true store ⟨ps, none⟩ {} evs).delivered = target orig ps) := by
  have hp := run_prefix orig ps evs true (fun _ _ => .inl rfl) store fun p hp => Or.inr (hpres p hp)
  have hne : ∀ p ∈ (⟨ps, none⟩ : Reader).todo, store p.id ≠ none := by
    intro p hp h0
    rw [hpres p hp] at h0
    exact absurd h0 (by simp)
  have hprog := run_snapshot_progress store evs hev ⟨ps, none⟩ {} hne (by simp)
  refine ⟨hprog.1, hp.1, hp.2, ?_⟩
  intro hlt
  have hended : (run true store ⟨ps, none⟩ {} evs).ended = some true := by
    refine hprog.2.resolve_right fun h1 => ?_
    have hle := hp.1.length_le
    simp only [List.length_nil, Nat.zero_add] at h1
    omega
  exact ⟨hended, hp.2 hended⟩

end Pithos.C40
