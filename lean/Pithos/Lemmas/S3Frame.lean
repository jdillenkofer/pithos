/-
C01 frame: an operation that does not write key `k` of bucket `b` (PutObject, DeleteObject,
CopyObject-to, AppendObject, CompleteMultipartUpload on exactly (b, k)) leaves the current version
of (b, k) — key, version id, delete-marker flag, parts (content, size), ETag, content type and user
metadata — exactly as it was. Tagging and storage-class transitions of (b, k) itself are included:
they change tags/class/Last-Modified only (the `resave` case of `cur_eff`). A call that writes another key edits only rows
of that key, so no lookup blind to it is disturbed (`RowsEdited.find_other`). `frame` is the statement for
one operation, `frame_run` for histories; through `Pithos.C01.curView_some` at the end Props/C01 reads
`curView` as a bucket and a row.
-/
import Pithos.Lemmas.S3Step

namespace Pithos.S3

/-- The fields of a row that a GET of the current version shows and that only a write may change. -/
structure CV where
  key   : String
  vid   : Option Nat
  dm    : Bool
  parts : List Bytes
  etag  : ETag
  ct    : Option String
  md    : Pairs

def cv (r : Row) : CV := ⟨r.key, r.vid, r.dm, r.parts, r.etag, r.ct, r.md⟩
/-- the test by which `latestRow` finds the current row of `k` (`latestRow_pk`) -/
def pk (k : String) (r : Row) : Bool := r.key == k && r.latest
/-- `curView` within one bucket: `cv` of the current row of `k` among `rows` -/
def CVr (k : String) (rows : List Row) : Option CV := (rows.find? (pk k)).map cv

theorem latestRow_pk (bk : Bucket) (k : String) : latestRow bk k = bk.rows.find? (pk k) := rfl

/-- The current version of (b, k) as a read sees it (none: no bucket, or no current row). -/
def curView (s : State) (b k : String) : Option CV := (findBucket s b).bind fun bk => CVr k bk.rows

theorem pk_false_of_key {k : String} {r : Row} (h : r.key ≠ k) : pk k r = false := by
  unfold pk; simp [h]

theorem cur_update {s st' : State} {b b' k : String} {bk1 X : Bucket}
    (hfb' : findBucket s b' = some bk1) (hX : X.name = bk1.name) (hst : st'.buckets = (setBucket s X).buckets)
    (hk : b' = b → CVr k X.rows = CVr k bk1.rows) : curView st' b k = curView s b k := by
  unfold curView
  rw [findBucket_replaced hfb' hX hst]
  split
  · next h => subst h; rw [hfb']; exact hk rfl
  · rfl

theorem cur_eff {q : Quirks} {s s' : State} {op : Op} {b k : String} (hinv : Inv s) (hnw : ¬ Writes op b k)
    {o : Out} (e : Eff q s op s' o) : curView s' b k = curView s b k := by
  cases e with
  | same => rfl
  | mkb b' =>
    unfold curView
    rw [findBucket_mkb]
    cases findBucket s b with
    | some bk => rfl
    | none => dsimp only [Option.none_or]; split <;> rfl
  | @rmb b' bk1 hfb' hempty =>
    unfold curView
    by_cases hbb : b' = b
    · -- the bucket removed has no rows, so no current version
      subst hbb
      rw [findBucket_rmb_self, hfb']
      simp [CVr, hempty]
    · rw [findBucket_rmb_ne hbb]
  | aside _ u hfb' hn hr => exact cur_update hfb' hn rfl (fun _ => by rw [hr])
  | @resave _ _ _ _ f _ c hr hfb' hres =>
    -- a row saved again passes the test `pk k` as before and shows the same fields
    have hg : ∀ x : Row, (touch q s.clock (f x)).rowId = x.rowId ∧ pk k (touch q s.clock (f x)) = pk k x ∧
        cv (touch q s.clock (f x)) = cv x := fun x => by
      obtain ⟨t, cl, sb, hf⟩ := hr.save x
      rw [hf]
      exact ⟨rfl, rfl, rfl⟩
    refine cur_update hfb' (replaceRow_name _ _) rfl fun _ => ?_
    unfold CVr
    rw [replaceRow_rows, find?_repl_of_nodup _ (fun x => touch q s.clock (f x)) (hinv _ (findBucket_mem hfb')).nodup
      (resolve_mem hres) (hg c).1 (hg c).2.1, Option.map_map]
    refine congrArg (Option.map · _) (funext fun x => ?_)
    show cv (if _ then _ else _) = cv x
    split
    · exact (hg x).2.2
    · rfl
  | @rows _ b' k' bk1 _ _ hw hfb' e =>
    have hb := hinv _ (findBucket_mem hfb')
    rcases e.edited hb with rfl | e
    · rfl
    · obtain ⟨X, hs, hX, hf⟩ := e.find_other hb
      refine cur_update hfb' hX hs (fun hbb => congrArg (Option.map cv) (hf _ fun _ hx => pk_false_of_key ?_))
      exact fun h => hnw (by subst hbb; rw [← h, hx]; exact hw)

theorem frame_T (q : Quirks) (s : State) (hinv : Inv s) (op : Op) (b k : String) (hnw : ¬ Writes op b k) :
    curView (stepT q s op).1 b k = curView s b k :=
  cur_eff hinv hnw (stepT_eff q s op)

theorem frame (q : Quirks) (s : State) (hinv : Inv s) (op : Op) (b k : String) (hnw : ¬ Writes op b k) :
    curView (step q s op).1 b k = curView s b k :=
  frame_T q _ (inv_tick hinv) op b k hnw

theorem frame_run (q : Quirks) (ops : List Op) (b k : String) (hnw : ∀ op ∈ ops, ¬ Writes op b k) :
    ∀ (s : State), Inv s → curView (run q s ops).1 b k = curView s b k := fun s hinv =>
  (run_preserves_mem (P := fun s' => Inv s' ∧ curView s' b k = curView s b k) q ops
    (fun op hop s' h => ⟨step_inv q s' op h.1, (frame q s' h.1 op b k (hnw op hop)).trans h.2⟩) s ⟨hinv, rfl⟩).2

end Pithos.S3

namespace Pithos.C01
open Pithos.S3

theorem curView_some {s : State} {b k : String} {c : CV} :
    curView s b k = some c ↔ ∃ bk r, findBucket s b = some bk ∧ latestRow bk k = some r ∧ cv r = c := by
  unfold curView CVr
  cases findBucket s b with
  | none => simp
  | some bk => simp [latestRow_pk]

end Pithos.C01
