/-
Helper lemmas for C07: the two facts the soundness of the linearization certificate checker rests on
(`pick_perm`, `realTimeB_iff`; the theorem is C07's `checkCert_sound`), and the standard
argument that operations which take effect atomically between invocation and response form a
linearizable history.
-/
import Pithos.Model.Linearize
import Pithos.Lemmas.ListFacts
namespace Pithos.Lin
variable {St Op Out Obs : Type}

theorem pick_perm (h : List (Ev Op Obs)) (order : List Nat) (hp : order.isPerm (List.range h.length) = true) :
    (pick h order).Perm h := by
  have hperm : order.Perm (List.range h.length) := List.isPerm_iff.1 hp
  have := hperm.filterMap (fun i => h[i]?)
  rw [filterMap_getElem?_range] at this
  exact this

theorem realTimeB_iff (l : List (Ev Op Obs)) : realTimeB l = true ↔ RealTime l := by
  induction l with
  | nil => simp [realTimeB, RealTime]
  | cons a rest ih =>
    rw [RealTime, List.pairwise_cons, ← RealTime, ← ih]
    simp [realTimeB]

/-- If every operation of a concurrent history takes effect atomically at
a point `pt` between its invocation and its response (`order` lists the operations by effect point and
is what the sequential specification executed), the history is linearizable. -/
theorem atomic_ops_linearizable (step : St → Op → St × Out) (agree : Out → Obs → Bool) (s : St)
    (h order : List (Ev Op Obs)) (pt : Ev Op Obs → Nat)
    (hperm : order.Perm h)
    (hsorted : order.Pairwise (fun a b => pt a < pt b))
    (hwithin : ∀ e ∈ h, e.inv ≤ pt e ∧ pt e ≤ e.resp)
    (hlegal : Legal step agree s order) :
    Linearizable step agree s h := by
  refine ⟨order, hperm, ?_, hlegal⟩
  refine hsorted.imp_of_mem ?_
  intro a b ha hb hab hlt
  have h1 := hwithin a (hperm.subset ha)
  have h2 := hwithin b (hperm.subset hb)
  omega

end Pithos.Lin
