/-
What an `.ok` at the end of a chain of checks says about each check. The validators `AuditLog.step`
(C26/C27) and `Chunked.decode` (C30) are such chains: `if … then .error …`, bind. Core Lean only.
-/
namespace Pithos

theorem check_ok_iff {ε α : Type} {c : Prop} [Decidable c] {r : ε} {b : Except ε α} {x : α} :
    (if c then .error r else b) = .ok x ↔ ¬ c ∧ b = .ok x := by
  split <;> simp [*]

theorem ok_of_bind {ε α β : Type} {b : β} {x : Except ε α} {k : α → Except ε β} (h : x >>= k = .ok b) :
    ∃ a, x = .ok a ∧ k a = .ok b := by
  cases x with
  | error e => cases h
  | ok a => exact ⟨a, rfl, h⟩

end Pithos
