/-
Lemmas about the byte-string utilities of `Model/Http/SigV4.lean`, shared by C28–C30 (core Lean only):
the two hex digits of a byte, hex encoding is injective (`unhexL` reads it back); two fields around a
separator decompose uniquely (`split_unique` of `Pithos.Lemmas.ListFacts`), and `splitOn` undoes `join` on
fields free of the separator (`splitOn_join`); values without outer white space are left alone by trimming, and trimming
adds no byte; a prefix is found and cut off; the idealised hash / MAC with their toy instances.

A fact about all bytes is proved by argument where there is one; what remains are two tables over
the sixteen hex digits and one over the 256 bytes (`upperHexChar_facts`), evaluated by the kernel.
-/
import Pithos.Model.Http.SigV4
import Pithos.Lemmas.ListFacts

namespace Pithos.SigV4

theorem forall_uint8 (P : UInt8 → Prop) (h : ∀ i : Fin 256, P (UInt8.ofNat i.val)) : ∀ c, P c := by
  intro c
  have := h ⟨c.toNat, UInt8.toNat_lt c⟩
  simpa using this

theorem forall_nibble (P : UInt8 → Prop) (h : ∀ i : Fin 16, P (UInt8.ofNat i.val)) : ∀ n, n < 16 → P n := by
  intro n hn
  have := h ⟨n.toNat, hn⟩
  simpa using this

theorem ne_of_class {p : UInt8 → Bool} {c k : UInt8} (hc : p c = true) (hk : p k = false) : c ≠ k := by
  rintro rfl
  rw [hk] at hc
  contradiction

theorem shiftRight4_lt (c : UInt8) : c >>> 4 < 16 := by
  rw [UInt8.lt_iff_toNat_lt, UInt8.toNat_shiftRight]
  have := c.toNat_lt
  simp [Nat.shiftRight_eq_div_pow]
  omega

theorem and15_lt (c : UInt8) : c &&& 15 < 16 := by
  rw [UInt8.lt_iff_toNat_lt, UInt8.toNat_and]
  have : c.toNat &&& 15 ≤ 15 := Nat.and_le_right
  simp
  omega

theorem ofNat_nibbles (c : UInt8) : UInt8.ofNat ((c >>> 4).toNat * 16 + (c &&& 15).toNat) = c := by
  have : (c >>> 4).toNat * 16 + (c &&& 15).toNat = c.toNat := by
    rw [UInt8.toNat_shiftRight, UInt8.toNat_and]
    have : c.toNat &&& 15 = c.toNat % 16 := Nat.and_two_pow_sub_one_eq_mod c.toNat 4
    simp [Nat.shiftRight_eq_div_pow, this]
    omega
  rw [this, UInt8.ofNat_toNat]

theorem hexNibbleU_facts : ∀ n : UInt8, n < 16 →
    isHexChar (hexNibbleU n) = true ∧ upperHexChar (hexNibbleU n) = hexNibbleU n ∧
    hexDigitVal (hexNibbleU n) = n.toNat := by
  apply forall_nibble
  decide

theorem hexNibbleL_facts : ∀ n : UInt8, n < 16 →
    hexDigitVal (hexNibbleL n) = n.toNat ∧ isSpaceByte (hexNibbleL n) = false := by
  apply forall_nibble
  decide

theorem upperHexChar_facts : ∀ c : UInt8, isHexChar c = true →
    isHexChar (upperHexChar c) = true ∧ hexDigitVal (upperHexChar c) = hexDigitVal c := by
  apply forall_uint8
  decide +kernel

/-- `b` is the lower-casing of nothing but itself unless `b - 32` is upper case: `c + 32 = b` has
the one solution `c = b - 32` -/
theorem eq_of_lowerByte_eq {c b : UInt8} (hb : isUpper (b - 32) = false) (h : lowerByte c = b) : c = b := by
  unfold lowerByte at h
  split at h
  · rename_i hu
    rw [← h, UInt8.add_sub_cancel, hu] at hb
    contradiction
  · exact h

/-- reads `hexL` back, with the digit values of `hexDigitVal` -/
def unhexL : Bytes → Bytes
  | a :: b :: t => UInt8.ofNat (hexDigitVal a * 16 + hexDigitVal b) :: unhexL t
  | _ => []

theorem unhexL_hexL (s : Bytes) : unhexL (hexL s) = s := by
  induction s with
  | nil => rfl
  | cons c t ih =>
    rw [hexL, unhexL, (hexNibbleL_facts _ (shiftRight4_lt c)).1, (hexNibbleL_facts _ (and15_lt c)).1,
      ofNat_nibbles, ih]

theorem hexL_injective (a b : Bytes) (h : hexL a = hexL b) : a = b := by
  have := congrArg unhexL h
  rwa [unhexL_hexL, unhexL_hexL] at this

theorem hexL_nospace (s : Bytes) : ∀ b ∈ hexL s, isSpaceByte b = false := by
  induction s with
  | nil => exact fun _ hb => nomatch hb
  | cons c t ih =>
    rw [hexL, List.forall_mem_cons, List.forall_mem_cons]
    exact ⟨(hexNibbleL_facts _ (shiftRight4_lt c)).2, (hexNibbleL_facts _ (and15_lt c)).2, ih⟩

theorem hexL_ne_nil (s : Bytes) (h : s ≠ []) : hexL s ≠ [] := by
  cases s with
  | nil => exact absurd rfl h
  | cons c t => simp [hexL]

theorem join_cons_cons (sep x y : Bytes) (t : List Bytes) :
    join sep (x :: y :: t) = x ++ sep ++ join sep (y :: t) := rfl

theorem not_mem_join {b : UInt8} {sep : Bytes} {l : List Bytes} (hs : b ∉ sep) (h : ∀ x ∈ l, b ∉ x) :
    b ∉ join sep l := by
  match l with
  | [] => simp [join]
  | [x] => simpa [join] using h
  | x :: y :: t =>
    rw [join_cons_cons, List.mem_append, List.mem_append]
    have := not_mem_join hs fun z hz => h z (List.mem_cons_of_mem x hz)
    simp [hs, h x, this]

theorem splitOn_no_sep (sep : UInt8) (a : Bytes) (h : sep ∉ a) : splitOn sep a = [a] := by
  induction a with
  | nil => rfl
  | cons c t ih =>
    have hc : c ≠ sep := by intro e; apply h; simp [e]
    have ht : sep ∉ t := by intro m; apply h; simp [m]
    simp [splitOn, hc, ih ht]

theorem splitOn_append (sep : UInt8) (a rest : Bytes) (h : sep ∉ a) :
    splitOn sep (a ++ sep :: rest) = a :: splitOn sep rest := by
  induction a with
  | nil => simp [splitOn]
  | cons c t ih =>
    have hc : c ≠ sep := by intro e; apply h; simp [e]
    have ht : sep ∉ t := by intro m; apply h; simp [m]
    simp [splitOn, hc, ih ht]

theorem splitOn_join (sep : UInt8) : ∀ l : List Bytes, l ≠ [] → (∀ y ∈ l, sep ∉ y) → splitOn sep (join [sep] l) = l
  | [], hne, _ => absurd rfl hne
  | [x], _, h => splitOn_no_sep sep x (h x (by simp))
  | x :: y :: t, _, h => by
    rw [join_cons_cons, List.append_assoc, List.singleton_append, splitOn_append _ _ _ (h x (by simp)),
      splitOn_join sep (y :: t) (List.cons_ne_nil _ _) fun z hz => h z (List.mem_cons_of_mem _ hz)]

/-- first byte is not white space (or the value is empty) -/
def headOK : Bytes → Bool
  | [] => true
  | c :: _ => !isSpaceByte c

/-- last byte is not white space (or the value is empty) -/
def lastOK (v : Bytes) : Bool :=
  match v.getLast? with
  | none => true
  | some c => !isSpaceByte c

theorem headOK_iff (v : Bytes) : headOK v = true ↔ ∀ c, v.head? = some c → isSpaceByte c = false := by
  cases v <;> simp [headOK]

theorem lastOK_iff (v : Bytes) : lastOK v = true ↔ ∀ c, v.getLast? = some c → isSpaceByte c = false := by
  unfold lastOK
  cases v.getLast? <;> simp

theorem headOK_of_nospace (s : Bytes) (h : ∀ b ∈ s, isSpaceByte b = false) : headOK s = true := by
  cases s with
  | nil => rfl
  | cons c t => simp [headOK, h c (by simp)]

theorem lastOK_of_nospace (s : Bytes) (h : ∀ b ∈ s, isSpaceByte b = false) : lastOK s = true := by
  unfold lastOK
  cases hl : s.getLast? with
  | none => rfl
  | some c => simp [h c (List.mem_of_getLast? hl)]

theorem trimLeft_of_headOK (v : Bytes) (h : headOK v = true) : trimLeft v = v :=
  dropWhile_of_head _ v ((headOK_iff v).1 h)

theorem trimRight_append (x ws : Bytes) (hws : ∀ b ∈ ws, isSpaceByte b = true) (h : lastOK x = true) :
    trimRight (x ++ ws) = x :=
  dropRight_append _ x ws hws ((lastOK_iff x).1 h)

theorem trimRight_of_lastOK (v : Bytes) (h : lastOK v = true) : trimRight v = v := by
  simpa using trimRight_append v [] (by simp) h

theorem trimSpace_of_OK (v : Bytes) (h1 : headOK v = true) (h2 : lastOK v = true) : trimSpace v = v := by
  unfold trimSpace
  rw [trimLeft_of_headOK v h1, trimRight_of_lastOK v h2]

theorem trim32_of_OK (v : Bytes) (h1 : headOK v = true) (h2 : lastOK v = true) : trim32 v = v := by
  have ne32 : ∀ c, isSpaceByte c = false → (c == 32) = false := fun c h => (Bool.or_eq_false_iff.1 h).1
  simpa [trim32] using trim_append (· == 32) v [] (by simp) (fun c e => ne32 c ((headOK_iff v).1 h1 c e))
    fun c e => ne32 c ((lastOK_iff v).1 h2 c e)

theorem mem_of_mem_trimSpace (s : Bytes) (b : UInt8) (h : b ∈ trimSpace s) : b ∈ s := by
  unfold trimSpace trimRight trimLeft at h
  have h1 := List.mem_reverse.1 h
  have h2 := (List.dropWhile_sublist _).subset h1
  have h3 := List.mem_reverse.1 h2
  exact (List.dropWhile_sublist _).subset h3

theorem headOK_append (a b : Bytes) : headOK (a ++ b) = if a.isEmpty then headOK b else headOK a := by
  cases a <;> simp [headOK]

theorem lastOK_append (a b : Bytes) : lastOK (a ++ b) = if b.isEmpty then lastOK a else lastOK b := by
  cases b with
  | nil => simp
  | cons d t =>
    unfold lastOK
    rw [List.getLast?_append]
    cases h : (d :: t).getLast? with
    | none => simp at h
    | some x => simp

theorem hasPrefix_append (p t : Bytes) : hasPrefix p (p ++ t) = true := by
  simp [hasPrefix]

theorem hasPrefix_cons_ne {c d : UInt8} (s t : Bytes) (h : d ≠ c) : hasPrefix (c :: s) (d :: t) = false := by
  simp [hasPrefix, h]

theorem cutPrefix_append (p t : Bytes) : cutPrefix p (p ++ t) = some t := by
  simp [cutPrefix, hasPrefix_append]

-- The idealised primitives enter the theorems as hypotheses, never as axioms.

/-- idealised hash: no two inputs share a digest -/
def CollisionFree (h : Bytes → Bytes) : Prop := ∀ a b, h a = h b → a = b

/-- idealised MAC: a tag determines the key and the message it was computed for — nobody can
present a valid tag for a message (or under a key) other than the one it was made for -/
def Unforgeable (mac : Bytes → Bytes → Bytes) : Prop := ∀ k m k' m', mac k m = mac k' m' → k = k' ∧ m = m'

theorem signature_inj {c : Crypto} (hunf : Unforgeable c.hmac) {k m k' m' : Bytes}
    (h : signature c k m = signature c k' m') : k = k' ∧ m = m' :=
  hunf _ _ _ _ (hexL_injective _ _ h)

/-- toy hash for the non-vacuity examples: the identity -/
def toySha (b : Bytes) : Bytes := b

/-- toy MAC for the non-vacuity examples: unary length of the key, a zero, the key, the message -/
def toyMac (k m : Bytes) : Bytes := List.replicate k.length 1 ++ 0 :: (k ++ m)

theorem toySha_collisionFree : CollisionFree toySha := fun _ _ h => h

theorem toyMac_unforgeable : Unforgeable toyMac := by
  intro k m k' m' h
  unfold toyMac at h
  obtain ⟨h1, h2⟩ := split_unique 0 (by simp) (by simp) h
  have hl : k.length = k'.length := by
    have := congrArg List.length h1
    simpa using this
  exact List.append_inj h2 hl

end Pithos.SigV4
