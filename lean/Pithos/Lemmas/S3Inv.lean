/-
The row invariant of the storage model: in every reachable state, in every bucket,
  * row ids are below the allocation counter and pairwise distinct, and
  * every key has AT MOST ONE row flagged `latest`
(`RowsInv`; that every operation preserves it is `step_inv` in `Pithos.Lemmas.S3Step`, and
`Pithos.C02.reachable_one_latest` is the statement for all histories). Here: how replacing, adding and
filtering rows keep it, and the write path, analysed once: `InstEff` says what `install` leaves,
`putRow_eff` that a successful `putRow` is an `install`; `S3Step` reads the row edits off `InstEff`.
-/
import Pithos.Lemmas.S3Rows

namespace Pithos.S3

structure RowsInv (nextRow : Nat) (rows : List Row) : Prop where
  fresh : ∀ r ∈ rows, r.rowId < nextRow
  nodup : (ids rows).Nodup
  one   : ∀ k, lc rows k ≤ 1

def Inv (s : State) : Prop := ∀ bk ∈ s.buckets, RowsInv s.nextRow bk.rows

theorem RowsInv.mono {n m : Nat} {rows : List Row} (h : RowsInv n rows) (hnm : n ≤ m) : RowsInv m rows :=
  ⟨fun r hr => Nat.lt_of_lt_of_le (h.fresh r hr) hnm, h.nodup, h.one⟩

theorem RowsInv.nil (n : Nat) : RowsInv n [] := ⟨by simp, by simp [ids], by simp [lc]⟩

theorem RowsInv.filter {n : Nat} {rows : List Row} (h : RowsInv n rows) (q : Row → Bool) : RowsInv n (rows.filter q) :=
  ⟨fun r hr => h.fresh r (List.mem_filter.1 hr).1, ids_filter_nodup rows q h.nodup,
   fun k => Nat.le_trans (lc_filter_le rows k q) (h.one k)⟩

theorem RowsInv.latest_unique {n : Nat} {rows : List Row} (h : RowsInv n rows) {a b : Row} (ha : a ∈ rows) (hb : b ∈ rows)
    (hk : a.key = b.key) (hla : a.latest = true) (hlb : b.latest = true) : a = b :=
  eq_of_countP_le_one (h.one b.key) ha hb (by simp [hk, hla]) (by simp [hlb])

theorem RowsInv.replace {n : Nat} {rows : List Row} (h : RowsInv n rows) {r y : Row} (hr : r ∈ rows)
    (hid : y.rowId = r.rowId) (hl : y.latest = true → (r.key = y.key ∧ r.latest = true) ∨ lc rows y.key = 0) :
    RowsInv n (repl rows y) := by
  refine ⟨forall_mem_repl h.fresh (by rw [hid]; exact h.fresh r hr), by rw [ids_repl]; exact h.nodup, fun k => ?_⟩
  · have hc := countP_repl (fun x => x.key == k && x.latest) rows r y h.nodup hr hid
    have hone := h.one k
    unfold lc at *
    by_cases hy : (y.key == k && y.latest) = true
    · -- `y` counts for `k`: so did `r`, or nothing did
      simp only [Bool.and_eq_true, beq_iff_eq] at hy
      obtain ⟨rfl, hyl⟩ := hy
      rcases hl hyl with ⟨hk, hrl⟩ | hz
      · simp [hk, hrl, hyl] at hc; omega
      · simp [hyl] at hc; split at hc <;> omega
    · simp [hy] at hc
      split at hc <;> omega

theorem RowsInv.add {n : Nat} {rows : List Row} (h : RowsInv n rows) {y : Row}
    (hid : y.rowId = n) (hz : lc rows y.key = 0 ∨ y.latest = false) : RowsInv (n + 1) (rows ++ [y]) := by
  refine ⟨?_, ?_, ?_⟩
  · intro z hz'
    rcases List.mem_append.1 hz' with hz'' | hz''
    · exact Nat.lt_succ_of_lt (h.fresh z hz'')
    · simp at hz''; subst hz''; omega
  · unfold ids
    rw [List.map_append, List.nodup_append]
    refine ⟨h.nodup, by simp, ?_⟩
    intro a ha b hb
    simp at hb; subst hb
    obtain ⟨x, hx, rfl⟩ := List.mem_map.1 ha
    have := h.fresh x hx
    omega
  · intro k
    rw [lc_append, lc_single]
    have hone := h.one k
    by_cases hy : (y.key == k && y.latest) = true
    · simp [hy]
      rcases hz with hz | hz
      · have : y.key = k := by simp at hy; exact hy.1
        subst this; omega
      · simp [hz] at hy
    · simp [hy]; exact hone

theorem unlatest_rows (q : Quirks) (now : Nat) (bk : Bucket) (r : Row) :
    (unlatest q now bk r).rows = repl bk.rows { r with latest := false, updated := if q.touchOnAnySave then now else r.updated } := rfl

theorem lc_unlatest (q : Quirks) (now : Nat) (bk : Bucket) {r : Row} {k : String} {n : Nat}
    (h : RowsInv n bk.rows) (hr : r ∈ bk.rows) (hk : r.key = k) (hlat : r.latest = true) :
    lc (unlatest q now bk r).rows k = 0 := by
  rw [unlatest_rows]
  refine lc_eq_zero.2 fun z hz hzl hzk => ?_
  rcases mem_repl hz with rfl | ⟨hz', hne⟩
  · exact Bool.noConfusion hzl
  · -- another flagged row of `k` would be `r`
    have hzr : z = r := h.latest_unique hz' hr (hzk.trans hk.symm) hzl hlat
    exact hne (by rw [hzr])

theorem lc_unlatestCur (q : Quirks) (now : Nat) (bk : Bucket) (k : String) {n : Nat}
    (h : RowsInv n bk.rows) : lc (unlatestCur q now bk k).rows k = 0 := by
  unfold unlatestCur
  cases hl : latestRow bk k with
  | none => simpa using latestRow_eq_none.1 hl
  | some r =>
    obtain ⟨hr, hk, hlat⟩ := latestRow_some hl
    exact lc_unlatest q now bk h hr hk hlat

theorem lc_remove_latest {n : Nat} {rows : List Row} (h : RowsInv n rows) {r : Row} {k : String}
    (hr : r ∈ rows) (hk : r.key = k) (hl : r.latest = true) :
    lc (rows.filter (fun x => x.rowId != r.rowId)) k = 0 := by
  refine lc_eq_zero.2 fun z hz hzl hzk => ?_
  obtain ⟨hz', hne⟩ := List.mem_filter.1 hz
  -- a flagged row of `k` is `r`, which the filter drops
  rw [h.latest_unique hz' hr (hzk.trans hk.symm) hzl hl] at hne
  simp at hne

theorem mem_unlatestCur (q : Quirks) (now : Nat) {bk : Bucket} (k : String) {n : Nat} (hb : RowsInv n bk.rows) {r : Row}
    (hr : r ∈ bk.rows) : ∃ r' ∈ (unlatestCur q now bk k).rows, r'.rowId = r.rowId ∧ r'.key = r.key ∧ r'.vid = r.vid := by
  unfold unlatestCur
  cases hl : latestRow bk k with
  | none => exact ⟨r, hr, rfl, rfl, rfl⟩
  | some c =>
    by_cases hc : r.rowId = c.rowId
    · rw [eq_of_id_eq hb.nodup hr (latestRow_some hl).1 hc]
      exact ⟨_, mem_repl_same (latestRow_some hl).1 rfl, rfl, rfl, rfl⟩
    · exact ⟨r, mem_repl_other hr hc, rfl, rfl, rfl⟩

theorem of_mem_unlatestCur {q : Quirks} {now : Nat} {bk : Bucket} {k : String} {x : Row}
    (hx : x ∈ (unlatestCur q now bk k).rows) : ∃ x0 ∈ bk.rows, x0.key = x.key ∧ x0.vid = x.vid := by
  unfold unlatestCur at hx
  cases hl : latestRow bk k with
  | none => rw [hl] at hx; exact ⟨x, hx, rfl, rfl⟩
  | some c =>
    rw [hl] at hx
    rcases mem_repl hx with rfl | ⟨hx', _⟩
    · exact ⟨c, (latestRow_some hl).1, rfl, rfl⟩
    · exact ⟨x, hx', rfl, rfl⟩

theorem setBucket_nextRow (s : State) (bk : Bucket) : (setBucket s bk).nextRow = s.nextRow := rfl

/-- `InstEff q s bk k n s' v`: `install` of `n` under `k` into `bk` may leave `s'` and return the
version id `v`. The current row of `k` loses its flag (`unlatestCur`); then a row for `k` is added,
with a new version id or as the null version when `bk` has no null row of `k`, or the null row `nr`
of `k` is replaced in place (`r'` is what `unlatestCur` made of `nr`). -/
inductive InstEff (q : Quirks) (s : State) (bk : Bucket) (k : String) (n : NewObj) : State → Option Nat → Prop
  | add (v : Option Nat) (c nv : Nat) :
      (v = some s.nextVid ∧ nv = s.nextVid + 1) ∨ (v = none ∧ nv = s.nextVid ∧ nullRow bk k = none) →
      InstEff q s bk k n { setBucket s (addRow (unlatestCur q s.clock bk k) (mkRow s.nextRow k v c s.clock n)) with
        nextVid := nv, nextRow := s.nextRow + 1 } v
  | replace {nr r' : Row} (c : Nat) : nullRow bk k = some nr → r' ∈ (unlatestCur q s.clock bk k).rows →
      r'.rowId = nr.rowId → r'.key = k → r'.vid = none →
      InstEff q s bk k n (setBucket s (replaceRow (unlatestCur q s.clock bk k) (mkRow nr.rowId k none c s.clock n))) none

theorem install_eff (q : Quirks) {s : State} {bk : Bucket} (k : String) (n : NewObj) (hb : RowsInv s.nextRow bk.rows) :
    InstEff q s bk k n (install q s bk k n).1 (install q s bk k n).2 := by
  unfold install
  simp only []
  split
  · exact .add _ _ _ (Or.inl ⟨rfl, rfl⟩)
  · cases hn : nullRow bk k with
    | none => exact .add none _ _ (Or.inr ⟨rfl, rfl, hn⟩)
    | some nr =>
      obtain ⟨hm, hk, hv⟩ := rowByVid_mem (show rowByVid bk k none = some nr from hn)
      obtain ⟨r', hr', hid, hk', hv'⟩ := mem_unlatestCur q s.clock k hb hm
      exact .replace _ hn hr' hid (hk'.trans hk) (hv'.trans hv)

theorem putRow_eff {q : Quirks} {s s' : State} {bk : Bucket} {k : String} {n : NewObj} {inm : Bool} {im : IfMatch}
    {vid : Option Nat} (hb : RowsInv s.nextRow bk.rows) (hok : putRow q s bk k n inm im = .ok (s', vid)) :
    InstEff q s bk k n s' vid := by
  have e := install_eff q k n hb
  rwa [← putRow_ok hb.nodup hok] at e

end Pithos.S3
