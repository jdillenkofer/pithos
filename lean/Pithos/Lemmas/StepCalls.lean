/-
What the replication and routing proofs add to the storage model's equations of its calls
(`S3.stepT_*_eq` in Lemmas/S3Write, over `S3.withB`, `S3.withU`, `S3.unpack`; `putRow` in normal form is
`S3.putRow_eq`): `step_tick`, by which those equations apply to `S3.step`; `delNone`, DeleteObject without
a version id as one chain of tests; and `xstep_run`, which says of the two extended calls that they run
`S3.step` or fail before it. A case of `S3.stepT` unfolds to the named pieces, so a lemma about the
outermost piece applies to it as it stands (the walk in Lemmas/Timestamps, the reads in Lemmas/StepTouch).
-/
import Pithos.Model.S3Ext
import Pithos.Lemmas.S3Shape

namespace Pithos.Replication
open Pithos.S3 Pithos.S3Ext

/-- Two passes through the three refusal tests of `putRow` (`S3.putRow_eq`) whose tests agree: what `g`
and `h` make of them agrees if it does for the refusal and for the result. -/
theorem ite3_congr {α β γ : Type} (g : α → γ) (h : β → γ) {a a' b b' c c' : Bool} {e x : α} {e' x' : β}
    (ha : a = a') (hb : b = b') (hc : c = c') (he : g e = h e') (hx : g x = h x') :
    g (if a then e else if b then e else if c then e else x) =
      h (if a' then e' else if b' then e' else if c' then e' else x') := by
  subst ha hb hc
  cases a <;> cases b <;> cases c <;> assumption

/-! `deleteOp` without a version id as one chain of tests; the bucket the delete marker is added to is the
storage model's `S3.beforeMarker` (Lemmas/S3Shape). -/

def delNone (q : Quirks) (s : State) (bk : Bucket) (k : String) (im : IfMatch) : State × Out :=
  if (if bk.ver == .suspended then nullRow bk k else latestRow bk k).isNone && !(bk.ver != .off) then
    if im != .none then (s, .err .preconditionFailed) else (s, .deleted none false)
  else if !ifMatchOk im (latestRow bk k) then (s, .err .preconditionFailed)
  else if bk.ver != .off then
    ({ setBucket s (addRow (beforeMarker q s.clock bk k)
          { rowId := s.nextRow, key := k, vid := some s.nextVid, dm := true, latest := true,
            created := s.clock, updated := s.clock, wrote := s.clock }) with
        nextVid := s.nextVid + 1, nextRow := s.nextRow + 1 },
     .deleted (some (some s.nextVid)) true)
  else
    match latestRow bk k with
    | some r => (setBucket s (removeRow bk r.rowId), .deleted none false)
    | none => (s, .deleted none false)

theorem deleteOp_none_eq (q : Quirks) (s : State) (bk : Bucket) (k : String) (im : IfMatch) :
    deleteOp q s bk k none im = delNone q s bk k im := by
  rfl

theorem step_tick (q : Quirks) (s : State) (op : Op) : step q s op = stepT q (tick s) op := rfl

/-- How an extended call runs: it fails before it reaches the state, runs one call of `S3.step`
(UploadPartCopy is an UploadPart of the bytes it read), or runs the DeleteObjects loop. -/
inductive XRun (q : Quirks) (s : State) : XOp → State × XOut → Prop
  | fail (op : XOp) (e : Err) : XRun q s op (tick s, .base (.err e))
  | base (op : Op) : XRun q s (.base op) ((step q s op).1, .base (step q s op).2)
  | part (sb sk : String) (svid : Option (Option Nat)) (db dk : String) (uid n : Nat) (range : Option (Nat × Nat))
      (body : Bytes) : XRun q s (.partCopy sb sk svid db dk uid n range)
        ((step q s (.uploadPart db dk uid n body)).1, .base (step q s (.uploadPart db dk uid n body)).2)
  | many (b : String) (keys : List String) :
      XRun q s (.delMany b keys) ((delManyLoop q b s keys).1, .many (delManyLoop q b s keys).2)

theorem xstep_run (q : Quirks) (s : State) (op : XOp) : XRun q s op (xstep q s op) := by
  cases op with
  | base op => exact .base op
  | partCopy sb sk svid db dk uid n range =>
    simp only [xstep]
    cases readSource s sb sk svid with
    | error e => exact .fail _ e
    | ok r =>
      dsimp only
      cases sliceOf r.content range with
      | error e => exact .fail _ e
      | ok body => exact .part sb sk svid db dk uid n range body
  | delMany b keys =>
    simp only [xstep]
    cases findBucket s b with
    | none => exact .fail _ _
    | some bk => exact .many b keys

end Pithos.Replication
