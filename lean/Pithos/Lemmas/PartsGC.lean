/-
Helper lemmas for C09: what one sequential pass of the garbage collector (`gcRunF`, `gcRun` of
`Pithos.Model.Parts`) does to a state satisfying `RefInv`.  Core Lean only.
-/
import Pithos.Lemmas.Parts

namespace Pithos.Parts

theorem reconcileOne_obsOf (q : SqlFacts) {s : St} (h : RefInv s) (o : Obs) (ho : o ∈ obsOf s) : reconcileOne q s o = s := by
  obtain ⟨_, hact, h3⟩ := obsOf_mem ho
  rcases h3 with ⟨c, v, hr, hrc, hv⟩ | ⟨hr, hpos, _⟩
  · have hc := h.count hr
    unfold reconcileOne
    simp only [hv]
    have h0 : ¬ o.actual = 0 := by omega
    have hrc' : ¬ (o.rc ≠ some o.actual) := by
      rw [hrc, hact]; simp; omega
    simp [h0, hrc']
  · have := h.regd o.pid hr; omega

theorem reconcileAll_fix (q : SqlFacts) {s : St} (l : List Obs) (h : ∀ o ∈ l, reconcileOne q s o = s) : reconcileAll q s l = s := by
  induction l with
  | nil => rfl
  | cons o os ih =>
    simp only [reconcileAll]
    rw [h o (by simp)]
    exact ih (fun x hx => h x (List.mem_cons_of_mem _ hx))

theorem reconcileAll_obsOf (q : SqlFacts) {s : St} (h : RefInv s) : reconcileAll q s (obsOf s) = s :=
  reconcileAll_fix q _ (fun o ho => reconcileOne_obsOf q h o ho)

theorem CondemnSpec.refl {cfg : Cfg} {st : Store} {t : St} (h : RefInv t) : CondemnSpec cfg st [] t t :=
  ⟨h, rfl, rfl, rfl, rfl, rfl, fun _ _ => rfl, by simp, by simp⟩

theorem CondemnSpec.append {cfg : Cfg} {st : Store} {l₁ l₂ : List PartId} {t t₁ t₂ : St}
    (h₁ : CondemnSpec cfg st l₁ t t₁) (h₂ : CondemnSpec cfg st l₂ t₁ t₂) : CondemnSpec cfg st (l₁ ++ l₂) t t₂ := by
  refine ⟨h₂.inv, h₂.rows.trans h₁.rows, h₂.reg.trans h₁.reg, h₂.used.trans h₁.used, h₂.now.trans h₁.now,
    h₂.obs.trans h₁.obs, fun a b => (h₂.idx a b).trans (h₁.idx a b), fun a b => ?_, fun x => ?_⟩
  · rw [h₂.stores, h₁.stores, h₁.reg]
    by_cases hc : cfg.txFree st = false ∧ a = st ∧ t.reg b = none
    · obtain ⟨c1, c2, c3⟩ := hc
      by_cases hb₁ : b ∈ l₁ <;> by_cases hb₂ : b ∈ l₂ <;> simp [c1, c2, c3, hb₁, hb₂]
    · have hn : ∀ l : List PartId, ¬(cfg.txFree st = false ∧ a = st ∧ b ∈ l ∧ t.reg b = none) :=
        fun l h' => hc ⟨h'.1, h'.2.1, h'.2.2.2⟩
      rw [if_neg (hn _), if_neg (hn _), if_neg (hn _)]
  · rw [h₂.ext, h₁.ext, h₁.reg]
    simp only [List.mem_append, or_and_right, and_or_left, or_assoc]

theorem condemnAll_spec (cfg : Cfg) (st : Store) (l : List PartId) (t : St) (h : RefInv t)
    (hu : ∀ p ∈ l, p ∈ t.used) : CondemnSpec cfg st l t (condemnAll cfg t st l) := by
  induction l generalizing t with
  | nil => exact .refl h
  | cons p ps ih =>
    have s1 := condemn_spec cfg st p t h (hu p (by simp))
    exact s1.append (ih _ s1.inv fun q hq => s1.used ▸ hu q (List.mem_cons_of_mem _ hq))

theorem extAll_inv {s : St} (h : RefInv s) (fail : PartId → Bool) : RefInv (extAll s fail) := by
  refine (h.queues s.now (fun _ => id) (ext := []) (by simp)).delete (fun a b hab => ?_) fun a b hs hn => ?_
  · split at hab
    · exact absurd rfl hab
    · exact hab
  · split at hn
    · next hq =>
      obtain ⟨e, he, heq⟩ := List.any_eq_true.1 (Bool.and_eq_true_iff.1 hq).1
      have : e = (a, b) := by simpa using heq
      exact ⟨(h.ext (a, b) (this ▸ he)).2, by simp⟩
    · exact absurd hn hs

/-- Is `b` listed by store `a` and older than the cutoff? -/
def isOld (cfg : Cfg) (t : St) (a : Store) (b : PartId) : Bool :=
  match t.stores a b with
  | some tm => decide (tm + cfg.grace < t.now)
  | none => false

theorem isOld_iff (cfg : Cfg) (t : St) (a : Store) (b : PartId) :
    isOld cfg t a b = true ↔ ∃ tm, t.stores a b = some tm ∧ tm + cfg.grace < t.now := by
  unfold isOld
  cases t.stores a b <;> simp

theorem isOld_of_stores (cfg : Cfg) {t u : St} {a : Store} {b : PartId} {C : Prop} [Decidable C]
    (hs : u.stores a b = if C then none else t.stores a b) (hn : u.now = t.now) :
    isOld cfg u a b = if C then false else isOld cfg t a b := by
  unfold isOld
  rw [hs, hn]
  by_cases hc : C
  · rw [if_pos hc, if_pos hc]
  · rw [if_neg hc, if_neg hc]

theorem mem_candidates (cfg : Cfg) (t : St) (st : Store) (p : PartId) :
    p ∈ candidates cfg t st ↔ p ∈ t.used ∧ isOld cfg t st p = true := by
  unfold candidates isOld
  rw [List.mem_filter]
  exact Iff.rfl

/-- One store swept, all deletions succeeding. -/
structure SweepSpec (cfg : Cfg) (st : Store) (t u : St) : Prop where
  inv : RefInv u
  rows : u.rows = t.rows
  reg : u.reg = t.reg
  used : u.used = t.used
  now : u.now = t.now
  obs : u.gcObs = t.gcObs
  ext : u.gcExt = []
  idx : ∀ a b, u.idx a b = t.idx a b
  stores : ∀ a b, u.stores a b =
    if a = st ∧ b ∈ t.used ∧ isOld cfg t st b = true ∧ t.reg b = none then none else t.stores a b

theorem sweep_spec (cfg : Cfg) (st : Store) (t : St) (h : RefInv t) (hx : t.gcExt = []) :
    SweepSpec cfg st t (sweepStore cfg (fun _ => false) t st) := by
  have sp := condemnAll_spec cfg st (candidates cfg t st) t h
    (fun p hp => ((mem_candidates cfg t st p).1 hp).1)
  unfold sweepStore
  refine ⟨extAll_inv sp.inv _, sp.rows, sp.reg, sp.used, sp.now, sp.obs, rfl, sp.idx, fun a b => ?_⟩
  -- queued or deleted in the transaction: either way a condemned candidate's file is gone
  have hq : (condemnAll cfg t st (candidates cfg t st)).gcExt.any (fun e => e == (a, b)) = true ↔
      (cfg.txFree st = true ∧ a = st ∧ b ∈ candidates cfg t st ∧ t.reg b = none) := by
    rw [List.any_eq_true]
    constructor
    · rintro ⟨e, he, heq⟩
      obtain rfl : e = (a, b) := by simpa using heq
      simpa [hx] using (sp.ext (a, b)).1 he
    · exact fun hc => ⟨(a, b), (sp.ext (a, b)).2 (Or.inr hc), by simp⟩
  show (if _ then none else _) = _
  simp only [Bool.not_false, Bool.and_true, hq, sp.stores a b, mem_candidates]
  by_cases hc : a = st ∧ b ∈ t.used ∧ isOld cfg t st b = true ∧ t.reg b = none
  · obtain ⟨c1, c2, c3, c4⟩ := hc
    cases cfg.txFree st <;> simp [c1, c2, c3, c4]
  · have hn : ∀ v, ¬(cfg.txFree st = v ∧ a = st ∧ (b ∈ t.used ∧ isOld cfg t st b = true) ∧ t.reg b = none) :=
      fun v h' => hc ⟨h'.2.1, h'.2.2.1.1, h'.2.2.1.2, h'.2.2.2⟩
    rw [if_neg (hn _), if_neg (hn _), if_neg hc]

/-- All stores of `l` swept, in closed form. -/
structure FoldSpec (cfg : Cfg) (l : List Store) (t u : St) : Prop where
  inv : RefInv u
  rows : u.rows = t.rows
  reg : u.reg = t.reg
  used : u.used = t.used
  now : u.now = t.now
  obs : u.gcObs = t.gcObs
  ext : u.gcExt = []
  idx : ∀ a b, u.idx a b = t.idx a b
  stores : ∀ a b, u.stores a b =
    if a ∈ l ∧ b ∈ t.used ∧ isOld cfg t a b = true ∧ t.reg b = none then none else t.stores a b

theorem SweepSpec.age {cfg : Cfg} {st : Store} {t u : St} (sp : SweepSpec cfg st t u) (a : Store) (b : PartId) :
    isOld cfg u a b =
      if a = st ∧ b ∈ t.used ∧ isOld cfg t st b = true ∧ t.reg b = none then false else isOld cfg t a b :=
  isOld_of_stores cfg (sp.stores a b) sp.now

theorem FoldSpec.age {cfg : Cfg} {l : List Store} {t u : St} (sp : FoldSpec cfg l t u) (a : Store) (b : PartId) :
    isOld cfg u a b =
      if a ∈ l ∧ b ∈ t.used ∧ isOld cfg t a b = true ∧ t.reg b = none then false else isOld cfg t a b :=
  isOld_of_stores cfg (sp.stores a b) sp.now

theorem fold_spec (cfg : Cfg) (l : List Store) (t : St) (h : RefInv t) (hx : t.gcExt = []) :
    FoldSpec cfg l t (l.foldl (sweepStore cfg (fun _ => false)) t) := by
  induction l generalizing t with
  | nil => exact ⟨h, rfl, rfl, rfl, rfl, rfl, hx, fun _ _ => rfl, by simp⟩
  | cons st l ih =>
    simp only [List.foldl]
    have s1 := sweep_spec cfg st t h hx
    have s2 := ih (sweepStore cfg (fun _ => false) t st) s1.inv s1.ext
    refine ⟨s2.inv, s2.rows.trans s1.rows, s2.reg.trans s1.reg, s2.used.trans s1.used, s2.now.trans s1.now,
      s2.obs.trans s1.obs, s2.ext, fun a b => (s2.idx a b).trans (s1.idx a b), fun a b => ?_⟩
    rw [s2.stores a b, s1.reg, s1.used, s1.age a b, s1.stores a b]
    -- a file of `st` deleted by the first sweep is gone whatever the later ones do; any other file
    -- meets the later sweeps as it was
    by_cases hc : a = st ∧ b ∈ t.used ∧ isOld cfg t st b = true ∧ t.reg b = none
    · obtain ⟨rfl, hd⟩ := hc
      simp [hd]
    · rw [if_neg hc, if_neg hc]
      by_cases ha : a = st
      · have hd : ¬(b ∈ t.used ∧ isOld cfg t a b = true ∧ t.reg b = none) := fun hd => hc ⟨ha, ha ▸ hd⟩
        rw [if_neg fun x => hd x.2, if_neg fun x => hd x.2]
      · simp [ha]

/-- Frame of a pass whose queued deletions may fail: nothing but stores / index / queues changes,
and stores only lose entries. -/
structure WeakSpec (t u : St) : Prop where
  inv : RefInv u
  rows : u.rows = t.rows
  reg : u.reg = t.reg
  used : u.used = t.used
  now : u.now = t.now
  ext : u.gcExt = []
  stores : ∀ a b, u.stores a b = none ∨ u.stores a b = t.stores a b

theorem sweep_weak (cfg : Cfg) (fail : PartId → Bool) (st : Store) (t : St) (h : RefInv t) :
    WeakSpec t (sweepStore cfg fail t st) := by
  have sp := condemnAll_spec cfg st (candidates cfg t st) t h
    (fun p hp => ((mem_candidates cfg t st p).1 hp).1)
  unfold sweepStore
  refine ⟨extAll_inv sp.inv _, sp.rows, sp.reg, sp.used, sp.now, rfl, ?_⟩
  intro a b
  simp only [extAll]
  split
  · exact Or.inl rfl
  · rw [sp.stores a b]
    split
    · exact Or.inl rfl
    · exact Or.inr rfl

theorem fold_weak (cfg : Cfg) (fail : PartId → Bool) (l : List Store) (t : St) (h : RefInv t)
    (hx : t.gcExt = []) : WeakSpec t (l.foldl (sweepStore cfg fail) t) :=
  List.foldlRecOn l _ ⟨h, rfl, rfl, rfl, rfl, hx, fun _ _ => Or.inr rfl⟩ fun u hu st _ =>
    have s := sweep_weak cfg fail st u hu.inv
    ⟨s.inv, s.rows.trans hu.rows, s.reg.trans hu.reg, s.used.trans hu.used, s.now.trans hu.now, s.ext,
      fun a b => (s.stores a b).elim Or.inl fun e => e ▸ hu.stores a b⟩

/-- The state the sweeps start from: reconciliation did nothing, the index was pruned/backfilled. -/
def afterDedup (s : St) : St := { s with gcObs := [], idx := gcDedupIdx s }

theorem afterDedup_inv {s : St} (h : RefInv s) : RefInv (afterDedup s) := by
  have h1 := gcDedup_inv h
  exact obs_shrink_inv h1 [] (by simp)

theorem gcRunF_eq (cfg : Cfg) (fail : PartId → Bool) {s : St} (h : RefInv s) :
    gcRunF cfg fail s = cfg.storeNames.foldl (sweepStore cfg fail) (afterDedup s) := by
  unfold gcRunF
  simp only [reconcileAll_obsOf cfg.sql h]
  rfl

theorem gcRunF_weak (cfg : Cfg) (fail : PartId → Bool) {s : St} (h : RefInv s) (hx : s.gcExt = []) :
    WeakSpec (afterDedup s) (gcRunF cfg fail s) := by
  rw [gcRunF_eq cfg fail h]
  exact fold_weak cfg fail cfg.storeNames (afterDedup s) (afterDedup_inv h) hx

theorem gcRun_spec (cfg : Cfg) {s : St} (h : RefInv s) (hx : s.gcExt = []) :
    FoldSpec cfg cfg.storeNames (afterDedup s) (gcRun cfg s) := by
  unfold gcRun
  rw [gcRunF_eq cfg _ h]
  exact fold_spec cfg cfg.storeNames (afterDedup s) (afterDedup_inv h) hx

theorem reg_iff_refs {s : St} (h : RefInv s) (p : PartId) : s.reg p ≠ none ↔ 0 < refs s.rows p := by
  constructor
  · intro hr
    cases hreg : s.reg p with
    | none => exact absurd hreg hr
    | some cv =>
      obtain ⟨c, v⟩ := cv
      have := h.count hreg
      omega
  · intro hpos hr
    have := h.regd p hr; omega

theorem idx_target_referenced {s : St} (h : RefInv s) (st : Store) (ck : CKey) (p : PartId)
    (hi : s.idx st ck = some p) : 0 < refs s.rows p :=
  (reg_iff_refs h p).1 (h.idx_reg hi)

theorem gcDedupIdx_complete (s : St) (r : Row) (hr : r ∈ s.rows) (ck : CKey) (hck : r.ck = some ck) :
    gcDedupIdx s r.store ck ≠ none := by
  unfold gcDedupIdx
  cases dropIdx s.idx (fun q => refs s.rows q == 0) r.store ck with
  | some q => simp
  | none =>
    intro hn
    have := minNat_none _ hn
    have hm : r.pid ∈ (s.rows.filter (fun r' => r'.store == r.store && r'.ck == some ck)).map (·.pid) :=
      List.mem_map.2 ⟨r, List.mem_filter.2 ⟨hr, by simp [hck]⟩, rfl⟩
    rw [this] at hm; cases hm

theorem gcDedupIdx_idem {s u : St} (hu : RefInv u) (hrows : u.rows = s.rows)
    (hidx : ∀ a b, u.idx a b = gcDedupIdx s a b) (a b : Nat) : gcDedupIdx u a b = u.idx a b := by
  unfold gcDedupIdx
  cases hi : u.idx a b with
  | some q =>
    have hpos := idx_target_referenced hu a b q hi
    have hne : ¬ refs u.rows q = 0 := by omega
    have : dropIdx u.idx (fun q => refs u.rows q == 0) a b = some q := by
      unfold dropIdx; simp [hi, hne]
    simp [this]
  | none =>
    have hd : dropIdx u.idx (fun q => refs u.rows q == 0) a b = none := by
      unfold dropIdx; simp [hi]
    simp only [hd]
    have hs := hidx a b
    rw [hi] at hs
    unfold gcDedupIdx at hs
    rw [hrows]
    cases hds : dropIdx s.idx (fun q => refs s.rows q == 0) a b with
    | some q => simp [hds] at hs
    | none => simp only [hds] at hs; exact hs.symm

/-- Every unreferenced part sitting in a store is older than the grace window. -/
def OrphansOld (cfg : Cfg) (s : St) : Prop :=
  ∀ st p tm, s.stores st p = some tm → refs s.rows p = 0 → tm + cfg.grace < s.now

theorem gcRun_stores_exact (cfg : Cfg) {s : St} (h : RefInv s) (hx : s.gcExt = []) (hold : OrphansOld cfg s)
    (st : Store) (hst : st ∈ cfg.storeNames) (p : PartId) :
    (gcRun cfg s).stores st p ≠ none ↔ ∃ r ∈ s.rows, r.pid = p ∧ r.store = st := by
  have sp := gcRun_spec cfg h hx
  rw [sp.stores st p]
  constructor
  · intro hne
    by_cases hc : st ∈ cfg.storeNames ∧ p ∈ (afterDedup s).used ∧ isOld cfg (afterDedup s) st p = true ∧
        (afterDedup s).reg p = none
    · rw [if_pos hc] at hne; exact absurd rfl hne
    · rw [if_neg hc] at hne
      have hne' : s.stores st p ≠ none := hne
      by_cases hpos : 0 < refs s.rows p
      · obtain ⟨r, hr, hrp⟩ := mem_of_refs_pos hpos
        have hin := h.rowsIn r hr
        rw [hrp] at hin
        exact ⟨r, hr, hrp, h.home p _ _ hin hne'⟩
      · exfalso
        apply hc
        have h0 : refs s.rows p = 0 := by omega
        have hreg : s.reg p = none := by
          cases hr : s.reg p with
          | none => rfl
          | some cv => exact absurd ((reg_iff_refs h p).1 (by simp [hr])) hpos
        cases hs : s.stores st p with
        | none => exact absurd hs hne'
        | some tm =>
          have := hold st p tm hs h0
          exact ⟨hst, h.uStores st p hne', (isOld_iff cfg _ st p).2 ⟨tm, hs, this⟩, hreg⟩
  · rintro ⟨r, hr, hrp, hrs⟩
    have hreg : s.reg p ≠ none := hrp ▸ h.reg_of_row hr
    rw [if_neg (fun hc => hreg hc.2.2.2)]
    have := h.rowsIn r hr
    rw [hrp, hrs] at this; exact this

theorem St.ext {a b : St} (h1 : a.rows = b.rows) (h2 : a.reg = b.reg) (h3 : a.idx = b.idx)
    (h4 : a.stores = b.stores) (h5 : a.used = b.used) (h6 : a.now = b.now) (h7 : a.gcObs = b.gcObs)
    (h8 : a.gcExt = b.gcExt) : a = b := by
  cases a; cases b; simp_all

end Pithos.Parts
