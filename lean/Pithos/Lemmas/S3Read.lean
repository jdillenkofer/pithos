/-
"Write, then read" lemmas for the storage model: what `install` makes the current version of a
key, what `latestRow` / `rowByVid` find after an in-place edit of the row they found (tagging,
transition, append), and what GET/HEAD return for it afterwards. `found_of_ok` and `putRow_of_wrote`
read an acknowledgement backwards: the bucket was found, `putRow` gave the state answered (`C01.put_ack`,
`C12.appended_bucket`); `C01.absent_after_delete` says which row is current after an acknowledged delete.
-/
import Pithos.Lemmas.S3Step

namespace Pithos.S3

theorem latestRow_add {bk : Bucket} {k : String} {y : Row} (hz : lc bk.rows k = 0) (hk : y.key = k) (hl : y.latest = true) :
    latestRow (addRow bk y) k = some y := by
  have := latestRow_eq_none.2 hz
  unfold latestRow at this ⊢
  rw [addRow_rows, List.find?_append]
  simp [this, hk, hl]

theorem latestRow_repl {bk : Bucket} {k : String} {y r : Row} (hz : lc bk.rows k = 0)
    (hr : r ∈ bk.rows) (hid : y.rowId = r.rowId) (hk : y.key = k) (hl : y.latest = true) :
    latestRow (replaceRow bk y) k = some y := by
  unfold latestRow
  rw [replaceRow_rows]
  unfold lc at hz
  rw [List.countP_eq_zero] at hz
  exact find?_repl_none _ bk.rows y r hz hr hid (by simp [hk, hl])

theorem instEff_current {q : Quirks} {s s' : State} {bk0 bkx : Bucket} {b k : String} {n : NewObj} {v : Option Nat}
    (hfb : findBucket s b = some bk0) (hnx : bkx.name = b) (hix : RowsInv s.nextRow bkx.rows)
    (e : InstEff q s bkx k n s' v) :
    ∃ bk' id c, findBucket s' b = some bk' ∧ latestRow bk' k = some (mkRow id k v c s.clock n) := by
  have hz := lc_unlatestCur q s.clock bkx k hix
  cases e with
  | add v c nv =>
    exact ⟨_, _, _, findBucket_setBucket (s := s) hfb (by rw [addRow_name, unlatestCur_name, hnx]), latestRow_add hz rfl rfl⟩
  | replace c _ hr' hid =>
    exact ⟨_, _, _, findBucket_setBucket hfb (by rw [replaceRow_name, unlatestCur_name, hnx]),
      latestRow_repl hz hr' hid.symm rfl rfl⟩

theorem putRow_installs {q : Quirks} {s : State} {bk : Bucket} {b k : String} {n : NewObj} {inm : Bool} {im : IfMatch}
    {s' : State} {vid : Option Nat} (h : Inv s) (hfb : findBucket s b = some bk)
    (hok : putRow q s bk k n inm im = .ok (s', vid)) :
    ∃ bk' id c, findBucket s' b = some bk' ∧ latestRow bk' k = some (mkRow id k vid c s.clock n) :=
  have hb := h bk (findBucket_mem hfb)
  instEff_current hfb (findBucket_some_name hfb) hb (putRow_eff hb hok)

theorem putRow_current {q : Quirks} {s : State} {bk : Bucket} {b k : String} {n : NewObj} {inm : Bool} {im : IfMatch}
    {s' : State} {vid : Option Nat} (h : Inv s) (hfb : findBucket s b = some bk)
    (hok : putRow q s bk k n inm im = .ok (s', vid)) :
    ∃ bk' row, findBucket s' b = some bk' ∧ latestRow bk' k = some row ∧
      row.key = k ∧ row.dm = false ∧ row.parts = n.parts ∧ row.etag = n.etag ∧ row.ct = n.o.ct ∧ row.md = n.o.md ∧
      row.tags = n.o.tags ∧ row.cls = n.o.cls ∧ row.vid = vid ∧ row.wrote = s.clock := by
  obtain ⟨bk', id, c, h1, h2⟩ := putRow_installs h hfb hok
  exact ⟨bk', _, h1, h2, rfl, rfl, rfl, rfl, rfl, rfl, rfl, rfl, rfl, rfl⟩

theorem found_of_ok {s s1 : State} {b : String} {f : Bucket → State × Out} {o : Out} (ho : o.isErr = false)
    (h : withB s b f = (s1, o)) : ∃ bk, findBucket s b = some bk ∧ f bk = (s1, o) :=
  withB_ind (P := fun x => x = (s1, o) → ∃ bk, findBucket s b = some bk ∧ f bk = (s1, o))
    (fun h => by cases h; cases ho) (fun bk hfb h => ⟨bk, hfb, h⟩) h

theorem putRow_of_wrote {x : Except Err (State × Option Nat)} {s s1 : State} {e e' : ETag} {vid : Option Nat}
    (h : unpack s (fun v => .wrote v e) x = (s1, .wrote vid e')) : x = .ok (s1, vid) := by
  cases x with
  | error err => cases h
  | ok x => cases h; rfl

theorem step_get (q : Quirks) (s : State) (b k : String) (vid : Option (Option Nat)) :
    (step q s (.get b k vid)).2 = match findBucket s b with
      | none => .err .noSuchBucket
      | some bk => match resolve bk k vid with
        | .error e => .err e
        | .ok r => .obj (viewOf r) := by
  rw [step_eq_stepT, stepT_get_eq, withB, findBucket_tick]
  cases findBucket s b with
  | none => rfl
  | some bk => simp only []; cases resolve bk k vid <;> rfl

theorem step_head (q : Quirks) (s : State) (b k : String) (vid : Option (Option Nat)) :
    (step q s (.head b k vid)).2 = (step q s (.get b k vid)).2 := rfl

theorem read_resolved {q : Quirks} {s : State} {b k : String} {vid : Option (Option Nat)} {bk : Bucket} {row : Row}
    (hfb : findBucket s b = some bk) (hres : resolve bk k vid = .ok row) :
    (step q s (.get b k vid)).2 = .obj (viewOf row) ∧ (step q s (.head b k vid)).2 = .obj (viewOf row) := by
  rw [step_head, step_get, hfb]
  simp only [hres, and_self]

theorem get_obj {q : Quirks} {s : State} {b k : String} {vid : Option (Option Nat)} {v : ObjView}
    (h : (step q s (.get b k vid)).2 = .obj v) :
    ∃ bk r, findBucket s b = some bk ∧ resolve bk k vid = .ok r ∧ v = viewOf r := by
  rw [step_get] at h
  cases hf : findBucket s b with
  | none => simp only [hf] at h; cases h
  | some bk =>
    cases hr : resolve bk k vid with
    | error e => simp only [hf, hr] at h; cases h
    | ok r => simp only [hf, hr, Out.obj.injEq] at h; exact ⟨bk, r, rfl, hr, h.symm⟩

theorem get_current {q : Quirks} {s : State} {b k : String} {bk : Bucket} {row : Row}
    (hfb : findBucket s b = some bk) (hl : latestRow bk k = some row) (hdm : row.dm = false) :
    (step q s (.get b k none)).2 = .obj (viewOf row) ∧ (step q s (.head b k none)).2 = .obj (viewOf row) :=
  read_resolved hfb (resolve_none_ok.2 ⟨hl, hdm⟩)

theorem latestRow_repl_keep {bk : Bucket} {k : String} {r y : Row} {n : Nat} (hb : RowsInv n bk.rows)
    (hl : latestRow bk k = some r) (hid : y.rowId = r.rowId) (hk : y.key = r.key) (hlat : y.latest = true) :
    latestRow (replaceRow bk y) k = some y := by
  have hrk := (latestRow_some hl).2.1
  unfold latestRow at hl ⊢
  rw [replaceRow_rows]
  exact find?_repl_first _ bk.rows y r hb.nodup hl hid (by simp [hk, hrk, hlat])

theorem rowByVid_repl_keep {bk : Bucket} {k : String} {v : Option Nat} {r y : Row} {n : Nat}
    (hb : RowsInv n bk.rows) (hv : rowByVid bk k v = some r) (hid : y.rowId = r.rowId)
    (hk : y.key = r.key) (hvid : y.vid = r.vid) : rowByVid (replaceRow bk y) k v = some y := by
  obtain ⟨_, hrk, hrv⟩ := rowByVid_mem hv
  unfold rowByVid at hv ⊢
  rw [replaceRow_rows]
  exact find?_repl_first _ bk.rows y r hb.nodup hv hid (by simp [hk, hvid, hrk, hrv])

theorem get_version {q : Quirks} {s : State} {b k : String} {v : Option Nat} {bk : Bucket} {row : Row}
    (hfb : findBucket s b = some bk) (hl : rowByVid bk k v = some row) (hdm : row.dm = false) :
    (step q s (.get b k (some v))).2 = .obj (viewOf row) ∧
    (step q s (.head b k (some v))).2 = .obj (viewOf row) :=
  read_resolved hfb (resolve_some_ok.2 ⟨hl, hdm⟩)

theorem resolve_repl_keep {bk : Bucket} {k : String} {vid : Option (Option Nat)} {r y : Row} {n : Nat}
    (hb : RowsInv n bk.rows) (hres : resolve bk k vid = .ok r) (hid : y.rowId = r.rowId) (hk : y.key = r.key)
    (hv : y.vid = r.vid) (hl : y.latest = r.latest) (hd : y.dm = r.dm) : resolve (replaceRow bk y) k vid = .ok y := by
  cases vid with
  | none =>
    obtain ⟨h1, h2⟩ := resolve_none_ok.1 hres
    exact resolve_none_ok.2 ⟨latestRow_repl_keep hb h1 hid hk (hl.trans (latestRow_some h1).2.2), hd.trans h2⟩
  | some v =>
    obtain ⟨h1, h2⟩ := resolve_some_ok.1 hres
    exact resolve_some_ok.2 ⟨rowByVid_repl_keep hb h1 hid hk hv, hd.trans h2⟩

theorem step_getTags (q : Quirks) (s : State) (b k : String) (vid : Option (Option Nat)) :
    (step q s (.getTags b k vid)).2 = match findBucket s b with
      | none => .err .noSuchBucket
      | some bk => match resolve bk k vid with
        | .error e => .err e
        | .ok r => .tags r.tags := by
  rw [step_eq_stepT, stepT_getTags_eq, withB, findBucket_tick]
  cases findBucket s b with
  | none => rfl
  | some bk => simp only []; cases resolve bk k vid <;> rfl

/-- The metadata of the row an append extends. -/
def metaOf (ex : Option Row) : Option String × Pairs × Pairs × Option String :=
  match ex with
  | some r => (r.ct, r.md, r.tags, r.cls)
  | none => (none, [], [], none)

theorem appendFrom_offset {q : Quirks} {s s1 : State} {bk : Bucket} {k : String} {body : Bytes} {n : Nat} {ex : Option Row}
    {e : ETag} {size : Nat} (hack : appendFrom q s bk k body (some n) ex = (s1, .appended e size)) :
    n = (partsOf ex).flatten.length := by
  unfold appendFrom at hack
  -- only the offset test matters: had it failed, the answer would be InvalidWriteOffset
  have hoff : ¬ _ := fun hc => by rw [if_pos hc] at hack; injection hack with _ h; cases h
  cases ex with
  | none => simpa [partsOf] using hoff
  | some r => simpa [partsOf, Row.size, Row.content] using hoff

theorem append_installs {q : Quirks} {s s1 : State} (hinv : Inv s) {b k : String} {body : Bytes} {off : Option Nat}
    {bk : Bucket} (hfb : findBucket s b = some bk) {e : ETag} {size : Nat}
    (hack : stepT q s (.append b k body off) = (s1, .appended e size)) :
    ∃ bk' row, findBucket s1 b = some bk' ∧ latestRow bk' k = some row ∧ row.dm = false ∧
      row.parts = partsOf (liveCur bk k) ++ [body] ∧ size = (partsOf (liveCur bk k) ++ [body]).flatten.length ∧
      (q.appendEnabledDropsMeta = false → q.appendLatestInPlace = false →
        (row.ct, row.md, row.tags, row.cls) = metaOf (liveCur bk k)) := by
  have hbk := hinv bk (findBucket_mem hfb)
  have hname := findBucket_some_name hfb
  have eff := appendFrom_eff q s bk k body off (fun _ => liveCur_some)
  rw [stepT_append_eq, withB_some hfb] at hack
  rw [hack] at eff
  cases eff with
  | @write n _ _ hparts hmeta hp =>
    obtain ⟨bk', id, c, hfb2, hl2⟩ := putRow_installs hinv hfb hp
    refine ⟨bk', _, hfb2, hl2, rfl, hparts, rfl, fun h1 _ => ?_⟩
    show (n.o.ct, n.o.md, n.o.tags, n.o.cls) = _
    rw [hmeta h1]
    cases liveCur bk k <;> rfl
  | extend sb hl hv =>
    exact ⟨_, _, findBucket_setBucket hfb (by rw [replaceRow_name]; exact hname),
      latestRow_repl_keep hbk hl rfl rfl rfl, rfl, rfl, rfl, fun _ h2 => by rw [(hv h2).1]; rfl⟩
  | fresh hq hl =>
    exact ⟨_, _, findBucket_setBucket (s := s) hfb (by rw [addRow_name]; exact hname),
      latestRow_add (latestRow_eq_none.1 hl) rfl rfl, rfl, rfl, rfl, fun _ h2 => by rw [hq] at h2; cases h2⟩

end Pithos.S3

namespace Pithos.C01
open Pithos.S3

theorem put_ack {q : Quirks} {s s1 : State} {b k : String} {body : Bytes} {o : WriteOpts} {inm : Bool} {im : IfMatch}
    {vid : Option Nat} {e : ETag} (h : step q s (.put b k body o inm im) = (s1, .wrote vid e)) :
    ∃ bk, findBucket { s with clock := s.clock + 1 } b = some bk ∧
      putRow q { s with clock := s.clock + 1 } bk k { parts := [body], etag := singleETag body, o := o } inm im = .ok (s1, vid) := by
  obtain ⟨bk, hfb, h⟩ := found_of_ok rfl h
  exact ⟨bk, hfb, putRow_of_wrote h⟩

/-- After an acknowledged key-only DeleteObject, conditional or not, the key reads as absent: it has no
current row or a delete marker is current (the condition of `C01.get_nosuchkey_iff`). -/
theorem absent_after_delete (q : Quirks) (s s1 : State) (hinv : Inv s) (b k : String) (bk : Bucket)
    (hfb : findBucket s b = some bk) (im : IfMatch) (vid : Option (Option Nat)) (dm : Bool)
    (hack : step q s (.del b k none im) = (s1, .deleted vid dm)) :
    ∃ bk1, findBucket s1 b = some bk1 ∧ (latestRow bk1 k = none ∨ ∃ r, latestRow bk1 k = some r ∧ r.dm = true) := by
  obtain ⟨bk', hfb', hd⟩ := found_of_ok rfl hack
  cases hfb.symm.trans hfb'
  have hb := hinv bk (findBucket_mem hfb)
  have hname := findBucket_some_name hfb
  have e : DelEff q _ bk k im none s1 (.deleted vid dm) := hd ▸ deleteOp_eff q _ bk k none im
  cases e with
  | nothing _ _ _ h => exact ⟨bk, hfb', Or.inl (h rfl).2⟩
  | marker =>
    -- the marker is added where no row of the key is flagged, so it is the current row
    exact ⟨_, findBucket_setBucket hfb' (by rw [addRow_name, beforeMarker_name, hname]), .inr ⟨_,
      latestRow_add (beforeMarker_edits (A := fun _ => True) _ _ 0 k (fun _ _ => trivial) hb).2 rfl rfl, rfl⟩⟩
  | current _ _ hl =>
    obtain ⟨hr, hk, hlat⟩ := latestRow_some hl
    exact ⟨_, findBucket_setBucket hfb' (by rw [removeRow_name, hname]),
      .inl (latestRow_eq_none.2 (lc_remove_latest hb hr hk hlat))⟩

end Pithos.C01

namespace Pithos.C12
open Pithos.S3

theorem appended_bucket {q : Quirks} {s s1 : State} {b k : String} {body : Bytes} {off : Option Nat} {e : ETag} {size : Nat}
    (hack : step q s (.append b k body off) = (s1, .appended e size)) : ∃ bk, findBucket s b = some bk :=
  (found_of_ok rfl hack).imp fun _ h => h.1

end Pithos.C12
