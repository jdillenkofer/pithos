/-
Helper lemmas for C18 (model: Pithos.Model.Outbox). The invariant `Inv` and its preservation by
every step; the property theorems themselves are in Props/C18.lean. Last, in `Pithos.C18`, what
those theorems are stated with and read off: `commitsOf` (the writer commits of a schedule),
`idsSplit` (`GetPartIds` with its two look-ups in different states; a member is a part `view` shows),
that a write by the owner of the entry is not stale, and the two single-step facts about the lease
(a heartbeat renews it, a live one turns every claim away).
-/
import Pithos.Model.Outbox
import Pithos.Lemmas.Assoc

namespace Pithos.Outbox

theorem Store.get_eq_find (m : Store) (id : Nat) :
    m.get id = (m.find? (fun p => p.1 == id)).map (·.2) := by
  induction m with
  | nil => rfl
  | cons p m ih => by_cases h : p.1 = id <;> simp [Store.get, h, ih]

theorem Store.get_del (m : Store) (id id' : Nat) :
    (Store.del m id).get id' = if id = id' then none else m.get id' := by
  rw [Store.get_eq_find, Store.get_eq_find, Store.del, lookup_erase]
  simp only [eq_comm]

theorem Store.get_apply (m : Store) (op : POp) (id : Nat) :
    (m.apply op).get id = if op.id = id then op.value else m.get id := by
  cases op with
  | put k b =>
    by_cases h : k = id <;> simp [Store.apply, Store.put, Store.get, POp.id, POp.value, h, Store.get_del]
  | del k => exact Store.get_del m k id

theorem Store.mem_keys_of_get {m : Store} {id : Nat} (h : (m.get id).isSome) : id ∈ m.keys :=
  (mem_keys_iff_lookup m id).2 (Store.get_eq_find m id ▸ h)

/-- `GetPart` as a function of the queued operations and the inner store. -/
def view (ops : List POp) (inner : Store) (id : Nat) : Option Bytes :=
  match lastFor ops id with
  | some op => op.value
  | none => inner.get id

theorem getPart_eq_view (s : St) (id : Nat) : getPart s id = view (qops s) s.inner id := rfl

theorem getPart_of_queue_nil {s : St} (hq : s.queue = []) (id : Nat) : getPart s id = s.inner.get id := by
  simp [getPart, qops, hq, lastFor]

theorem lastFor_eq_find (ops : List POp) (id : Nat) :
    lastFor ops id = ops.reverse.find? (fun o => o.id = id) := by
  induction ops with
  | nil => rfl
  | cons op ops ih =>
    rw [lastFor, ih, List.reverse_cons, List.find?_append]
    cases ops.reverse.find? (fun o => o.id = id) with
    | some o => rfl
    | none => by_cases h : op.id = id <;> simp [h]

theorem lastFor_append_single (ops : List POp) (op : POp) (id : Nat) :
    lastFor (ops ++ [op]) id = if op.id = id then some op else lastFor ops id := by
  rw [lastFor_eq_find, lastFor_eq_find, List.reverse_append, List.reverse_singleton,
    List.singleton_append, List.find?_cons]
  by_cases h : op.id = id <;> simp [h]

theorem lastFor_some_of_mem {ops : List POp} {op : POp} (h : op ∈ ops) :
    ∃ o, lastFor ops op.id = some o := by
  rw [lastFor_eq_find]
  exact Option.isSome_iff_exists.1 (List.find?_isSome.2 ⟨op, List.mem_reverse.2 h, by simp⟩)

theorem lastFor_mem {ops : List POp} {id : Nat} {o : POp} (h : lastFor ops id = some o) :
    o ∈ ops ∧ o.id = id := by
  rw [lastFor_eq_find] at h
  exact ⟨List.mem_reverse.1 (List.mem_of_find?_eq_some h), by simpa using List.find?_some h⟩

/-- The store the outbox stands for: the queued operations replayed, oldest first, on the inner store.
`GetPart` reads it (`view_eq_replay`); every worker step leaves its lookups alone and a commit replays the
new operations on it, which is why it is the fold of the committed history. -/
def replay (ops : List POp) (inner : Store) : Store := ops.foldl Store.apply inner

theorem view_eq_replay (ops : List POp) (inner : Store) (id : Nat) :
    view ops inner id = (replay ops inner).get id := by
  induction ops generalizing inner with
  | nil => rfl
  | cons op ops ih =>
    rw [replay, List.foldl_cons, ← replay, ← ih, view, view, Store.get_apply, lastFor]
    cases lastFor ops id with
    | some o => rfl
    | none => by_cases h : op.id = id <;> simp [h]

theorem replay_congr (ops : List POp) {a b : Store} (h : ∀ id, a.get id = b.get id) (id : Nat) :
    (replay ops a).get id = (replay ops b).get id := by
  induction ops generalizing a b with
  | nil => exact h id
  | cons op ops ih => exact ih fun id => by rw [Store.get_apply, Store.get_apply, h]

theorem view_applyHead (op : POp) (t : List POp) (inner : Store) (id : Nat) :
    view (op :: t) (inner.apply op) id = view (op :: t) inner id := by
  rw [view_eq_replay, view_eq_replay]
  refine replay_congr t (fun id => ?_) id
  rw [Store.get_apply]
  split
  · next h => rw [Store.get_apply, if_pos h]
  · rfl

theorem view_tail (op : POp) (ops : List POp) (inner : Store)
    (hw : inner.get op.id = op.value) (id : Nat) :
    view ops inner id = view (op :: ops) inner id := by
  rw [view_eq_replay, view_eq_replay]
  refine replay_congr ops (fun id => ?_) id
  rw [Store.get_apply]
  split
  · next h => rw [← h, hw]
  · rfl

/-- What never changes in a row: its id and its operation. -/
def skel (q : List Entry) : List (Nat × POp) := q.map fun e => (e.eid, e.op)

theorem qops_eq_skel (s : St) : qops s = (skel s.queue).map (·.2) := by
  simp [qops, skel, List.map_map, Function.comp_def]

theorem skel_mkEntries_snd (n : Nat) (ops : List POp) : (skel (mkEntries n ops)).map (·.2) = ops := by
  induction ops generalizing n with
  | nil => rfl
  | cons op ops ih => simp [mkEntries, skel] at ih ⊢; exact ih (n + 1)

theorem skel_mkEntries_fst (n : Nat) (ops : List POp) :
    (skel (mkEntries n ops)).map (·.1) = List.range' n ops.length := by
  induction ops generalizing n with
  | nil => rfl
  | cons op ops ih => simp [mkEntries, skel, List.range'_succ] at ih ⊢; exact ih (n + 1)

theorem mem_skel_mkEntries {n : Nat} {ops : List POp} {p : Nat × POp}
    (hp : p ∈ skel (mkEntries n ops)) : n ≤ p.1 ∧ p.1 < n + ops.length := by
  have := List.mem_map_of_mem (f := (·.1)) hp
  rwa [skel_mkEntries_fst, List.mem_range'_1] at this

theorem skel_updOwned {q : List Entry} {eid : Nat} {o : Owner} {f : Entry → Entry}
    (hf : ∀ e, (f e).eid = e.eid ∧ (f e).op = e.op) : skel (updOwned q eid o f) = skel q := by
  induction q with
  | nil => rfl
  | cons e q ih =>
    simp only [updOwned, skel, List.map_cons] at ih ⊢
    rw [ih]
    by_cases h : e.eid = eid ∧ e.owner = some o
    · simp [h, hf e]
    · simp [h]

/-- No row has a smaller id: the row `eid`, if it is still there, is the first (the ids ascend). A worker
claims the first row, rows go only from the front and come only with new ids, so this stays true of the
row a worker holds however stale its claim. -/
def Low (sk : List (Nat × POp)) (eid : Nat) : Prop := ∀ p ∈ sk, eid ≤ p.1

/-- What must hold of a worker's private state: the row it names is older than the next id and, if still
there, the first; a worker about to write knows the row's operation; one that has written (`written`) left
in the inner store what the row's operation leaves: that is what lets its finalize delete the row without
changing what `GetPart` shows (`view_tail`), and it survives another owner replaying the same row
(`applyHead_get`). -/
def LocOk (sk : List (Nat × POp)) (inner : Store) (n : Nat) : Local → Prop
  | .idle => True
  | .claimed eid _ => eid < n ∧ Low sk eid
  | .ready eid op => eid < n ∧ Low sk eid ∧ ∀ p ∈ sk, p.1 = eid → p.2 = op
  | .written eid => eid < n ∧ Low sk eid ∧ ∀ p ∈ sk, p.1 = eid → inner.get p.2.id = p.2.value
  | .failed _ => True

structure Inv (s : St) : Prop where
  /-- GetPart shows the committed history -/
  viewOk : ∀ id, getPart s id = (committedStore s.committed).get id
  /-- the rows are in ascending order of their ids (so the row with the least id is the first) -/
  asc : ((skel s.queue).map (·.1)).Pairwise (· < ·)
  /-- every id in the table is below the next id a commit hands out -/
  fresh : ∀ p ∈ skel s.queue, p.1 < s.nextEid
  /-- every worker, wherever it stands, and however stale its claim -/
  locOk : ∀ w, LocOk (skel s.queue) s.inner s.nextEid (s.loc w)

theorem inv_init (l : Nat) : Inv (init l) := by
  refine ⟨?_, ?_, ?_, ?_⟩
  · intro id; rfl
  · simp [init, skel]
  · intro p hp; simp [init, skel] at hp
  · intro w; simp [init, LocOk]

theorem low_head {a : Nat × POp} {t : List (Nat × POp)} (hs : (((a :: t)).map (·.1)).Pairwise (· < ·)) :
    Low (a :: t) a.1 := by
  intro p hp
  rcases List.mem_cons.1 hp with rfl | hp
  · exact Nat.le_refl _
  · exact Nat.le_of_lt ((List.pairwise_cons.1 hs).1 _ (List.mem_map_of_mem hp))

theorem eq_head {a : Nat × POp} {t : List (Nat × POp)} (hs : (((a :: t)).map (·.1)).Pairwise (· < ·))
    {eid : Nat} (hl : Low (a :: t) eid) {p : Nat × POp} (hp : p ∈ a :: t) (he : p.1 = eid) : p = a := by
  rcases List.mem_cons.1 hp with rfl | hp
  · rfl
  · have : a.1 < p.1 := (List.pairwise_cons.1 hs).1 _ (List.mem_map_of_mem hp)
    have := hl a List.mem_cons_self
    omega

theorem op_of_mem {sk : List (Nat × POp)} (hs : (sk.map (·.1)).Pairwise (· < ·)) {eid : Nat} {op : POp}
    (hl : Low sk eid) (hm : (eid, op) ∈ sk) : ∀ p ∈ sk, p.1 = eid → p.2 = op := by
  intro p hp he
  cases sk with
  | nil => cases hp
  | cons a t => rw [eq_head hs hl hp he, ← eq_head hs hl hm rfl]

theorem locOk_mono {sk sk' : List (Nat × POp)} {inner inner' : Store} {n n' : Nat} {l : Local}
    (h : LocOk sk inner n l) (hn : n ≤ n') (hsub : ∀ p ∈ sk', p ∈ sk ∨ n ≤ p.1)
    (hw : ∀ eid, l = .written eid → ∀ p ∈ sk', p.1 = eid →
      inner.get p.2.id = p.2.value → inner'.get p.2.id = p.2.value) :
    LocOk sk' inner' n' l := by
  have low : ∀ eid < n, Low sk eid → Low sk' eid := fun eid he hl p hp =>
    (hsub p hp).elim (hl p) fun h => by omega
  have old : ∀ eid < n, ∀ p ∈ sk', p.1 = eid → p ∈ sk := fun eid he p hp hpe =>
    (hsub p hp).resolve_right (by omega)
  cases l with
  | idle => trivial
  | failed _ => trivial
  | claimed eid id => exact ⟨Nat.lt_of_lt_of_le h.1 hn, low eid h.1 h.2⟩
  | ready eid op =>
    exact ⟨Nat.lt_of_lt_of_le h.1 hn, low eid h.1 h.2.1, fun p hp hpe => h.2.2 p (old eid h.1 p hp hpe) hpe⟩
  | written eid =>
    exact ⟨Nat.lt_of_lt_of_le h.1 hn, low eid h.1 h.2.1,
      fun p hp hpe => hw eid rfl p hp hpe (h.2.2 p (old eid h.1 p hp hpe) hpe)⟩

theorem inv_same {s s' : St} (h : Inv s) (hsk : skel s'.queue = skel s.queue) (hin : s'.inner = s.inner)
    (hc : s'.committed = s.committed) (hn : s'.nextEid = s.nextEid)
    (hl : ∀ w, LocOk (skel s.queue) s.inner s.nextEid (s'.loc w)) : Inv s' := by
  refine ⟨?_, ?_, ?_, ?_⟩
  · intro id
    rw [getPart_eq_view, qops_eq_skel, hsk, hin, hc, ← qops_eq_skel, ← getPart_eq_view]
    exact h.viewOk id
  · rw [hsk]; exact h.asc
  · rw [hsk, hn]; exact h.fresh
  · intro w; rw [hsk, hin, hn]; exact hl w

theorem inv_setLoc {s : St} (h : Inv s) (w : Nat) (l : Local)
    (hl : LocOk (skel s.queue) s.inner s.nextEid l) : Inv (setLoc s w l) :=
  inv_same (s' := setLoc s w l) h rfl rfl rfl rfl fun w' => by
    simp only [setLoc]
    split
    · exact hl
    · exact h.locOk w'

theorem inv_commit (f : Bool) (s : St) (ops : List POp) (h : Inv s) : Inv (step f s (.commit ops)).1 := by
  simp only [step]
  have hsk : skel (s.queue ++ mkEntries s.nextEid ops) = skel s.queue ++ skel (mkEntries s.nextEid ops) := by
    simp [skel]
  refine ⟨?_, ?_, ?_, ?_⟩
  · intro id
    rw [getPart_eq_view, view_eq_replay, qops_eq_skel]
    simp only [hsk, List.map_append, skel_mkEntries_snd, committedStore, replay, List.foldl_append]
    -- the new operations are replayed on two stores with the same lookups
    refine replay_congr ops (fun id => ?_) id
    rw [← replay, ← qops_eq_skel, ← view_eq_replay]
    exact h.viewOk id
  · simp only [hsk, List.map_append, skel_mkEntries_fst]
    refine List.pairwise_append.2 ⟨h.asc, List.pairwise_lt_range', ?_⟩
    intro a ha b hb
    obtain ⟨p, hp, rfl⟩ := List.mem_map.1 ha
    have h1 := h.fresh p hp
    have h2 := List.mem_range'_1.1 hb
    omega
  · intro p hp
    simp only [hsk] at hp
    rcases List.mem_append.1 hp with h1 | h2
    · have := h.fresh p h1; simp only; omega
    · exact (mem_skel_mkEntries h2).2
  · intro w
    simp only [hsk]
    exact locOk_mono (h.locOk w) (Nat.le_add_right _ _)
      (fun p hp => (List.mem_append.1 hp).imp_right fun h2 => (mem_skel_mkEntries h2).1) fun _ _ _ _ _ hv => hv

theorem inv_claim (f : Bool) (s : St) (w : Nat) (h : Inv s) : Inv (step f s (.claim w)).1 := by
  simp only [step]
  split
  next =>
    cases hq : s.queue with
    | nil => exact h
    | cons e t =>
      simp only
      split
      · -- the claim rewrites the lease columns of the first row only
        let e' : Entry := { e with owner := some (me s w), until_ := s.now + s.lease, version := e.version + 1 }
        have h1 := inv_same (s' := { s with queue := e' :: t }) h (by simp [skel, hq, e']) rfl rfl rfl h.locOk
        have hlt := h1.fresh (e.eid, e.op) List.mem_cons_self
        have hlow : Low (skel (e' :: t)) e.eid := low_head h1.asc
        refine inv_setLoc h1 w _ ?_
        cases hop : e.op with
        | put id b => exact ⟨hlt, hlow⟩
        | del id => exact ⟨hlt, hlow, hop ▸ op_of_mem h1.asc hlow (List.mem_cons_self (a := (e.eid, e.op)))⟩
      · exact h
  next => exact h

theorem find_skel {q : List Entry} {eid : Nat} {e : Entry}
    (hf : q.find? (fun e => e.eid == eid) = some e) : (eid, e.op) ∈ skel q := by
  have he : e.eid = eid := by simpa using List.find?_some hf
  exact List.mem_map.2 ⟨e, List.mem_of_find?_eq_some hf, by rw [he]⟩

theorem inv_readChunks (f : Bool) (s : St) (w : Nat) (h : Inv s) : Inv (step f s (.readChunks w)).1 := by
  simp only [step]
  split
  next eid id hl =>
    have hloc := h.locOk w
    rw [hl] at hloc
    cases hf : s.queue.find? (fun e => e.eid == eid) with
    | some e => exact inv_setLoc h w _ ⟨hloc.1, hloc.2, op_of_mem h.asc hloc.2 (find_skel hf)⟩
    | none => exact inv_setLoc h w _ trivial
  next => exact h

theorem queued_iff (s : St) (eid : Nat) : queued s eid = true ↔ ∃ p ∈ skel s.queue, p.1 = eid := by
  simp only [queued, List.any_eq_true, skel, List.mem_map]
  constructor
  · rintro ⟨e, he, hq⟩
    exact ⟨(e.eid, e.op), ⟨e, he, rfl⟩, by simpa using hq⟩
  · rintro ⟨p, ⟨e, he, rfl⟩, hq⟩
    exact ⟨e, he, by simpa using hq⟩

theorem queued_of_ownedBy {s : St} {eid : Nat} {o : Owner} (h : ownedBy s.queue eid o = true) :
    queued s eid = true := by
  simp only [ownedBy, queued, List.any_eq_true, decide_eq_true_eq] at h ⊢
  obtain ⟨e, he, hee, _⟩ := h
  exact ⟨e, he, by simp [hee]⟩

theorem ready_is_head {s : St} (h : Inv s) {w eid : Nat} {op : POp}
    (hl : s.loc w = .ready eid op) (hq : queued s eid = true) : ∃ t, skel s.queue = (eid, op) :: t := by
  have hloc := h.locOk w
  rw [hl] at hloc
  obtain ⟨p, hp, hpe⟩ := (queued_iff s eid).1 hq
  have hasc := h.asc
  cases hsk : skel s.queue with
  | nil => rw [hsk] at hp; cases hp
  | cons a t =>
    rw [hsk] at hp hasc hloc
    exact ⟨t, by rw [← eq_head hasc hloc.2.1 hp hpe, ← hpe, ← hloc.2.2 p hp hpe]⟩

theorem applyHead_get {s : St} {eid : Nat} {op : POp} {t : List (Nat × POp)} (h : Inv s)
    (hsk : skel s.queue = (eid, op) :: t) {eid' : Nat} (hh : Low (skel s.queue) eid')
    {q : Nat × POp} (hq : q ∈ skel s.queue) (hqe : q.1 = eid') :
    (s.inner.apply op).get q.2.id = q.2.value := by
  have hasc := h.asc
  rw [hsk] at hasc hh hq
  rw [eq_head hasc hh hq hqe, Store.get_apply, if_pos rfl]

theorem inv_applyHead {s : St} {eid : Nat} {op : POp} {t : List (Nat × POp)} (h : Inv s)
    (hsk : skel s.queue = (eid, op) :: t) : Inv { s with inner := s.inner.apply op } := by
  refine ⟨?_, h.asc, h.fresh, ?_⟩
  · intro id
    have hv := h.viewOk id
    rw [getPart_eq_view, qops_eq_skel, hsk] at hv ⊢
    exact (view_applyHead op _ s.inner id).trans hv
  · intro w
    have hw := h.locOk w
    -- only `written` looks at the inner store
    refine locOk_mono hw (Nat.le_refl _) (fun _ hp => Or.inl hp) ?_
    intro eid' he' p hp hpe _
    rw [he'] at hw
    exact applyHead_get h hsk hw.2.1 hp hpe

theorem inv_innerWrite (f : Bool) (s : St) (w : Nat) (h : Inv s)
    (hs : f = true ∨ staleWrite s (.innerWrite w) = false) : Inv (step f s (.innerWrite w)).1 := by
  simp only [step]
  split
  next eid op hl =>
    by_cases hq : queued s eid = true
    · simp only [hq, Bool.not_true, Bool.and_false, Bool.false_eq_true, if_false]
      obtain ⟨t, hsk⟩ := ready_is_head h hl hq
      have hloc := h.locOk w
      rw [hl] at hloc
      exact inv_setLoc (inv_applyHead h hsk) w _
        ⟨hloc.1, hloc.2.1, fun _ => applyHead_get h hsk hloc.2.1⟩
    · have hq' : queued s eid = false := by simpa using hq
      rcases hs with hf | hst
      · subst hf
        simp only [hq', Bool.not_false, Bool.and_self, if_true]
        exact inv_setLoc h w _ trivial
      · simp [staleWrite, hl, hq'] at hst
  next => exact h

/-- `DELETE … WHERE id = eid AND claim_owner = o`, when no row has a smaller id: it removes the first
row or nothing. -/
theorem filter_owned (q : List Entry) (eid : Nat) (o : Owner)
    (hs : ((skel q).map (·.1)).Pairwise (· < ·)) (hl : Low (skel q) eid) :
    q.filter (fun e => !decide (e.eid = eid ∧ e.owner = some o)) = q ∨
      ∃ e t, q = e :: t ∧ e.eid = eid ∧
        q.filter (fun e => !decide (e.eid = eid ∧ e.owner = some o)) = t := by
  cases q with
  | nil => exact Or.inl rfl
  | cons e t =>
    have hrest : ∀ x ∈ t, ¬ (x.eid = eid ∧ x.owner = some o) := by
      intro x hx ⟨hxe, _⟩
      have : e.eid < x.eid := (List.pairwise_cons.1 hs).1 _ (List.mem_map.2 ⟨(x.eid, x.op), List.mem_map_of_mem hx, rfl⟩)
      have := hl (e.eid, e.op) List.mem_cons_self
      omega
    have htail : t.filter (fun e => !decide (e.eid = eid ∧ e.owner = some o)) = t :=
      List.filter_eq_self.2 fun x hx => by simp [hrest x hx]
    rw [List.filter_cons, htail]
    by_cases he : e.eid = eid ∧ e.owner = some o
    · exact Or.inr ⟨e, t, rfl, he.1, by simp [he]⟩
    · exact Or.inl (by simp [he])

theorem inv_tail {s : St} {e : Entry} {t : List Entry} (h : Inv s) (hq : s.queue = e :: t)
    (hw : s.inner.get e.op.id = e.op.value) : Inv { s with queue := t } := by
  have hsk : skel s.queue = (e.eid, e.op) :: skel t := by simp [skel, hq]
  have hasc := h.asc
  rw [hsk] at hasc
  have hsub : ∀ p ∈ skel t, p ∈ skel s.queue := fun p hp => hsk ▸ List.mem_cons_of_mem _ hp
  refine ⟨?_, (List.pairwise_cons.1 hasc).2, fun p hp => h.fresh p (hsub p hp), ?_⟩
  · intro id
    have hv := h.viewOk id
    rw [getPart_eq_view, qops_eq_skel, hsk] at hv
    rw [getPart_eq_view, qops_eq_skel]
    exact (view_tail e.op _ s.inner hw id).trans hv
  · intro w
    exact locOk_mono (h.locOk w) (Nat.le_refl _) (fun p hp => Or.inl (hsub p hp)) fun _ _ _ _ _ hv => hv

theorem inv_finalize (f : Bool) (s : St) (w : Nat) (h : Inv s) : Inv (step f s (.finalize w)).1 := by
  simp only [step]
  split
  next eid hl =>
    have hloc := h.locOk w
    rw [hl] at hloc
    rcases filter_owned s.queue eid (me s w) h.asc hloc.2.1 with hf | ⟨e, t, hq, he, hf⟩
    · rw [hf]; exact inv_setLoc h w .idle trivial
    · rw [hf]
      have hw := hloc.2.2 (e.eid, e.op) (by simp [skel, hq]) he
      exact inv_setLoc (inv_tail h hq hw) w .idle trivial
  next => exact h

theorem inv_step (f : Bool) (s : St) (st : Step) (h : Inv s)
    (hs : f = true ∨ staleWrite s st = false) : Inv (step f s st).1 := by
  cases st with
  | commit ops => exact inv_commit f s ops h
  | claim w => exact inv_claim f s w h
  | readChunks w => exact inv_readChunks f s w h
  | innerWrite w => exact inv_innerWrite f s w h hs
  | finalize w => exact inv_finalize f s w h
  -- the other steps leave ids, operations, inner store and history alone (`inv_same`); where they set a
  -- worker's private state it is `idle` or `failed`, of which `LocOk` asks nothing
  | innerFail w =>
    simp only [step]
    split
    · exact inv_setLoc h w _ trivial
    · exact h
  | release w =>
    simp only [step]
    split
    · refine inv_setLoc ?_ w .idle trivial
      exact inv_same h (skel_updOwned fun e => ⟨rfl, rfl⟩) rfl rfl rfl h.locOk
    · exact h
  | extend w =>
    simp only [step]
    split
    · exact inv_same h (skel_updOwned fun e => ⟨rfl, rfl⟩) rfl rfl rfl h.locOk
    · exact inv_same h (skel_updOwned fun e => ⟨rfl, rfl⟩) rfl rfl rfl h.locOk
    · exact h
  | tick d => exact inv_same (s' := (step f s (.tick d)).1) h rfl rfl rfl rfl h.locOk
  | leaseExpire => exact inv_same (s' := (step f s .leaseExpire).1) h rfl rfl rfl rfl h.locOk
  | crash w =>
    exact inv_setLoc (inv_same (s' := { s with gen := fun x => if x = w then s.gen w + 1 else s.gen x })
      h rfl rfl rfl rfl h.locOk) w .idle trivial

theorem noStaleWrites_cons {f : Bool} {s : St} {st : Step} {rest : List Step} :
    noStaleWrites f s (st :: rest) = true ↔
      staleWrite s st = false ∧ noStaleWrites f (step f s st).1 rest = true := by
  simp [noStaleWrites]

theorem inv_run (f : Bool) (s : St) (steps : List Step) (h : Inv s)
    (hs : f = true ∨ noStaleWrites f s steps = true) : Inv (run f s steps) := by
  induction steps generalizing s with
  | nil => exact h
  | cons st rest ih =>
    have hs' := hs.imp_right noStaleWrites_cons.1
    exact ih _ (inv_step f s st h (hs'.imp_right And.left)) (hs'.imp_right And.right)

end Pithos.Outbox

namespace Pithos.C18
open Pithos.Outbox

/-- The operations the writer commits of a schedule add to the table, in order. -/
def commitsOf : List Step → List POp
  | [] => []
  | .commit ops :: rest => ops ++ commitsOf rest
  | _ :: rest => commitsOf rest

theorem step_committed (f : Bool) (s : St) (st : Step) (rest : List Step) :
    (step f s st).1.committed ++ commitsOf rest = s.committed ++ commitsOf (st :: rest) := by
  -- only a commit touches `committed`; in every other branch of `step` both sides compute to the same
  fun_cases step f s st
  case case1 ops => exact List.append_assoc _ _ _
  all_goals rfl

/-- `GetPartIds` with its two look-ups made in different states: the newest entries per part are
read in `o`, the inner store is listed in `i`. (`getPartIds s = idsSplit s s`.) -/
def idsSplit (o i : St) : List Nat :=
  (i.inner.keys ++ (qops o).map POp.id).filter fun id =>
    match lastFor (qops o) id with
    | some (.put _ _) => true
    | some (.del _) => false
    | none => (i.inner.get id).isSome

theorem mem_idsSplit (o i : St) (id : Nat) :
    id ∈ idsSplit o i ↔ (view (qops o) i.inner id).isSome := by
  simp only [idsSplit, List.mem_filter, List.mem_append, view]
  cases hl : lastFor (qops o) id with
  | some op =>
    obtain ⟨hm, hid⟩ := lastFor_mem hl
    cases op with
    | put k b =>
      simp only [POp.value, Option.isSome_some, and_true, iff_true]
      exact Or.inr (List.mem_map.2 ⟨_, hm, hid⟩)
    | del k => simp [POp.value]
  | none => exact and_iff_right_of_imp fun h => Or.inl (Store.mem_keys_of_get h)

theorem getPartIds_iff_getPart (s : St) (id : Nat) :
    id ∈ getPartIds s ↔ (getPart s id).isSome :=
  mem_idsSplit s s id

theorem not_stale_of_owns (s : St) (st : Step) (h : ownsAtWrite s st = true) :
    staleWrite s st = false := by
  cases st with
  | innerWrite w =>
    simp only [ownsAtWrite, staleWrite] at h ⊢
    cases hl : s.loc w with
    | ready eid op =>
      rw [hl] at h
      simp [queued_of_ownedBy h]
    | _ => rfl
  | _ => rfl

/-- The lease-phrased condition implies the excluded-trigger condition: a worker that still owns
its entry when it mutates the inner store never writes stale data. -/
theorem noStale_of_writesByOwner (f : Bool) (s : St) (steps : List Step)
    (h : writesByOwner f s steps = true) : noStaleWrites f s steps = true := by
  induction steps generalizing s with
  | nil => rfl
  | cons st rest ih =>
    simp only [writesByOwner, Bool.and_eq_true] at h
    exact noStaleWrites_cons.2 ⟨not_stale_of_owns s st h.1, ih _ h.2⟩

/-- **extend_renews_lease.** A heartbeat of the worker that owns the first entry moves the end of
its lease to `now + lease` (and nothing else about who owns it). -/
theorem extend_renews_lease (f : Bool) (s : St) (w : Nat) (h : Entry) (t : List Entry)
    (hq : s.queue = h :: t) (ho : h.owner = some (me s w))
    (hl : (∃ id, s.loc w = .claimed h.eid id) ∨ (∃ op, s.loc w = .ready h.eid op)) :
    (step f s (.extend w)).2 = .extended true ∧
    (∃ h1 t1, (step f s (.extend w)).1.queue = h1 :: t1 ∧
      h1.eid = h.eid ∧ h1.owner = some (me s w) ∧ h1.until_ = s.now + s.lease) ∧
    (step f s (.extend w)).1.now = s.now ∧ (step f s (.extend w)).1.lease = s.lease := by
  rcases hl with ⟨id, hl⟩ | ⟨op, hl⟩ <;>
    simp [step, hl, hq, updOwned, ownedBy, ho]

/-- **live_lease_excludes_others.** While the first entry is held under a lease that has not run
out (`now < until`), a claim attempt — by anyone — changes nothing: the worker does not skip ahead
either (head-of-line), it simply gets nothing. -/
theorem live_lease_excludes_others (f : Bool) (s : St) (w' : Nat) (h : Entry) (t : List Entry)
    (hq : s.queue = h :: t) (ho : h.owner ≠ none) (hlive : s.now < h.until_) :
    (step f s (.claim w')).1 = s ∧ (step f s (.claim w')).2 ≠ .claimed h.eid (h.version + 1) := by
  have hc : ¬ (h.owner = none ∨ h.until_ ≤ s.now) := not_or.2 ⟨ho, by omega⟩
  cases hl : s.loc w' <;> simp [step, hl, hq, hc]

end Pithos.C18
