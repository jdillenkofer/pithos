/-
Lemmas for C22 (model `Pithos.Notify`, spec `Pithos.NotifyS3`). The matcher's two tests are the
spec's `Covers` and its prefix / suffix filters, whence `matcher_spec` and the rows one event
demands (`mem_entriesFor`). `runScript_spec` gives the whole trace of a dispatcher run on one entry:
`n` failures below the limit (`fails`), then pending, delivered or dead, the last two whatever the
script holds further; the theorems about scripts are read off it. `Bounded` is the invariant of
`dstep` over all schedules; `publishes_le` counts the publishes of a run with lost reports.
-/
import Pithos.Model.Notify
import Pithos.Spec.NotifyS3

namespace Pithos.C22
open Pithos.Notify Pithos.NotifyS3

theorem prefixName_ne_suffixName : prefixName ≠ suffixName := by decide +kernel

theorem dropLastChar_colonStar (base : Str) : dropLastChar (base ++ [':', '*']) = base ++ [':'] := by
  simp [dropLastChar, List.dropLast_append_of_ne_nil]

theorem eventPattern_spec (configured name : Str) :
    eventPatternMatches configured name = true ↔ Covers configured name := by
  unfold eventPatternMatches Covers
  simp only [Bool.or_eq_true, beq_iff_eq, Bool.and_eq_true, List.isSuffixOf_iff_suffix,
    List.isPrefixOf_iff_prefix, colonStar]
  refine or_congr Iff.rfl ⟨?_, ?_⟩
  · rintro ⟨⟨base, rfl⟩, hp⟩
    exact ⟨base, rfl, dropLastChar_colonStar base ▸ hp⟩
  · rintro ⟨base, rfl, hp⟩
    exact ⟨⟨base, rfl⟩, (dropLastChar_colonStar base).symm ▸ hp⟩

theorem filterHolds_spec (f : FilterRule) (key : Str) :
    filterHolds f key = true ↔
      (f.name = prefixName → f.value <+: key) ∧ (f.name = suffixName → f.value <:+ key) := by
  unfold filterHolds
  by_cases hp : f.name = prefixName
  · simp [hp, List.isPrefixOf_iff_prefix, prefixName_ne_suffixName]
  · by_cases hs : f.name = suffixName
    · simp [hs, List.isSuffixOf_iff_suffix, Ne.symm prefixName_ne_suffixName]
    · simp [hp, hs]

/-- **matcher_spec.** `RuleMatches` selects exactly what S3's rule semantics select: one of the
rule's event types covers the event name (equal, or a `base:*` family containing it) and every
prefix / suffix filter rule holds for the key. -/
theorem matcher_spec (r : Rule) (e : Event) : ruleMatches r e = true ↔ Selects r e := by
  unfold ruleMatches Selects
  simp only [Bool.and_eq_true, List.any_eq_true, List.all_eq_true, eventPattern_spec, filterHolds_spec]

theorem mem_entriesFor (c : Config) (e : Event) (row : Row) :
    row ∈ entriesFor c e ↔
      (∃ r ∈ c.rules, Selects r e ∧ row = { dest := r.dest, event := e.name, bucket := e.bucket, key := e.key }) ∨
      (c.eventBridge = true ∧ row = { dest := eventBridgeDest e.bucket, event := e.name, bucket := e.bucket, key := e.key }) := by
  unfold entriesFor
  simp only [List.mem_append, List.mem_map, List.mem_filter, matcher_spec]
  refine or_congr (by simp only [and_assoc, eq_comm]) ?_
  cases c.eventBridge with
  | true => simp
  | false => simp

theorem backoff_eq_min (c : DCfg) (n : Nat) :
    backoff c n = min (c.minBackoff * 2 ^ (n - 1)) c.maxBackoff := by
  unfold backoff
  simp only
  split
  · omega
  · omega

theorem runScript_ok (c : DCfg) (a : Nat) (rest : List Bool) :
    runScript c a (true :: rest) = (.delivered, [{ attempt := a + 1, ok := true, delay := 0 }]) := by
  simp only [runScript, if_true]

theorem runScript_fail (c : DCfg) (a : Nat) (rest : List Bool) :
    runScript c a (false :: rest) =
      if 0 < c.maxAttempts ∧ c.maxAttempts ≤ a + 1 then
        (.dead, [{ attempt := a + 1, ok := false, delay := 0 }])
      else ((runScript c (a + 1) rest).1,
            { attempt := a + 1, ok := false, delay := backoff c (a + 1) } :: (runScript c (a + 1) rest).2) := by
  simp only [runScript, Bool.false_eq_true, if_false, Bool.and_eq_true, decide_eq_true_eq, gt_iff_lt, ge_iff_le]

/-- `n` failed publishes below the limit: attempts `a+1 … a+n`, each followed by its backoff -/
def fails (c : DCfg) (a n : Nat) : List Pub :=
  (List.range' (a + 1) n).map fun k => { attempt := k, ok := false, delay := backoff c k }

theorem fails_succ (c : DCfg) (a n : Nat) :
    fails c a (n + 1) = { attempt := a + 1, ok := false, delay := backoff c (a + 1) } :: fails c (a + 1) n := by
  simp only [fails, List.range'_succ, List.map_cons]

theorem length_fails (c : DCfg) (a n : Nat) : (fails c a n).length = n := by
  simp only [fails, List.length_map, List.length_range']

theorem ok_of_mem_fails {c : DCfg} {a n : Nat} {q : Pub} (h : q ∈ fails c a n) : q.ok = false := by
  obtain ⟨_, _, rfl⟩ := List.mem_map.1 h
  rfl

theorem runScript_spec (c : DCfg) (a : Nat) (script : List Bool) :
    ∃ n, (n = 0 ∨ c.maxAttempts = 0 ∨ a + n < c.maxAttempts) ∧
      ((n = script.length ∧ runScript c a script = (.pending (a + n), fails c a n)) ∨
       (∀ more, runScript c a (script ++ more) =
          (.delivered, fails c a n ++ [{ attempt := a + n + 1, ok := true, delay := 0 }])) ∨
       (0 < c.maxAttempts ∧ c.maxAttempts ≤ a + n + 1 ∧ ∀ more, runScript c a (script ++ more) =
          (.dead, fails c a n ++ [{ attempt := a + n + 1, ok := false, delay := 0 }]))) := by
  induction script generalizing a with
  | nil => exact ⟨0, .inl rfl, .inl ⟨rfl, rfl⟩⟩
  | cons ok rest ih =>
    cases ok with
    | true => exact ⟨0, .inl rfl, .inr (.inl fun _ => runScript_ok c a _)⟩
    | false =>
      by_cases hm : 0 < c.maxAttempts ∧ c.maxAttempts ≤ a + 1
      · exact ⟨0, .inl rfl, .inr (.inr ⟨hm.1, hm.2, fun _ => by rw [List.cons_append, runScript_fail, if_pos hm]; rfl⟩)⟩
      · obtain ⟨n, hlim, h⟩ := ih (a + 1)
        rw [Nat.add_right_comm] at h
        -- one more failure in front of the trace of the rest
        have step : ∀ s f ps, runScript c (a + 1) s = (f, ps) → runScript c a (false :: s) =
            (f, { attempt := a + 1, ok := false, delay := backoff c (a + 1) } :: ps) := fun s f ps hs => by
          rw [runScript_fail, if_neg hm, hs]
        refine ⟨n + 1, by omega, ?_⟩
        rw [fails_succ]
        rcases h with ⟨hn, hp⟩ | hd | ⟨h0, h1, hd⟩
        · exact .inl ⟨congrArg (· + 1) hn, step _ _ _ hp⟩
        · exact .inr (.inl fun more => step _ _ _ (hd more))
        · exact .inr (.inr ⟨h0, by omega, fun more => step _ _ _ (hd more)⟩)

theorem runScript_append_of_settled (c : DCfg) (a : Nat) (s more : List Bool)
    (hp : ∀ k, (runScript c a s).1 ≠ .pending k) : runScript c a (s ++ more) = runScript c a s := by
  obtain ⟨n, _, ⟨_, h⟩ | h | ⟨_, _, h⟩⟩ := runScript_spec c a s
  · exact absurd (congrArg Prod.fst h) (hp _)
  · rw [h more, ← h [], List.append_nil]
  · rw [h more, ← h [], List.append_nil]

/-- invariant of `dstep`: the attempt count of an entry is bounded by `max (MaxAttempts − 1) a₀ + lost`
while it is pending and by one more in every other phase — claimed, and also delivered or dead, which
keep the count of the claim they were reported for — where `a₀` is the count it started with and
`lost` the number of reports that never landed -/
def Bounded (c : DCfg) (a0 : Nat) (st : DState) : Prop :=
  (st.phase = .pending → st.attempts ≤ max (c.maxAttempts - 1) a0 + st.lost) ∧
  st.attempts ≤ max (c.maxAttempts - 1) a0 + st.lost + 1

/-- every step is a transition guarded by the phase it starts from, and leaves the entry alone otherwise -/
theorem Bounded.guarded {c : DCfg} {a0 : Nat} {st st' : DState} {g : Prop} [Decidable g]
    (h : Bounded c a0 st) (h' : g → Bounded c a0 st') : Bounded c a0 (if g then st' else st) := by
  split
  · exact h' ‹g›
  · exact h

theorem bounded_step (c : DCfg) (hM : c.maxAttempts > 0) (a0 : Nat) (st : DState) (step : DStep)
    (h : Bounded c a0 st) : Bounded c a0 (dstep c st step) := by
  have hmax : c.maxAttempts - 1 ≤ max (c.maxAttempts - 1) a0 := Nat.le_max_left _ _
  cases step with
  | claim => exact h.guarded fun hph => ⟨by simp, by have := h.1 hph; simp only; omega⟩
  | reportOk => exact h.guarded fun _ => ⟨by simp, h.2⟩
  | reportFail =>
    refine h.guarded fun _ => ?_
    split
    · exact ⟨by simp, h.2⟩
    next hex =>
      -- released: the attempt just reported was below the limit
      have hlt : st.attempts < c.maxAttempts := by
        simp only [Bool.and_eq_true, decide_eq_true_eq, not_and, Nat.not_le] at hex
        exact hex hM
      exact ⟨fun _ => by simp only; omega, h.2⟩
  | lose => exact h.guarded fun _ => ⟨fun _ => by have := h.2; simp only; omega, by have := h.2; simp only; omega⟩

/-- Each lost report costs one more publish; a reported failure below the limit does not move the
bound, since `a + 1 < MaxAttempts` there. -/
theorem publishes_le (c : DCfg) (hM : c.maxAttempts > 0) (a : Nat) (os : List PubOutcome) :
    a + (runOutcomes c a os).2.length ≤
      max c.maxAttempts (a + 1) + (os.filter fun o => o == .okLost || o == .failLost).length := by
  induction os generalizing a with
  | nil => simp only [runOutcomes, List.length_nil]; omega
  | cons o rest ih =>
    have ih := ih (a + 1)
    cases o with
    | ok => simp [runOutcomes]; omega
    | fail =>
      by_cases hmax : (c.maxAttempts > 0 && a + 1 ≥ c.maxAttempts) = true
      · simp [runOutcomes, hmax]; omega
      · have hlt : a + 1 < c.maxAttempts := by
          simp only [Bool.and_eq_true, decide_eq_true_eq, not_and, Nat.not_le] at hmax
          exact hmax hM
        simp [runOutcomes, hmax] at ih ⊢; omega
    | okLost => simp [runOutcomes] at ih ⊢; omega
    | failLost => simp [runOutcomes] at ih ⊢; omega

end Pithos.C22
