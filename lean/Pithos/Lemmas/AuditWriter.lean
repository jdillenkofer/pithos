/-
The audit-log writer and a validator reading its output stay in step (C26). An entry sealed by
`sealEntry` on top of the validator's current state passes the four entry-local checks of
`step_eq_ok_iff` (`step_sealed`), so only the grounding bookkeeping `stepGround` is left, settled
for the two kinds the writer appends by `step_sealed_log` and `step_sealed_grounding`. `Inv` ties
the writer's state to the validator's and is kept by `wInit`, `wLog` and `wRun`; `logsOf_wLog` says
what `wLog` adds to the LOG entries.
-/
import Pithos.Lemmas.AuditLog
namespace Pithos.C26
open Pithos.AuditLog

/-- What the writer theorems need from the tables and the keys: the stored hash and the entry
signature are not themselves hashed; the three type strings are distinct; a signature made with the
writer's key verifies (`verify (sign m) m = true`; trivially true when no verifier is configured). -/
structure WriterOK (T : Tables) (C : Crypto) (S : Signer) : Prop where
  hash_free : ∀ r, "Hash" ∉ hashedNames T r ∧ "SignatureEd25519" ∉ hashedNames T r
  log_ne_genesis : T.tLog ≠ T.tGenesis
  grounding_ne_genesis : T.tGrounding ≠ T.tGenesis
  grounding_ne_log : T.tGrounding ≠ T.tLog
  signEd_ok : ∀ m, sigOk C.vEd m (S.signEd m) = true
  signMl_ok : ∀ m, sigOk C.vMl m (S.signMl m) = true

variable {T : Tables} {C : Crypto} {S : Signer}

theorem hashInput_sealEntry (ok : WriterOK T C S) (prev : Bytes) (p : Rec) :
    hashInput T (sealEntry T C S prev p) = hashInput T (set p "PreviousHash" prev) := by
  unfold sealEntry
  rw [hashInput_set_unhashed T _ "SignatureEd25519" _ (by decide) (by decide) (ok.hash_free _).2]
  rw [hashInput_set_unhashed T _ "Hash" _ (by decide) (by decide) (ok.hash_free _).1]

theorem sealEntry_hash (prev : Bytes) (p : Rec) :
    get (sealEntry T C S prev p) "Hash" = C.H (hashInput T (set p "PreviousHash" prev)) := by
  unfold sealEntry
  rw [get_set_ne _ _ (by decide), get_set_eq]

theorem sealEntry_sig (prev : Bytes) (p : Rec) :
    get (sealEntry T C S prev p) "SignatureEd25519" = S.signEd (get (sealEntry T C S prev p) "Hash") := by
  rw [sealEntry_hash]
  unfold sealEntry
  rw [get_set_eq]

theorem sealEntry_prev (prev : Bytes) (p : Rec) :
    get (sealEntry T C S prev p) "PreviousHash" = prev := by
  unfold sealEntry
  rw [get_set_ne _ _ (by decide), get_set_ne _ _ (by decide), get_set_eq]

theorem sealEntry_get (prev : Bytes) (p : Rec) (f : String)
    (h1 : f ≠ "PreviousHash") (h2 : f ≠ "Hash") (h3 : f ≠ "SignatureEd25519") :
    get (sealEntry T C S prev p) f = get p f := by
  unfold sealEntry
  rw [get_set_ne _ _ h3, get_set_ne _ _ h2, get_set_ne _ _ h1]

theorem sealEntry_type (prev : Bytes) (p : Rec) : get (sealEntry T C S prev p) "Type" = get p "Type" :=
  sealEntry_get prev p "Type" (by decide) (by decide) (by decide)

theorem groundingPayload_get (md : Rec) (buf : List Bytes) :
    get (groundingPayload T C S md buf) "Type" = T.tGrounding ∧
    get (groundingPayload T C S md buf) "Grounding.MerkleRootHash" = merkleRoot C.H buf ∧
    get (groundingPayload T C S md buf) "Grounding.SignatureEd25519" = S.signEd (merkleRoot C.H buf) ∧
    get (groundingPayload T C S md buf) "Grounding.SignatureMlDsa87" = S.signMl (merkleRoot C.H buf) := by
  unfold groundingPayload
  refine ⟨?_, ?_, ?_, get_set_eq _ _ _⟩
  · rw [get_set_ne _ _ (by decide), get_set_ne _ _ (by decide), get_set_ne _ _ (by decide), get_set_eq]
  · rw [get_set_ne _ _ (by decide), get_set_ne _ _ (by decide), get_set_eq]
  · rw [get_set_ne _ _ (by decide), get_set_eq]

theorem step_sealed (ok : WriterOK T C S) {bs : Nat} {v v' : VState} {p : Rec} {prev : Bytes}
    (hidx : v.index = 0 → get p "Type" = T.tGenesis) (hprev : expectedPrev C v = prev)
    (hg : stepGround T C bs v (sealEntry T C S prev p) = .ok v') :
    step T C bs v (sealEntry T C S prev p) = .ok v' :=
  step_eq_ok_iff.2 ⟨by rw [hashInput_sealEntry ok, hashOf, sealEntry_hash],
    fun h => by rw [sealEntry_type, hidx h], (sealEntry_prev _ _).trans hprev.symm,
    by rw [sigOf, hashOf, sealEntry_sig, ok.signEd_ok], hg⟩

theorem stepGround_log (bs : Nat) (v : VState) (e : Rec) (hk : kind T e = 1)
    (hroom : v.buffer.length < bs) :
    stepGround T C bs v e =
      .ok { index := v.index + 1, prev := get e "Hash", buffer := v.buffer ++ [get e "Hash"] } := by
  unfold stepGround
  rw [if_pos hk, if_neg (by simp; omega)]

theorem stepGround_grounding (ok : WriterOK T C S) (bs : Nat) (v : VState) (e : Rec) (hk : kind T e = 2)
    (hfull : v.buffer.length = bs)
    (hroot : get e "Grounding.MerkleRootHash" = merkleRoot C.H v.buffer)
    (hsEd : get e "Grounding.SignatureEd25519" = S.signEd (merkleRoot C.H v.buffer))
    (hsMl : get e "Grounding.SignatureMlDsa87" = S.signMl (merkleRoot C.H v.buffer)) :
    stepGround T C bs v e = .ok { index := v.index + 1, prev := get e "Hash", buffer := [] } := by
  unfold stepGround
  rw [if_neg (by rw [hk]; decide), if_pos hk, if_neg (by simp [hfull]), if_neg (by simp [hroot])]
  rw [hroot, hsEd, hsMl, ok.signEd_ok, ok.signMl_ok]
  simp

theorem stepGround_genesis (bs : Nat) (v : VState) (e : Rec) (hk : kind T e = 0) :
    stepGround T C bs v e = .ok { index := v.index + 1, prev := get e "Hash", buffer := v.buffer } := by
  unfold stepGround
  rw [if_neg (by rw [hk]; decide), if_neg (by rw [hk]; decide)]

/-- The writer and a validator reading its output are in step. -/
structure Inv (T : Tables) (C : Crypto) (bs : Nat) (w : WState) (v : VState) : Prop where
  run : runFrom T C bs {} w.out = .ok v
  idx : v.index ≠ 0
  prev : v.prev = w.lastHash
  buf : v.buffer = w.buffer
  room : w.buffer.length < bs

theorem kind_of_type_log (ok : WriterOK T C S) (e : Rec) (h : get e "Type" = T.tLog) : kind T e = 1 := by
  unfold kind; simp [h, ok.log_ne_genesis]

theorem kind_of_type_grounding (ok : WriterOK T C S) (e : Rec) (h : get e "Type" = T.tGrounding) : kind T e = 2 := by
  unfold kind; simp [h, ok.grounding_ne_genesis, ok.grounding_ne_log]

theorem kind_of_type_genesis (e : Rec) (h : get e "Type" = T.tGenesis) : kind T e = 0 := by
  unfold kind; simp [h]

theorem runFrom_snoc {bs : Nat} {out : List Rec} {v v' : VState} {e : Rec}
    (hrun : runFrom T C bs {} out = .ok v) (hstep : step T C bs v e = .ok v') :
    runFrom T C bs {} (out ++ [e]) = .ok v' := by
  rw [runFrom_append, hrun]
  simp only [runFrom, hstep]

theorem step_sealed_log (ok : WriterOK T C S) (bs : Nat) (v : VState) (p : Rec) (hidx : v.index ≠ 0)
    (hroom : v.buffer.length < bs) :
    let e := sealEntry T C S v.prev (set p "Type" T.tLog)
    step T C bs v e = .ok { index := v.index + 1, prev := get e "Hash", buffer := v.buffer ++ [get e "Hash"] } := by
  exact step_sealed ok (fun h => absurd h hidx) (if_neg hidx)
    (stepGround_log bs v _ (kind_of_type_log ok _ (by rw [sealEntry_type, get_set_eq])) hroom)

theorem step_sealed_grounding (ok : WriterOK T C S) (bs : Nat) (v : VState) (gmd : Rec) (hidx : v.index ≠ 0)
    (hfull : v.buffer.length = bs) :
    let g := sealEntry T C S v.prev (groundingPayload T C S gmd v.buffer)
    step T C bs v g = .ok { index := v.index + 1, prev := get g "Hash", buffer := [] } := by
  intro g
  obtain ⟨hT, hroot, hsEd, hsMl⟩ := groundingPayload_get (T := T) (C := C) (S := S) gmd v.buffer
  apply step_sealed ok (fun h => absurd h hidx) (if_neg hidx)
  apply stepGround_grounding ok bs v _ (kind_of_type_grounding ok _ (by rw [sealEntry_type, hT])) hfull
  · rw [sealEntry_get _ _ _ (by decide) (by decide) (by decide), hroot]
  · rw [sealEntry_get _ _ _ (by decide) (by decide) (by decide), hsEd]
  · rw [sealEntry_get _ _ _ (by decide) (by decide) (by decide), hsMl]

theorem inv_wLog (ok : WriterOK T C S) (bs : Nat) (w : WState) (v : VState) (p gmd : Rec)
    (inv : Inv T C bs w v) : ∃ v', Inv T C bs (wLog T C S bs w p gmd) v' := by
  obtain ⟨lastHash, buffer, out⟩ := w
  obtain ⟨hrun, hidx, rfl, rfl, (hroom : v.buffer.length < bs)⟩ := inv
  have hrun1 := runFrom_snoc hrun (step_sealed_log ok bs v p hidx hroom)
  unfold wLog
  simp only [ge_iff_le, List.length_append, List.length_singleton]
  split
  · have hrun2 := runFrom_snoc hrun1 (step_sealed_grounding ok bs _ gmd (Nat.succ_ne_zero _)
      (by simp only [List.length_append, List.length_singleton]; omega))
    exact ⟨_, hrun2, Nat.succ_ne_zero _, rfl, rfl, by simp only [List.length_nil]; omega⟩
  · exact ⟨_, hrun1, Nat.succ_ne_zero _, rfl, rfl,
      by simp only [List.length_append, List.length_singleton]; omega⟩

theorem inv_wRun (ok : WriterOK T C S) (bs : Nat) (ps : List (Rec × Rec)) (w : WState) (v : VState)
    (inv : Inv T C bs w v) : ∃ v', Inv T C bs (wRun T C S bs w ps) v' := by
  induction ps generalizing w v with
  | nil => exact ⟨v, inv⟩
  | cons pg ps ih =>
    obtain ⟨p, g⟩ := pg
    obtain ⟨v1, inv1⟩ := inv_wLog ok bs w v p g inv
    exact ih _ v1 inv1

theorem inv_wInit (ok : WriterOK T C S) (bs : Nat) (hbs : 0 < bs) (md : Rec) :
    ∃ v, Inv T C bs (wInit T C S md) v := by
  let g := sealEntry T C S (C.H pithos) (set md "Type" T.tGenesis)
  have hTg : get g "Type" = T.tGenesis := by rw [sealEntry_type, get_set_eq]
  have hstep : step T C bs {} g = .ok { index := 1, prev := get g "Hash", buffer := [] } :=
    step_sealed ok (fun _ => get_set_eq _ _ _) rfl (stepGround_genesis bs {} _ (kind_of_type_genesis _ hTg))
  refine ⟨{ index := 1, prev := get g "Hash", buffer := [] }, ?_, by simp, rfl, rfl, hbs⟩
  show runFrom T C bs {} [g] = _
  simp only [runFrom, hstep]

/-- The LOG entries of a log, in order. -/
def logsOf (T : Tables) (out : List Rec) : List Rec := out.filter fun e => get e "Type" == T.tLog

theorem logsOf_snoc (out : List Rec) (e : Rec) :
    logsOf T (out ++ [e]) = logsOf T out ++ if get e "Type" = T.tLog then [e] else [] := by
  by_cases h : get e "Type" = T.tLog
  · simp [logsOf, h]
  · simp [logsOf, h]

theorem logsOf_wLog (ok : WriterOK T C S) (bs : Nat) (w : WState) (p gmd : Rec) (f : String)
    (h0 : f ≠ "Type") (h1 : f ≠ "PreviousHash") (h2 : f ≠ "Hash") (h3 : f ≠ "SignatureEd25519") :
    (logsOf T (wLog T C S bs w p gmd).out).map (get · f) = (logsOf T w.out).map (get · f) ++ [get p f] := by
  have hTe : get (sealEntry T C S w.lastHash (set p "Type" T.tLog)) "Type" = T.tLog := by
    rw [sealEntry_type, get_set_eq]
  have hfe : get (sealEntry T C S w.lastHash (set p "Type" T.tLog)) f = get p f := by
    rw [sealEntry_get _ _ f h1 h2 h3, get_set_ne _ _ h0]
  have hTg : ∀ prev buf, get (sealEntry T C S prev (groundingPayload T C S gmd buf)) "Type" ≠ T.tLog := by
    intro prev buf
    rw [sealEntry_type, (groundingPayload_get gmd buf).1]
    exact ok.grounding_ne_log
  unfold wLog
  simp only []
  split
  · rw [logsOf_snoc, logsOf_snoc, if_pos hTe, if_neg (hTg _ _), List.append_nil, List.map_append,
      List.map_singleton, hfe]
  · rw [logsOf_snoc, if_pos hTe, List.map_append, List.map_singleton, hfe]

end Pithos.C26
