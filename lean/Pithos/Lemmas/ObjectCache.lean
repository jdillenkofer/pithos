/-
The object-cache middleware, sequential part: the coherence invariant behind `C20.cache_transparent`.
`Coh I s c`: every cached head and body is what the inner storage answers right now. Dropping an entry,
or setting it to the current answer, keeps it; a call of the inner storage (`InnerOK`: one that changes
the answers of its targets only) keeps it once those keys are invalidated, which a covering override
mode does (`MutCovered`, `coh_afterMut`). So each step, and each history, answers like the inner storage.
-/
import Pithos.Model.ObjectCache

namespace Pithos.C20
open Pithos.ObjectCache

/-- What `cache_transparent` assumes of the inner storage (each clause is another property's business and is
exercised by the lock-step differential): a read that succeeds keeps its answer across any call that is
non-mutating, failed, or aimed at other keys (C03, C13); a successful PutObject reads back (C01). -/
structure InnerOK {σ} (I : Inner σ) : Prop where
  frame : ∀ s m k h b, I.cur s k = .ok (h, b) →
    (m.method ∉ mutatingMethods ∨ (I.apply s m).2.1 = false ∨ k ∉ targets m (I.apply s m).2.2) →
    I.cur (I.apply s m).1 k = .ok (h, b)
  put_readback : ∀ s m, m.method = "PutObject" → (I.apply s m).2.1 = true →
    ∃ h, I.cur (I.apply s m).1 m.key = .ok (h, m.data)

/-- Cache coherence: every cached head/body is what the inner storage answers right now. -/
def Coh {σ} (I : Inner σ) (s : σ) (c : Cache) : Prop :=
  (∀ k h, c.head k = some h → ∃ b, I.cur s k = .ok (h, b)) ∧
  (∀ k b, c.body k = some b → ∃ h, I.cur s k = .ok (h, b))

/-- The override mode of a call is adequate. -/
def MutCovered (p : Params) (m : Mut) : Prop :=
  (p.mode m.method = .putFill → m.method = "PutObject") ∧
  (m.method ∈ mutatingMethods → covers (p.mode m.method) m.method = true)

def OpCovered (p : Params) : Op → Prop
  | .call m => MutCovered p m
  | _ => True

theorem coh_empty {σ} (I : Inner σ) (s : σ) : Coh I s Cache.empty := by
  constructor <;> intro k x h <;> simp [Cache.empty] at h

theorem coh_setHead {σ} {I : Inner σ} {s : σ} {c : Cache} (k : Key) (o : Option Head)
    (ho : match o with | none => True | some x => ∃ b, I.cur s k = .ok (x, b)) (h : Coh I s c) :
    Coh I s (c.setHead k o) := by
  refine ⟨fun k' x hx => ?_, h.2⟩
  simp only [Cache.setHead] at hx
  split at hx
  · next e => subst e hx; exact ho
  · exact h.1 k' x hx

theorem coh_setBody {σ} {I : Inner σ} {s : σ} {c : Cache} (k : Key) (o : Option Body)
    (ho : match o with | none => True | some b => ∃ x, I.cur s k = .ok (x, b)) (h : Coh I s c) :
    Coh I s (c.setBody k o) := by
  refine ⟨h.1, fun k' b hb => ?_⟩
  simp only [Cache.setBody] at hb
  split at hb
  · next e => subst e hb; exact ho
  · exact h.2 k' b hb

theorem inval_head (c : Cache) (k k' : Key) : (c.inval k).head k' = if k' = k then none else c.head k' := rfl

theorem inval_body (c : Cache) (k k' : Key) : (c.inval k).body k' = if k' = k then none else c.body k' := rfl

theorem setHead_setBody_inval (c : Cache) (k : Key) (b : Option Body) (h : Option Head) :
    ((c.inval k).setBody k b).setHead k h = (c.setBody k b).setHead k h := by
  simp only [Cache.inval, Cache.setHead, Cache.setBody, Cache.mk.injEq]
  constructor <;> funext k' <;> by_cases e : k' = k <;> simp [e]

theorem foldl_inval_head (ks : List Key) (c : Cache) (k : Key) :
    (ks.foldl Cache.inval c).head k = if k ∈ ks then none else c.head k := by
  induction ks generalizing c with
  | nil => simp
  | cons a as ih =>
    rw [List.foldl_cons, ih, inval_head]
    by_cases h1 : k ∈ as <;> by_cases h2 : k = a <;> simp [h1, h2]

theorem foldl_inval_body (ks : List Key) (c : Cache) (k : Key) :
    (ks.foldl Cache.inval c).body k = if k ∈ ks then none else c.body k := by
  induction ks generalizing c with
  | nil => simp
  | cons a as ih =>
    rw [List.foldl_cons, ih, inval_body]
    by_cases h1 : k ∈ as <;> by_cases h2 : k = a <;> simp [h1, h2]

theorem covers_putFill {m : String} (h : covers .putFill m = true) : m = "PutObject" := by
  simpa [covers] using h

theorem coh_foldl_inval {σ} {I : Inner σ} {s s' : σ} {c : Cache} (ks : List Key) (h : Coh I s c)
    (keep : ∀ k x b, k ∉ ks → I.cur s k = .ok (x, b) → I.cur s' k = .ok (x, b)) :
    Coh I s' (ks.foldl Cache.inval c) := by
  constructor
  · intro k x hx
    rw [foldl_inval_head] at hx
    split at hx
    · cases hx
    · next hk =>
      obtain ⟨b, hb⟩ := h.1 k x hx
      exact ⟨b, keep k x b hk hb⟩
  · intro k b hb
    rw [foldl_inval_body] at hb
    split at hb
    · cases hb
    · next hk =>
      obtain ⟨x, hx⟩ := h.2 k b hb
      exact ⟨x, keep k x b hk hx⟩

theorem coh_afterMut {σ} (I : Inner σ) (hI : InnerOK I) (p : Params) (hk : p.keepKey = true)
    (s : σ) (c : Cache) (m : Mut) (hc : Coh I s c) (hm : MutCovered p m) :
    Coh I (I.apply s m).1 (afterMut I p (I.apply s m).1 c m (I.apply s m).2.1 (I.apply s m).2.2) := by
  generalize hr : I.apply s m = r at *
  have frame := fun k x b hx hh => hr ▸ hI.frame s m k x b hx (hr ▸ hh)
  have rb := fun h1 h2 => hr ▸ hI.put_readback s m h1 (hr ▸ h2)
  obtain ⟨hpf, hcov⟩ := hm
  -- every mode but a successful put-fill invalidates a list of keys (`c.inval k` is the list `[k]`, no
  -- invalidation the list `[]`); that is enough when the list holds the targets of a successful mutating
  -- call — a call that is not mutating, or fails, changes no answer at all
  have inval : ∀ ks : List Key, (m.method ∈ mutatingMethods → r.2.1 = true → ∀ k ∈ targets m r.2.2, k ∈ ks) →
      Coh I r.1 (ks.foldl Cache.inval c) := by
    intro ks hks
    refine coh_foldl_inval ks hc (fun k x b hk hx => frame k x b hx ?_)
    by_cases hmut : m.method ∈ mutatingMethods
    · by_cases hok : r.2.1 = true
      · exact Or.inr (Or.inr (fun ht => hk (hks hmut hok k ht)))
      · exact Or.inr (Or.inl (by simpa using hok))
    · exact Or.inl hmut
  have single : m.method ≠ "DeleteObjects" → ∀ k ∈ targets m r.2.2, k ∈ [m.key] := by
    intro hne k hk'; simpa [targets, hne] using hk'
  unfold afterMut
  cases hmode : p.mode m.method with
  | none =>
    refine inval [] (fun hmut _ => ?_)
    have := hcov hmut
    simp [hmode, covers] at this
  | always =>
    exact inval [m.key] (fun hmut _ => single (by simpa [hmode, covers] using hcov hmut))
  | onSuccess =>
    simp only []
    split
    · exact inval [m.key] (fun hmut _ => single (by simpa [hmode, covers] using hcov hmut))
    · next hno => exact inval [] (fun _ hok => absurd hok hno)
  | perDeleted =>
    simp only []
    split
    · refine inval r.2.2 (fun hmut _ k hk' => ?_)
      have heq : m.method = "DeleteObjects" := by simpa [hmode, covers] using hcov hmut
      simpa [targets, heq] using hk'
    · next hno => exact inval [] (fun _ hok => absurd hok hno)
  | putFill =>
    have heq : m.method = "PutObject" := hpf hmode
    have hne : m.method ≠ "DeleteObjects" := by rw [heq]; decide
    simp only []
    split
    · next hok =>
      obtain ⟨hd, hrb⟩ := rb heq hok
      -- the entries of the written key are overwritten, which is: invalidated, then refilled with what
      -- the inner storage answers now
      rw [hrb]
      simp only [roundTrip, hk, if_true]
      rw [← setHead_setBody_inval]
      have h0 := inval [m.key] (fun _ _ => single hne)
      refine coh_setHead _ _ ⟨_, hrb⟩ ?_
      split
      · exact coh_setBody _ _ ⟨_, hrb⟩ h0
      · exact coh_setBody _ none trivial h0
    · exact inval [m.key] (fun _ _ => single hne)

theorem step_transparent {σ} (I : Inner σ) (hI : InnerOK I) (p : Params) (hk : p.keepKey = true)
    (s : σ) (c : Cache) (op : Op) (hc : Coh I s c) (hop : OpCovered p op) :
    (stepCached I p s c op).2 = (stepInner I s op).2 ∧
    (stepCached I p s c op).1.1 = (stepInner I s op).1 ∧
    Coh I (stepCached I p s c op).1.1 (stepCached I p s c op).1.2 := by
  cases op with
  | head k cnd =>
    simp only [stepCached, stepInner]
    cases hh : c.head k with
    | some x =>
      obtain ⟨b, hb⟩ := hc.1 k x hh
      simp [hb, hc]
    | none =>
      cases hcur : I.cur s k with
      | error e => simp [hc]
      | ok v =>
        obtain ⟨x, b⟩ := v
        simp only [roundTrip, hk, if_true, true_and]
        exact coh_setHead k _ ⟨b, hcur⟩ hc
  | get k cnd full =>
    simp only [stepCached, stepInner]
    split
    · next x b hh hb =>
      -- hit: head and body are both what the inner storage answers now
      obtain ⟨b', hb'⟩ := hc.1 k x hh
      obtain ⟨x', hx'⟩ := hc.2 k b hb
      rw [hb'] at hx'
      cases hx'
      simp [hb', hc]
    · cases hcur : I.cur s k with
      | error e => simp [hc]
      | ok v =>
        obtain ⟨x, b⟩ := v
        simp only [resOf]
        cases hv : validate cnd x with
        | some e => simp [hc]
        | none =>
          simp only [roundTrip, hk, if_true]
          split
          · refine ⟨rfl, rfl, coh_setBody k _ ?_ (coh_setHead k _ ⟨b, hcur⟩ hc)⟩
            cases full
            · trivial
            · exact ⟨x, hcur⟩
          · exact ⟨rfl, rfl, hc⟩
  | call m =>
    simp only [stepCached, stepInner, true_and]
    exact coh_afterMut I hI p hk s c m hc hop
  | evict hs bs =>
    simp only [stepCached, stepInner, true_and]
    exact List.foldlRecOn bs _ (List.foldlRecOn hs _ hc fun _ h k _ => coh_setHead k none trivial h)
      fun _ h k _ => coh_setBody k none trivial h

theorem run_transparent_st {σ} (I : Inner σ) (hI : InnerOK I) (p : Params) (hk : p.keepKey = true)
    (ops : List Op) (s : σ) (c : Cache) (hc : Coh I s c) (hops : ∀ op ∈ ops, OpCovered p op) :
    (runCachedSt I p s c ops).2 = (runInnerSt I s ops).2 ∧
    (runCachedSt I p s c ops).1.1 = (runInnerSt I s ops).1 ∧
    Coh I (runCachedSt I p s c ops).1.1 (runCachedSt I p s c ops).1.2 := by
  induction ops generalizing s c with
  | nil => exact ⟨rfl, rfl, hc⟩
  | cons op ops ih =>
    obtain ⟨h1, h2, h3⟩ := step_transparent I hI p hk s c op hc (hops op (by simp))
    obtain ⟨i1, i2, i3⟩ := ih _ _ h3 (fun o ho => hops o (by simp [ho]))
    simp only [runCachedSt, runInnerSt]
    rw [h1, ← h2]
    exact ⟨by rw [i1], i2, i3⟩

theorem runCachedSt_snd {σ} (I : Inner σ) (p : Params) (ops : List Op) (s : σ) (c : Cache) :
    (runCachedSt I p s c ops).2 = runCached I p s c ops := by
  induction ops generalizing s c with
  | nil => rfl
  | cons op ops ih => simp only [runCachedSt, runCached, ih]

theorem runInnerSt_snd {σ} (I : Inner σ) (ops : List Op) (s : σ) : (runInnerSt I s ops).2 = runInner I s ops := by
  induction ops generalizing s with
  | nil => rfl
  | cons op ops ih => simp only [runInnerSt, runInner, ih]

theorem modeOfTable_mem (tbl : List (String × String × String)) (m : String) (h : modeOfTable tbl m ≠ .none) :
    ∃ e ∈ tbl, e.1 = m ∧ Mode.ofString e.2.1 = modeOfTable tbl m := by
  unfold modeOfTable at h ⊢
  cases hf : tbl.find? (fun e => e.1 == m) with
  | none => simp [hf] at h
  | some e =>
    refine ⟨e, List.mem_of_find?_eq_some hf, ?_, by simp⟩
    have := List.find?_some hf
    simpa using this

theorem mutCovered_of_table (tbl : List (String × String × String)) (keepKey : Bool) (maxObj : Nat)
    (hput : ∀ e ∈ tbl, Mode.ofString e.2.1 = .putFill → e.1 = "PutObject") (m : Mut)
    (hcov : m.method ∈ mutatingMethods → covers (modeOfTable tbl m.method) m.method = true) :
    MutCovered ⟨modeOfTable tbl, keepKey, maxObj⟩ m := by
  refine ⟨fun hpf => ?_, hcov⟩
  have hpf' : modeOfTable tbl m.method = .putFill := hpf
  obtain ⟨e, he, h1, h2⟩ := modeOfTable_mem tbl m.method (by rw [hpf']; decide)
  rw [hpf'] at h2
  exact h1 ▸ hput e he h2

end Pithos.C20
