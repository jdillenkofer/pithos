/-
Helper lemmas for C37 (Pithos.Props.C37). The destination is written through `S3.step`; what the
property needs of it is said in terms of `cur`, the current object under a key: a put into another
bucket leaves a bucket as it is (no invariant needed: `never_overwrites` is about every destination),
and in a well-formed state a put is a point update of `cur` (`cur_put`, read off the storage model's
`InstEff`). A bucket's migration is then a fold of point updates (`cur_migrateBucket`,
`migrateBuckets_cur`). The rest: what the set of carried attributes determines, and what the
flow table determines. Last, in `Pithos.C37`, the two facts about a whole run that the property
theorems are read off: `Untouched` with `migrateBuckets_guard` (a destination bucket that listed a
current object is never written, and the run stops at it) and `migrate_spec` (where no bucket of a
source bucket's name lists a current object the run succeeds, and the destination's `cur` is
`carry P` of the source's).
Core Lean only.
-/
import Pithos.Model.Migrator
import Pithos.Lemmas.S3Read

namespace Pithos.Migrator
open Pithos.S3

/-- The state after the clock tick every `S3.step` begins with (the same function as `S3.tick`). -/
def bump (s : State) : State := { s with clock := s.clock + 1 }

/-- The object `putOfView b k v` hands to `install`: the view's body as one part, its attributes. -/
def newObj (v : View) : NewObj :=
  { parts := [v.body], etag := singleETag v.body, o := { ct := v.ct, md := v.md, tags := v.tags, cls := v.cls } }

@[simp] theorem findBucket_bump (s : State) (b : String) : findBucket (bump s) b = findBucket s b := rfl

theorem step_put_eq (q : Quirks) (s : State) (b k : String) (v : View) :
    (step q s (putOfView b k v)).1 =
      match findBucket s b with
      | none => bump s
      | some bk => (install q (bump s) bk k (newObj v)).1 := by
  show (stepT q (bump s) (.put b k v.body _ false .none)).1 = _
  rw [stepT_put_eq, withB, findBucket_bump]
  cases findBucket s b with
  | none => rfl
  | some bk => simp only [putRow_unconditional]; rfl

theorem step_mkb_find (q : Quirks) (s : State) (b n : String) (h : findBucket s b = none) :
    findBucket (step q s (.mkb b)).1 n = (findBucket s n).or (if b = n then some { name := b } else none) := by
  show findBucket (stepT q (bump s) (.mkb b)).1 n = _
  rw [stepT_mkb_eq, findBucket_bump, h]
  exact findBucket_mkb (bump s) b n

@[simp] theorem addRow_name (bk : Bucket) (r : Row) : (addRow bk r).name = bk.name := rfl
@[simp] theorem replaceRow_name (bk : Bucket) (r : Row) : (replaceRow bk r).name = bk.name := rfl
@[simp] theorem unlatest_name (q : Quirks) (n : Nat) (bk : Bucket) (r : Row) : (unlatest q n bk r).name = bk.name := rfl

theorem install_findBucket_other (q : Quirks) (s : State) (bk : Bucket) (k : String) (n : NewObj) (b' : String)
    (hne : bk.name ≠ b') : findBucket (install q s bk k n).1 b' = findBucket s b' := by
  have hadd (r : Row) : findBucket (setBucket s (addRow (unlatestCur q s.clock bk k) r)) b' = findBucket s b' :=
    findBucket_setBucket_ne (by rwa [addRow_name, unlatestCur_name])
  unfold install
  split
  · exact hadd _
  · split
    · exact findBucket_setBucket_ne (by rwa [replaceRow_name, unlatestCur_name])
    · exact hadd _

theorem step_put_other (q : Quirks) (s : State) (b k : String) (v : View) (b' : String) (hne : b' ≠ b) :
    findBucket (step q s (putOfView b k v)).1 b' = findBucket s b' := by
  rw [step_put_eq]
  cases h : findBucket s b with
  | none => rfl
  | some bk =>
    exact install_findBucket_other q (bump s) bk k (newObj v) b' (by rw [findBucket_some_name h]; exact hne.symm)

theorem createMissing_find (q : Quirks) (names : List String) (d : State) (n : String) :
    findBucket (createMissing q d names) n =
      (findBucket d n).or (if n ∈ names then some { name := n } else none) := by
  unfold createMissing
  induction names generalizing d with
  | nil => simp
  | cons b rest ih =>
    rw [List.foldl_cons, ih]
    cases hb : findBucket d b with
    | some bk =>
      -- `b` exists: the state is left alone, and `n = b` is found in it
      by_cases hnb : n = b
      · subst hnb; simp [hb]
      · simp [hnb]
    | none =>
      rw [Option.isSome_none, if_neg Bool.false_ne_true, step_mkb_find q d b n hb, Option.or_assoc]
      by_cases hnb : n = b
      · subst hnb; simp
      · simp [hnb, Ne.symm hnb]

theorem migrateBucket_other (q : Quirks) (P : Params) (b : String) (rows : List Row) (d : State) (b' : String)
    (hne : b' ≠ b) : findBucket (migrateBucket q P d b rows) b' = findBucket d b' := by
  unfold migrateBucket
  induction rows generalizing d with
  | nil => rfl
  | cons r rs ih =>
    simp only [List.foldl_cons]
    rw [ih, step_put_other q d b r.key _ b' hne]

theorem hasCurrent_congr {s t : State} {b : String} (h : findBucket s b = findBucket t b) :
    hasCurrent s b = hasCurrent t b := by
  unfold hasCurrent; rw [h]

theorem cur_congr {s t : State} {b : String} (h : findBucket s b = findBucket t b) (k : String) :
    cur s b k = cur t b k := by
  unfold cur; rw [h]

theorem cur_eq {s : State} {b : String} {bk : Bucket} (hb : findBucket s b = some bk) (k : String) :
    cur s b k = (latestRow bk k).bind fun r => if r.dm then none else some (viewOfRow r) := by
  unfold cur; rw [hb]; dsimp only; cases latestRow bk k <;> rfl

theorem hasCurrent_of_cur {s : State} {b k : String} {v : View} (h : cur s b k = some v) : hasCurrent s b = true := by
  unfold hasCurrent
  cases hb : findBucket s b with
  | none => unfold cur at h; rw [hb] at h; cases h
  | some bk =>
    rw [cur_eq hb, Option.bind_eq_some_iff] at h
    obtain ⟨r, hl, hr⟩ := h
    obtain ⟨hmem, -, hlat⟩ := latestRow_some hl
    have hdm : r.dm = false := by
      cases hd : r.dm with
      | false => rfl
      | true => rw [hd] at hr; cases hr
    have : r ∈ currentRows bk := List.mem_filter.2 ⟨hmem, by rw [hlat, hdm]; rfl⟩
    dsimp only
    cases hc : currentRows bk with
    | nil => rw [hc] at this; cases this
    | cons _ _ => rfl

theorem cur_none_of_empty {s : State} {b : String} (h : hasCurrent s b = false) (k : String) : cur s b k = none := by
  cases hc : cur s b k with
  | none => rfl
  | some v => rw [hasCurrent_of_cur hc] at h; cases h

theorem cur_put (q : Quirks) {s : State} {b k : String} {bk : Bucket} (v : View) (hinv : S3.Inv s)
    (hb : findBucket s b = some bk) :
    (findBucket (step q s (putOfView b k v)).1 b).isSome = true ∧
    ∀ b' k', cur (step q s (putOfView b k v)).1 b' k' = if b' = b ∧ k' = k then some v else cur s b' k' := by
  have hrows : RowsInv (bump s).nextRow bk.rows := hinv bk (findBucket_mem hb)
  have e := install_eff q k (newObj v) hrows
  have hname := findBucket_some_name hb
  have hother (b' : String) (hbb : b' ≠ b) := step_put_other q s b k v b' hbb
  rw [step_put_eq, hb] at hother ⊢
  dsimp only at hother ⊢
  obtain ⟨bk', id, c, hb', hl⟩ := instEff_current (s := bump s) hb hname hrows e
  obtain ⟨X, hX, hXn, hfind⟩ := (e.edited (A := fun _ => True) fun _ _ => trivial).find_other hrows
  have hfX : findBucket (install q (bump s) bk k (newObj v)).1 b = some X := by
    rw [findBucket_congr hX]; exact findBucket_setBucket (s := bump s) hb (hXn.trans hname)
  refine ⟨by rw [hb']; rfl, fun b' k' => ?_⟩
  by_cases hbb : b' = b
  · subst hbb
    by_cases hk : k' = k
    · subst hk
      rw [if_pos ⟨rfl, rfl⟩, cur_eq hb', hl]
      cases v
      simp [viewOfRow, Row.content, mkRow, newObj]
    · have : latestRow X k' = latestRow bk k' :=
        hfind (fun r => r.key == k' && r.latest) fun x hx => by simp [hx, Ne.symm hk]
      rw [if_neg (fun h => hk h.2), cur_eq hfX, cur_eq hb, this]
  · rw [if_neg (fun h => hbb h.1)]
    exact cur_congr (hother b' hbb) k'

theorem cur_migrateBucket (q : Quirks) (P : Params) (b : String) :
    ∀ (rows : List Row) (d : State), S3.Inv d → (findBucket d b).isSome = true → (rows.map (·.key)).Nodup →
      S3.Inv (migrateBucket q P d b rows) ∧
      ∀ k, cur (migrateBucket q P d b rows) b k =
        ((rows.find? (·.key == k)).map fun r => carry P (viewOfRow r)).or (cur d b k) := by
  intro rows
  unfold migrateBucket
  induction rows with
  | nil => exact fun d hinv _ _ => ⟨hinv, fun k => rfl⟩
  | cons r rs ih =>
    intro d hinv hb hnd
    obtain ⟨bk, hbk⟩ := Option.isSome_iff_exists.1 hb
    obtain ⟨hb1, hcur⟩ := cur_put q (carry P (viewOfRow r)) hinv hbk
    obtain ⟨hnot, hnd'⟩ := List.nodup_cons.1 hnd
    obtain ⟨hi, h⟩ := ih _ (S3.step_inv q d _ hinv) hb1 hnd'
    refine ⟨hi, fun k => ?_⟩
    rw [List.foldl_cons, h k, hcur b k, List.find?_cons]
    by_cases hk : r.key = k
    · -- the keys are distinct, so no later row overrides this one
      have : rs.find? (·.key == k) = none :=
        List.find?_eq_none.2 fun x hx hxk => hnot (List.mem_map.2 ⟨x, hx, (eq_of_beq hxk).trans hk.symm⟩)
      simp [hk, this]
    · have : (r.key == k) = false := beq_false_of_ne hk
      simp [this, Ne.symm hk]

/-- At most one row per key carries the latest flag. -/
def LatestUnique (bk : Bucket) : Prop := ((bk.rows.filter (·.latest)).map (·.key)).Nodup

theorem findBucket_of_mem (s : State) (bk : Bucket) (hn : (s.buckets.map (·.name)).Nodup) (hm : bk ∈ s.buckets) :
    findBucket s bk.name = some bk :=
  find?_of_unique hm (beq_self_eq_true _) fun _ hx hp => eq_of_map_eq hn hx hm (beq_iff_eq.1 hp)

theorem currentKeys_nodup (rows : List Row) (h : ((rows.filter (·.latest)).map (·.key)).Nodup) :
    ((rows.filter fun r => r.latest && !r.dm).map (·.key)).Nodup := by
  have : (rows.filter fun r => r.latest && !r.dm) = (rows.filter (·.latest)).filter (fun r => !r.dm) := by
    rw [List.filter_filter]; congr 1; funext r; exact Bool.and_comm _ _
  rw [this]
  exact List.Nodup.sublist (List.filter_sublist.map _) h

theorem cur_source (s : State) (bk : Bucket) (k : String) (hb : findBucket s bk.name = some bk) (hu : LatestUnique bk) :
    cur s bk.name k = ((currentRows bk).find? (·.key == k)).map viewOfRow := by
  rw [cur_eq hb]
  unfold latestRow currentRows LatestUnique at *
  generalize bk.rows = rows at hu
  induction rows with
  | nil => rfl
  | cons r rs ih =>
    rw [List.find?_cons, List.filter_cons]
    rw [List.filter_cons] at hu
    cases hl : r.latest with
    | false =>
      rw [hl] at hu
      simp only [Bool.and_false, Bool.false_and, Bool.false_eq_true, if_false]
      exact ih hu
    | true =>
      rw [hl, if_pos rfl, List.map_cons, List.nodup_cons] at hu
      rw [Bool.and_true, Bool.true_and]
      cases hk : r.key == k with
      | false => cases r.dm <;> simp [hk, ih hu.2]
      | true =>
        cases hd : r.dm with
        | false => simp [hk, hd]
        | true =>
          -- a delete marker is current: no other latest row has this key
          symm
          simp only [hd, Bool.not_true, Bool.false_eq_true, if_false, Option.bind_some, if_true,
            Option.map_eq_none_iff, List.find?_eq_none]
          intro r' hr' hk'
          rw [List.mem_filter, Bool.and_eq_true] at hr'
          exact hu.1 (List.mem_map.2 ⟨r', List.mem_filter.2 ⟨hr'.1, hr'.2.1⟩, by rw [eq_of_beq hk', eq_of_beq hk]⟩)

theorem carryMd_id (P : Params) (md : Pairs) (hc : ∀ p ∈ md, P.carried.contains (fieldOfMdKey p.1) = true)
    (hex : ∀ p ∈ md, p.1 = "!ex" → P.ex p.2 = some p.2) : carryMd P md = md := by
  unfold carryMd
  induction md with
  | nil => rfl
  | cons p ps ih =>
    have hp : carryEntry P p = some p := by
      unfold carryEntry
      rw [hc p (by simp)]
      by_cases hk : p.1 = "!ex"
      · have h1 : (p.1 == "!ex") = true := by simp [hk]
        simp only [h1, if_true, hex p (by simp) hk, Option.map_some]
      · have h1 : (p.1 == "!ex") = false := beq_false_of_ne hk
        simp only [h1, Bool.false_eq_true, if_false, if_true]
    rw [List.filterMap_cons, hp]
    simp only
    rw [ih (fun q hq => hc q (by simp [hq])) (fun q hq => hex q (by simp [hq]))]

theorem ite_of {α : Sort _} {P : α → Prop} {c : Prop} [Decidable c] {a b : α} (ha : P a) (hb : P b) :
    P (if c then a else b) := by split <;> assumption

theorem fieldOfMdKey_cases (k : String) :
    fieldOfMdKey k ∈ [Field.cacheControl, .contentDisposition, .contentEncoding, .contentLanguage, .expires,
      .websiteRedirect, .userMetadata] := by
  unfold fieldOfMdKey
  repeat' apply ite_of
  all_goals decide

theorem fieldOfMdKey_ne_content (k : String) : fieldOfMdKey k ≠ .content ∧ fieldOfMdKey k ≠ .contentType ∧
    fieldOfMdKey k ≠ .tags ∧ fieldOfMdKey k ≠ .storageClass := by
  have := fieldOfMdKey_cases k
  revert this
  generalize fieldOfMdKey k = f
  cases f <;> decide

theorem mem_observableFields (f : Field) : f ∈ observableFields := by cases f <;> decide

theorem carry_eq_self (P : Params) (v : View) (hc : P.carried = observableFields)
    (hex : ∀ p ∈ v.md, p.1 = "!ex" → P.ex p.2 = some p.2) : carry P v = v := by
  have hall (f : Field) : P.carried.contains f = true := by
    rw [hc, List.contains_iff_mem]; exact mem_observableFields f
  unfold carry
  rw [carryMd_id P v.md (fun p _ => hall _) hex]
  simp only [hall, if_true]

theorem gap_eq (t : FlowTable) :
    observableFields.filter (fun f => !flows t f)
      = observableFields.filter (fun f => !(migratedFields t).contains f) := by
  apply List.filter_congr
  intro f hf
  congr 1
  rw [Bool.eq_iff_iff, List.contains_iff_mem, migratedFields, List.mem_filter]
  exact ⟨fun h => ⟨hf, h⟩, fun h => h.2⟩

theorem flows_of_carried {t : FlowTable} {f : Field} (h : f ∈ migratedFields t) :
    flowsPut t f = true ∧ flowsMultipart t f = true := by
  rw [migratedFields, List.mem_filter, flows, Bool.and_eq_true] at h
  exact h.2

theorem codeParams_some (t : FlowTable) : codeParams t some = ⟨migratedFields t, some⟩ := by
  unfold codeParams; split <;> rfl

/-- The table without everything that concerns the `PutObjectInput` field / option field `x`. -/
def dropField (t : FlowTable) (x : String) : FlowTable :=
  { t with
    inputAssignments := t.inputAssignments.filter (fun a => a.1 != x),
    adapterFlows := t.adapterFlows.filter (fun a => a.2.1 != x),
    optionValues := t.optionValues.filter (fun a => a.2.1 != x) }

theorem assigned_dropField (t : FlowTable) {x : String} {f : Field} (h : (route f).input ≠ x) :
    assigned (dropField t x) f = assigned t f := by
  unfold assigned dropField
  dsimp only
  rw [any_filter_of_imp]
  intro a ha
  rw [Bool.and_eq_true, beq_iff_eq] at ha
  rw [ha.1]
  exact bne_iff_ne.2 h

theorem guardOk_dropField (t : FlowTable) {x : String} (m : String) {o : String} (h : o ≠ x) :
    guardOk (dropField t x) m o = guardOk t m o := by
  unfold guardOk dropField
  dsimp only
  rw [find?_filter_of_imp]
  intro a _ ha
  rw [Bool.and_eq_true, beq_iff_eq, beq_iff_eq] at ha
  rw [ha.2]
  exact bne_iff_ne.2 h

theorem flows_dropField (t : FlowTable) {x : String} {f : Field} (hi : (route f).input ≠ x)
    (ho : (route f).optField ≠ x) : flows (dropField t x) f = flows t f := by
  have hc (m sink : String) : (dropField t x).adapterFlows.contains (m, (route f).input, sink) =
      t.adapterFlows.contains (m, (route f).input, sink) :=
    contains_filter_of (bne_iff_ne.2 hi)
  unfold flows flowsPut flowsMultipart
  dsimp only
  rw [assigned_dropField t hi, hc, hc, guardOk_dropField t _ ho, guardOk_dropField t _ ho]

theorem flows_dropField_self (t : FlowTable) {f : Field} : flows (dropField t (route f).input) f = false := by
  have : assigned (dropField t (route f).input) f = false := by
    unfold assigned dropField
    dsimp only
    rw [List.any_filter]
    apply Bool.and_eq_false_imp.2
    intro h
    rw [List.any_eq_true] at h
    obtain ⟨a, _, ha⟩ := h
    rw [Bool.and_eq_true, Bool.and_eq_true, bne_iff_ne, beq_iff_eq] at ha
    exact absurd ha.2.1 ha.1
  unfold flows flowsPut
  dsimp only
  rw [this]; rfl

theorem route_ne_storageClass {f : Field} :
    f ≠ .storageClass → (route f).input ≠ "StorageClass" ∧ (route f).optField ≠ "StorageClass" := by
  cases f <;> decide

theorem migrateBuckets_other (q : Quirks) (P : Params) (bks : List Bucket) (d : State) (n : String)
    (hn : n ∉ bks.map (·.name)) : findBucket (migrateBuckets q P d bks).dst n = findBucket d n := by
  induction bks generalizing d with
  | nil => rfl
  | cons bk rest ih =>
    have hne : n ≠ bk.name := fun h => hn (by simp [h])
    have hrest : n ∉ rest.map (·.name) := fun h => hn (by simp [h])
    unfold migrateBuckets
    split
    · rfl
    · rw [ih _ hrest, migrateBucket_other q P bk.name _ d n hne]

theorem migrateBuckets_cur (q : Quirks) (P : Params) :
    ∀ (bks : List Bucket) (d : State), S3.Inv d → (bks.map (·.name)).Nodup →
      (∀ bk ∈ bks, ((currentRows bk).map (·.key)).Nodup) →
      (∀ bk ∈ bks, (findBucket d bk.name).isSome = true ∧ hasCurrent d bk.name = false) →
      (migrateBuckets q P d bks).ok = true ∧
      ∀ bk ∈ bks, ∀ k, cur (migrateBuckets q P d bks).dst bk.name k =
        ((currentRows bk).find? (·.key == k)).map fun r => carry P (viewOfRow r) := by
  intro bks
  induction bks with
  | nil => exact fun _ _ _ _ _ => ⟨rfl, fun _ h => nomatch h⟩
  | cons bk rest ih =>
    intro d hinv hnames hkeys hd
    obtain ⟨hnot, hnd⟩ := List.nodup_cons.1 hnames
    obtain ⟨hb, hempty⟩ := hd bk List.mem_cons_self
    obtain ⟨hi, hcur⟩ := cur_migrateBucket q P bk.name _ d hinv hb (hkeys bk List.mem_cons_self)
    have hfb (b2 : Bucket) (h2 : b2 ∈ rest) := migrateBucket_other q P bk.name (currentRows bk) d b2.name
      fun h => hnot (List.mem_map.2 ⟨b2, h2, h⟩)
    obtain ⟨hok, hspec⟩ := ih _ hi hnd (fun b2 h2 => hkeys b2 (List.mem_cons_of_mem _ h2)) fun b2 h2 =>
      ⟨hfb b2 h2 ▸ (hd b2 (List.mem_cons_of_mem _ h2)).1,
        (hasCurrent_congr (hfb b2 h2)).trans (hd b2 (List.mem_cons_of_mem _ h2)).2⟩
    unfold migrateBuckets
    rw [if_neg (by rw [hempty]; exact Bool.false_ne_true)]
    refine ⟨hok, fun b hbm k => ?_⟩
    rcases List.mem_cons.1 hbm with rfl | hb'
    · rw [cur_congr (migrateBuckets_other q P rest _ b.name hnot), hcur, cur_none_of_empty hempty, Option.or_none]
    · exact hspec b hb' k

theorem inv_createMissing (q : Quirks) (names : List String) (d : State) (h : S3.Inv d) : S3.Inv (createMissing q d names) :=
  List.foldlRecOn names _ h fun t ht b _ => by
    split
    · exact ht
    · exact S3.step_inv q t _ ht

end Pithos.Migrator

namespace Pithos.C37
open Pithos.S3 Pithos.Migrator

/-- Every destination bucket that held a current object before is exactly as it was. -/
def Untouched (dst d : State) : Prop := ∀ n, hasCurrent dst n = true → findBucket d n = findBucket dst n

theorem untouched_createMissing (q : Quirks) (dst : State) (names : List String) :
    Untouched dst (createMissing q dst names) := by
  intro n hn
  rw [createMissing_find]
  cases h : findBucket dst n with
  | some bk => rfl
  | none => unfold hasCurrent at hn; rw [h] at hn; cases hn

/-- A bucket is only written after its destination listed no current object, so it is not one of
those `Untouched` protects. -/
theorem untouched_migrateBucket (q : Quirks) (P : Params) {dst d : State} (b : String) (rows : List Row)
    (hI : Untouched dst d) (hc : ¬ hasCurrent d b = true) : Untouched dst (migrateBucket q P d b rows) := by
  intro n hn
  have hne : n ≠ b := by
    intro h; subst h
    exact hc ((hasCurrent_congr (hI _ hn)).trans hn)
  rw [migrateBucket_other q P b _ d n hne]
  exact hI n hn

/-- The guard of the run: no bucket that `Untouched` protects is written, and the run stops at the
first source bucket whose name is one of theirs. -/
theorem migrateBuckets_guard (q : Quirks) (P : Params) (dst : State) (bks : List Bucket) (d : State)
    (hI : Untouched dst d) :
    Untouched dst (migrateBuckets q P d bks).dst ∧
    ((∃ bk ∈ bks, hasCurrent dst bk.name = true) → (migrateBuckets q P d bks).ok = false) := by
  induction bks generalizing d with
  | nil => exact ⟨hI, fun ⟨_, h, _⟩ => nomatch h⟩
  | cons bk rest ih =>
    unfold migrateBuckets
    by_cases hc : hasCurrent d bk.name = true
    · rw [if_pos hc]
      exact ⟨hI, fun _ => rfl⟩
    · rw [if_neg hc]
      obtain ⟨hu, hstop⟩ := ih _ (untouched_migrateBucket q P _ _ hI hc)
      refine ⟨hu, fun ⟨b, hb, hcur⟩ => hstop ?_⟩
      rcases List.mem_cons.1 hb with rfl | hb
      · exact absurd ((hasCurrent_congr (hI _ hcur)).trans hcur) hc
      · exact ⟨b, hb, hcur⟩

/-- Well-formed source: distinct bucket names, at most one latest row per key (what every reachable
storage state satisfies; `ListBuckets`/`ListObjects` never show duplicates). -/
def SrcWF (src : State) : Prop :=
  (src.buckets.map (·.name)).Nodup ∧ ∀ bk ∈ src.buckets, LatestUnique bk

/-- The statement behind the empty-destination theorems of `Pithos.Props.C37`, for a more general
destination: a bucket of a source bucket's name may exist, be versioned, hold noncurrent versions and
delete markers, as long as it lists no current object. -/
theorem migrate_spec (q : Quirks) (P : Params) (src dst : State) (hinv : S3.Inv dst) (hwf : SrcWF src)
    (hempty : ∀ bk ∈ src.buckets, hasCurrent dst bk.name = false) :
    (migrate q P src dst).ok = true ∧
    ∀ bk ∈ src.buckets, ∀ k, cur (migrate q P src dst).dst bk.name k = (cur src bk.name k).map (carry P) := by
  have hd : ∀ bk ∈ src.buckets, (findBucket (createMissing q dst (src.buckets.map (·.name))) bk.name).isSome = true ∧
      hasCurrent (createMissing q dst (src.buckets.map (·.name))) bk.name = false := by
    intro bk hbk
    have hm : bk.name ∈ src.buckets.map (·.name) := List.mem_map_of_mem hbk
    have he := hempty bk hbk
    unfold hasCurrent at he ⊢
    rw [createMissing_find]
    cases h : findBucket dst bk.name with
    | some x => rw [h] at he; exact ⟨rfl, he⟩
    | none => simp [hm, currentRows]
  obtain ⟨hok, hspec⟩ := migrateBuckets_cur q P src.buckets _ (inv_createMissing q _ dst hinv) hwf.1
    (fun bk hbk => currentKeys_nodup bk.rows (hwf.2 bk hbk)) hd
  refine ⟨hok, fun bk hbk k => ?_⟩
  unfold migrate
  rw [hspec bk hbk k, cur_source src bk k (findBucket_of_mem src bk hwf.1 hbk) (hwf.2 bk hbk), Option.map_map]
  rfl

theorem carry_ideal (v : View) : carry idealParams v = v := carry_eq_self idealParams v rfl fun _ _ _ => rfl

end Pithos.C37
