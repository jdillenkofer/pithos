/-
What one call does to the state, as far as replication and routing need it beyond `≈`: it leaves the
state as it was, adds an empty bucket, removes a bucket, opens an upload in a bucket whose rows stay, or
stores one edited bucket in place of one it found (`Touch`; `step_touch` reads it off the effect
`S3.Eff` of the call, case by case). Row ids stay distinct, no upload appears unless one is opened,
bucket names change only by CreateBucket and DeleteBucket: one `cases` on `Touch` each. What the multipart
calls do to the upload they name is read off `S3.step` itself (`step_mpu_k`, `withUpload_ok`,
`ends_removes`): `S3.Eff.same` admits any answer. That a failed call changes nothing is
`S3.stepT_err_same`. None of this needs an invariant of the storage model: the replication and routing
files rest on Lemmas/S3Write, S3Rows and S3Shape only.
-/
import Pithos.Model.Replication
import Pithos.Lemmas.StepCalls

namespace Pithos.Replication
open Pithos.S3 Pithos.S3Ext

/-! Row ids are unique inside a bucket and below the state's counter. (Needed for one thing only:
re-saving the current row — `replaceRow bk (touch … r)`, done by conditional writes — touches no
other row.) This is the id half of the storage model's row invariant `S3.Inv`, which also allows one current
row per key. The C23 statements assume the id half only, so it is carried along `Touch` here:
`S3.RowsClosed.ofEff` keeps a property of the rows only from a state where all of `S3.Inv` holds. -/

/-- The storage model's `S3.ids bk.rows`, by `rfl`: its lemmas take a fact about `ids bk` as it stands. -/
def ids (bk : Bucket) : List Nat := bk.rows.map (·.rowId)

def RowsOk (n : Nat) (bk : Bucket) : Prop := (ids bk).Nodup ∧ ∀ i ∈ ids bk, i < n

def WF (s : State) : Prop := ∀ bk ∈ s.buckets, RowsOk s.nextRow bk

theorem RowsOk.mono {n m : Nat} {bk : Bucket} (h : RowsOk n bk) (hnm : n ≤ m) : RowsOk m bk :=
  ⟨h.1, fun i hi => Nat.lt_of_lt_of_le (h.2 i hi) hnm⟩

theorem RowsOk.of_ids {n : Nat} {bk bk' : Bucket} (h : RowsOk n bk) (hi : ids bk' = ids bk) : RowsOk n bk' := by
  unfold RowsOk; rw [hi]; exact h

theorem RowsOk.of_rows {n : Nat} {bk bk' : Bucket} (h : RowsOk n bk) (hr : bk'.rows = bk.rows) : RowsOk n bk' :=
  h.of_ids (by unfold ids; rw [hr])

theorem ids_replaceRow (bk : Bucket) (r : Row) : ids (replaceRow bk r) = ids bk :=
  S3.ids_repl bk.rows r

theorem ids_unlatest (q : Quirks) (n : Nat) (bk : Bucket) (r : Row) : ids (unlatest q n bk r) = ids bk :=
  ids_replaceRow bk _

theorem ids_addRow (bk : Bucket) (r : Row) : ids (addRow bk r) = ids bk ++ [r.rowId] := by
  simp [ids, addRow]

theorem ids_removeRow (bk : Bucket) (id : Nat) : ids (removeRow bk id) = (ids bk).filter (· != id) := by
  simp only [ids, removeRow, List.filter_map]
  rfl

theorem RowsOk.replaceRow {n : Nat} {bk : Bucket} (h : RowsOk n bk) (r : Row) : RowsOk n (replaceRow bk r) :=
  h.of_ids (ids_replaceRow bk r)

theorem RowsOk.removeRow {n : Nat} {bk : Bucket} (h : RowsOk n bk) (id : Nat) : RowsOk n (removeRow bk id) := by
  unfold RowsOk; rw [ids_removeRow]
  exact ⟨h.1.sublist List.filter_sublist, fun i hi => h.2 i (List.mem_filter.mp hi).1⟩

theorem RowsOk.addRow {n : Nat} {bk : Bucket} (h : RowsOk n bk) (r : Row) (hr : r.rowId = n) :
    RowsOk (n + 1) (addRow bk r) := by
  unfold RowsOk; rw [ids_addRow]
  refine ⟨?_, ?_⟩
  · refine List.nodup_append.mpr ⟨h.1, by simp, ?_⟩
    intro a ha b hb
    simp only [List.mem_singleton] at hb
    have := h.2 a ha
    omega
  · intro i hi
    rcases List.mem_append.mp hi with hi | hi
    · have := h.2 i hi; omega
    · simp only [List.mem_singleton] at hi; omega

theorem WF.put {s : State} (h : WF s) {bk : Bucket} (n : Nat) (hn : s.nextRow ≤ n) (hb : RowsOk n bk)
    (s' : State) (hbk : s'.buckets = (S3.setBucket s bk).buckets) (hr : s'.nextRow = n) : WF s' := by
  intro x hx
  rw [hbk] at hx; rw [hr]
  exact forall_setBucket (fun y hy => (h y hy).mono hn) hb x hx

theorem WF.setBucket {s : State} (h : WF s) {bk : Bucket} (hb : RowsOk s.nextRow bk) : WF (setBucket s bk) :=
  h.put s.nextRow (Nat.le_refl _) hb _ rfl rfl

theorem WF.bump {s : State} (h : WF s) (n : Nat) (hn : s.nextRow ≤ n) (s' : State)
    (hb : s'.buckets = s.buckets) (hr : s'.nextRow = n) : WF s' := by
  intro x hx
  rw [hb] at hx; rw [hr]
  exact (h x hx).mono hn

theorem WF.tick {s : State} (h : WF s) : WF (tick s) := h

theorem resolve_any_wf {s : State} (h : WF s) (f : Row → State × Out)
    (hf : ∀ r, WF (f r).1) (x : Except Err Row) :
    WF (match x with | .error e => (s, Out.err e) | .ok r => f r).1 := by
  cases x with
  | error e => exact h
  | ok r => exact hf r

/-- Bucket `name` of `s` holds an open upload with id `uid`. -/
def UpIn (s : State) (name : String) (uid : Nat) : Prop :=
  ∃ bk ∈ s.buckets, bk.name = name ∧ ∃ up ∈ bk.uploads, up.uid = uid

def uids (bk : Bucket) : List Nat := bk.uploads.map (·.uid)

def names (s : State) : List String := s.buckets.map (·.name)

theorem names_setBucket (s : State) (X : Bucket) : names (setBucket s X) = names s := by
  simp only [names, setBucket, List.map_map]
  apply List.map_congr_left
  intro x _
  simp only [Function.comp]
  by_cases h : x.name = X.name <;> simp [h]

theorem mem_uids {bk : Bucket} {uid : Nat} (h : uid ∈ uids bk) : ∃ up ∈ bk.uploads, up.uid = uid := by
  simpa [uids] using h

@[simp] theorem uids_replaceRow (bk : Bucket) (r : Row) : uids (replaceRow bk r) = uids bk := rfl
@[simp] theorem uids_addRow (bk : Bucket) (r : Row) : uids (addRow bk r) = uids bk := rfl
@[simp] theorem uids_removeRow (bk : Bucket) (i : Nat) : uids (removeRow bk i) = uids bk := rfl
@[simp] theorem uids_unlatest (q : Quirks) (n : Nat) (bk : Bucket) (r : Row) : uids (unlatest q n bk r) = uids bk := rfl
@[simp] theorem name_replaceRow (bk : Bucket) (r : Row) : (replaceRow bk r).name = bk.name := rfl
@[simp] theorem name_addRow (bk : Bucket) (r : Row) : (addRow bk r).name = bk.name := rfl
@[simp] theorem name_removeRow (bk : Bucket) (i : Nat) : (removeRow bk i).name = bk.name := rfl
@[simp] theorem name_unlatest (q : Quirks) (n : Nat) (bk : Bucket) (r : Row) : (unlatest q n bk r).name = bk.name := rfl

@[simp] theorem uids_unlatestCur (q : Quirks) (n : Nat) (bk : Bucket) (k : String) : uids (unlatestCur q n bk k) = uids bk := by
  unfold unlatestCur; split <;> rfl

/-- `X` is `bk` with rows saved again under their ids or removed, none added: the name stays, no upload
appears, and row ids stay distinct and below whatever bounded them. -/
structure InPlace (bk X : Bucket) : Prop where
  name : X.name = bk.name
  ups : uids X ⊆ uids bk
  rows : ∀ {n}, RowsOk n bk → RowsOk n X

theorem InPlace.refl (bk : Bucket) : InPlace bk bk := ⟨rfl, fun _ h => h, id⟩

theorem InPlace.trans {a b c : Bucket} (h : InPlace a b) (h' : InPlace b c) : InPlace a c :=
  ⟨h'.name.trans h.name, fun _ hu => h.ups (h'.ups hu), fun hr => h'.rows (h.rows hr)⟩

theorem InPlace.replaceRow (bk : Bucket) (r : Row) : InPlace bk (replaceRow bk r) := ⟨rfl, fun _ h => h, (·.replaceRow r)⟩

theorem InPlace.removeRow (bk : Bucket) (id : Nat) : InPlace bk (removeRow bk id) := ⟨rfl, fun _ h => h, (·.removeRow id)⟩

theorem InPlace.unlatestCur (q : Quirks) (now : Nat) (bk : Bucket) (k : String) : InPlace bk (unlatestCur q now bk k) := by
  unfold S3.unlatestCur
  split
  · exact .replaceRow bk _
  · exact .refl bk

theorem InPlace.promote (q : Quirks) (now : Nat) (bk : Bucket) (k : String) : InPlace bk (promote q now bk k) := by
  unfold S3.promote
  dsimp only
  split
  · exact .refl bk
  · exact .replaceRow bk _

theorem InPlace.beforeMarker (q : Quirks) (now : Nat) (bk : Bucket) (k : String) : InPlace bk (beforeMarker q now bk k) := by
  have e : InPlace bk (lessNull bk k) := by
    rcases lessNull_cases bk k with h | ⟨_, _, _, _, h⟩ <;> rw [h]
    · exact .refl bk
    · exact .removeRow bk _
  rcases beforeMarker_cases q now bk k with ⟨h, _⟩ | ⟨_, _, _, h⟩ <;> rw [h]
  · exact e
  · exact e.trans (.replaceRow _ _)

/-- `s'` is `s` with `X` stored in place of its bucket `bk`, and what replication needs to know of `X`. -/
structure BucketSwap (s : State) (bk X : Bucket) (s' : State) : Prop where
  buckets : s'.buckets = (setBucket s X).buckets
  name : X.name = bk.name
  ups : uids X ⊆ uids bk
  nextUid : s'.nextUid = s.nextUid
  nextRow : s.nextRow ≤ s'.nextRow
  rows : RowsOk s.nextRow bk → RowsOk s'.nextRow X

theorem BucketSwap.set {s : State} {bk X : Bucket} (e : InPlace bk X) : BucketSwap s bk X (setBucket s X) :=
  ⟨rfl, e.name, e.ups, rfl, Nat.le_refl _, e.rows⟩

theorem BucketSwap.after {s s' : State} {bk bkx X : Bucket} (h : InPlace bk bkx) (e : BucketSwap s bkx X s') :
    BucketSwap s bk X s' :=
  ⟨e.buckets, e.name.trans h.name, fun _ hu => h.ups (e.ups hu), e.nextUid, e.nextRow, fun hr => e.rows (h.rows hr)⟩

/-- What one call may do to the state, as seen from outside the rows: nothing; a new, empty bucket; a
bucket removed; an upload opened in a bucket whose rows stay; or one bucket replaced (`BucketSwap`). -/
inductive Touch (s : State) : Op → State → Prop
  | same (op : Op) : Touch s op s
  | mkb (b : String) : findBucket s b = none → Touch s (.mkb b) { s with buckets := s.buckets ++ [{ name := b }] }
  | rmb (b : String) : Touch s (.rmb b) { s with buckets := s.buckets.filter (·.name != b) }
  | mpu {b k : String} {w : WriteOpts} {bk X : Bucket} (u : Nat) : bk ∈ s.buckets → X.name = bk.name → X.rows = bk.rows →
      Touch s (.mpu b k w) { setBucket s X with nextUid := u }
  | swap (op : Op) {bk X : Bucket} {s' : State} : bk ∈ s.buckets → BucketSwap s bk X s' → Touch s op s'

theorem install_swap (q : Quirks) (s : State) (bk : Bucket) (k : String) (n : NewObj) :
    ∃ X, BucketSwap s bk X (install q s bk k n).1 := by
  have e := InPlace.unlatestCur q s.clock bk k
  unfold install
  dsimp only
  split
  · exact ⟨_, rfl, e.name, e.ups, rfl, Nat.le_succ _, fun h => (e.rows h).addRow _ rfl⟩
  · split
    · exact ⟨_, .set (e.trans (.replaceRow _ _))⟩
    · exact ⟨_, rfl, e.name, e.ups, rfl, Nat.le_succ _, fun h => (e.rows h).addRow _ rfl⟩

theorem putRow_swap {q : Quirks} {s : State} {bk : Bucket} {k : String} {n : NewObj} {inm : Bool} {im : IfMatch}
    {r : State × Option Nat} (hr : putRow q s bk k n inm im = .ok r) : ∃ X, BucketSwap s bk X r.1 := by
  obtain ⟨bk1, hbk1, rfl⟩ := putRow_ok_lock hr
  rcases hbk1 with rfl | ⟨a, _, rfl⟩
  · exact install_swap q s _ k n
  · exact (install_swap q s _ k n).imp fun _ e => e.after (.replaceRow bk _)

/-- `x`'s state is `s` with the buckets named `name` replaced by one whose upload ids are `L` —
or has `s`'s buckets; the upload-id counter is unchanged. -/
def RP (s : State) (name : String) (L : List Nat) (x : State × Out) : Prop :=
  x.1.nextUid = s.nextUid ∧
  (x.1.buckets = s.buckets ∨ ∃ X : Bucket, x.1.buckets = (setBucket s X).buckets ∧ X.name = name ∧ uids X = L)

theorem RP.ite {s : State} {name : String} {L : List Nat} {c : Bool} {a b : State × Out}
    (ha : RP s name L a) (hb : RP s name L b) : RP s name L (if c = true then a else b) := by
  cases c <;> simpa

theorem install_rp (q : Quirks) (s : State) (bk : Bucket) (k : String) (n : NewObj) (o : Out) :
    RP s bk.name (uids bk) ((install q s bk k n).1, o) := by
  unfold install
  dsimp only
  split
  · exact ⟨rfl, Or.inr ⟨_, rfl, by simp only [name_addRow, unlatestCur_name], by simp only [uids_addRow, uids_unlatestCur]⟩⟩
  · split
    · exact ⟨rfl, Or.inr ⟨_, rfl, by simp only [name_replaceRow, unlatestCur_name], by simp only [uids_replaceRow, uids_unlatestCur]⟩⟩
    · exact ⟨rfl, Or.inr ⟨_, rfl, by simp only [name_addRow, unlatestCur_name], by simp only [uids_addRow, uids_unlatestCur]⟩⟩

theorem Touch.of_delEff {q : Quirks} {s s' : State} {bk : Bucket} {k : String} {im : IfMatch}
    {vid : Option (Option Nat)} {o : Out} (op : Op) (e : DelEff q s bk k im vid s' o) (hbk : bk ∈ s.buckets) : Touch s op s' := by
  cases e with
  | refused | nothing => exact .same _
  | @version v r _ =>
    -- the version goes; if it was the current one, another row of the key is re-saved as current
    cases r.latest with
    | false => exact .swap _ hbk (.set (.removeRow bk _))
    | true => exact .swap _ hbk (.set ((InPlace.removeRow bk _).trans (.promote ..)))
  | marker =>
    have e := InPlace.beforeMarker q s.clock bk k
    exact .swap _ hbk ⟨rfl, e.name, e.ups, rfl, Nat.le_succ _, fun h => (e.rows h).addRow _ rfl⟩
  | current => exact .swap _ hbk (.set (.removeRow bk _))

theorem Touch.of_eff {q : Quirks} {s s' : State} {op : Op} {o : Out} (e : Eff q s op s' o) : Touch s op s' := by
  cases e with
  | same => exact .same _
  | mkb b h => exact .mkb b h
  | rmb => exact .rmb _
  | aside _ u hfb hn hr _ hu =>
    rcases hu with ⟨rfl, hu⟩ | ⟨⟨_, _, rfl⟩, _⟩
    · refine .swap _ (findBucket_mem hfb) (.set ⟨hn, fun i hi => ?_, (·.of_rows hr)⟩)
      obtain ⟨x, hx, rfl⟩ := List.mem_map.1 hi
      obtain ⟨x', hx', he⟩ := hu x hx
      exact List.mem_map.2 ⟨x', hx', he⟩
    · exact .mpu u (findBucket_mem hfb) hn hr
  | resave _ hfb =>
    exact .swap _ (findBucket_mem hfb) (.set (.replaceRow _ _))
  | rows _ hfb e =>
    cases e with
    | write hn hr hp _ hu =>
      obtain ⟨X, e⟩ := putRow_swap hp
      exact .swap _ (findBucket_mem hfb) (e.after ⟨hn, List.map_subset _ hu, (·.of_rows hr)⟩)
    | del b vid im => exact .of_delEff _ (deleteOp_eff q s _ _ vid im) (findBucket_mem hfb)
    | extend => exact .swap _ (findBucket_mem hfb) (.set (.replaceRow _ _))
    | fresh =>
      exact .swap _ (findBucket_mem hfb) ⟨rfl, rfl, List.Subset.refl _, rfl, Nat.le_succ _, fun h => h.addRow _ rfl⟩

theorem step_touch (q : Quirks) (s : State) (op : Op) : Touch (tick s) op (step q s op).1 :=
  .of_eff (stepT_eff q (tick s) op)

theorem Touch.wf {s s' : State} {op : Op} (h : Touch s op s') (hwf : WF s) : WF s' := by
  cases h with
  | same => exact hwf
  | mkb b _ =>
    intro x hx
    rcases List.mem_append.mp hx with hx | hx
    · exact hwf x hx
    · rw [List.mem_singleton.mp hx]; exact ⟨List.nodup_nil, fun _ h => nomatch h⟩
  | rmb b => exact fun x hx => hwf x (List.mem_filter.mp hx).1
  | mpu _ hbk _ hr => exact hwf.put _ (Nat.le_refl _) ((hwf _ hbk).of_rows hr) _ rfl rfl
  | swap _ hbk e => exact hwf.put _ e.nextRow (e.rows (hwf _ hbk)) _ e.buckets rfl

theorem step_wf (q : Quirks) {s : State} (h : WF s) (op : Op) : WF (step q s op).1 :=
  (step_touch q s op).wf h

theorem delManyLoop_wf (q : Quirks) (b : String) (keys : List String) {s : State} (h : WF s) :
    WF (delManyLoop q b s keys).1 := by
  induction keys generalizing s with
  | nil => exact h
  | cons k ks ih => exact ih (step_wf q h (.del b k none .none))

theorem xstep_wf (q : Quirks) {s : State} (h : WF s) (op : XOp) :
    WF (xstep q s op).1 := by
  have hx := xstep_run q s op
  generalize xstep q s op = x at hx ⊢
  cases hx with
  | fail => exact h
  | base op => exact step_wf q h op
  | part => exact step_wf q h _
  | many b keys => exact delManyLoop_wf q b keys h

/-- Reads (the calls replication does not forward) leave the state as it was. -/
theorem step_read_frame (q : Quirks) (s : State) (op : Op) (hf : forwardedBase op = false) :
    (step q s op).1 = tick s := by
  -- each read unfolds to a bucket lookup around an answer that keeps the state
  have look : ∀ b (f : Bucket → State × Out), (∀ bk, (f bk).1 = tick s) → (withB (tick s) b f).1 = tick s :=
    fun b f hf => withB_ind (P := fun x => x.1 = tick s) rfl fun bk _ => hf bk
  cases op with
  | get b k vid | head b k vid | getTags b k vid => exact look b _ fun bk => by cases resolve bk k vid <;> rfl
  | list b | listVersions b => exact look b _ fun _ => rfl
  | listBuckets => rfl
  | _ => simp [forwardedBase] at hf

theorem isErr_base (o : Out) : (XOut.base o).isErr = o.isErr := by cases o <;> rfl

/-! Which uploads exist where: needed to show that the upload-id map lookup never misses. -/

/-- From `s` to `s'` no upload appeared in any bucket, and the upload-id counter stayed. -/
def NoNewUpload (s s' : State) : Prop :=
  s'.nextUid = s.nextUid ∧ ∀ n uid, UpIn s' n uid → UpIn s n uid

theorem NoNewUpload.refl (s : State) : NoNewUpload s s := ⟨rfl, fun _ _ h => h⟩

theorem NoNewUpload.trans {s t u : State} (h : NoNewUpload s t) (h' : NoNewUpload t u) : NoNewUpload s u :=
  ⟨h'.1.trans h.1, fun n uid hu => h.2 n uid (h'.2 n uid hu)⟩

theorem upIn_setBucket {s x : State} {X : Bucket} (hb : x.buckets = (setBucket s X).buckets)
    {n : String} {uid : Nat} (hin : UpIn x n uid) :
    (n = X.name ∧ uid ∈ uids X) ∨ (n ≠ X.name ∧ UpIn s n uid) := by
  obtain ⟨bk, hbk, hname, up, hup, huid⟩ := hin
  rw [hb] at hbk
  rcases mem_setBucket hbk with rfl | ⟨hy, hne⟩
  · exact .inl ⟨hname.symm, List.mem_map.mpr ⟨up, hup, huid⟩⟩
  · exact .inr ⟨hname ▸ hne, bk, hy, hname, up, hup, huid⟩

theorem Touch.noNewUpload {s s' : State} {op : Op} (h : Touch s op s') (hm : ∀ b k o, op ≠ .mpu b k o) :
    NoNewUpload s s' := by
  cases h with
  | same => exact .refl s
  | mkb b _ =>
    refine ⟨rfl, ?_⟩
    rintro n uid ⟨bk, hbk, hn, up, hup, hu⟩
    rcases List.mem_append.mp hbk with h | h
    · exact ⟨bk, h, hn, up, hup, hu⟩
    · rw [List.mem_singleton.mp h] at hup; cases hup
  | rmb b => exact ⟨rfl, fun n uid ⟨x, hx, r⟩ => ⟨x, (List.mem_filter.mp hx).1, r⟩⟩
  | mpu => exact absurd rfl (hm _ _ _)
  | swap _ hbk e =>
    refine ⟨e.nextUid, fun n uid hin => ?_⟩
    rcases upIn_setBucket e.buckets hin with ⟨rfl, hu⟩ | ⟨_, h'⟩
    · obtain ⟨up, hup, huid⟩ := mem_uids (e.ups hu)
      exact ⟨_, hbk, e.name.symm, up, hup, huid⟩
    · exact h'

theorem upIn_tick (s : State) (n : String) (uid : Nat) : UpIn (tick s) n uid ↔ UpIn s n uid := Iff.rfl

theorem step_noNewUpload (q : Quirks) (s : State) (op : Op) (hm : ∀ b k o, op ≠ .mpu b k o) :
    NoNewUpload s (step q s op).1 :=
  (step_touch q s op).noNewUpload hm

theorem step_mpu_k (q : Quirks) (s : State) (b k : String) (o : WriteOpts) :
    ((step q s (.mpu b k o)).2.isErr = true ∧ (step q s (.mpu b k o)).1 = tick s) ∨
    ((step q s (.mpu b k o)).2 = .upload s.nextUid ∧ (step q s (.mpu b k o)).1.nextUid = s.nextUid + 1 ∧
      ∀ n uid, UpIn (step q s (.mpu b k o)).1 n uid → UpIn s n uid ∨ (n = b ∧ uid = s.nextUid)) := by
  rw [step_tick, stepT_mpu_eq]
  unfold withB
  cases hfb : findBucket (tick s) b with
  | none => left; exact ⟨rfl, rfl⟩
  | some bk =>
    right
    have hn := findBucket_some_name hfb
    refine ⟨rfl, rfl, ?_⟩
    intro n uid hin
    rcases upIn_setBucket (s := tick s) (X := { bk with uploads := bk.uploads ++
        [{ uid := (tick s).nextUid, key := k, created := (tick s).clock, ct := o.ct, md := o.md, tags := o.tags, cls := o.cls }] })
        rfl hin with ⟨h1, h2⟩ | ⟨_, h2⟩
    · simp only [uids, List.map_append, List.map_cons, List.map_nil, List.mem_append, List.mem_singleton] at h2
      rcases h2 with h2 | h2
      · left
        obtain ⟨up, hup, hu⟩ := mem_uids (bk := bk) (by simpa [uids] using h2)
        exact ⟨bk, findBucket_mem hfb, by rw [h1], up, hup, hu⟩
      · right; exact ⟨by rw [h1]; exact hn, h2⟩
    · left; exact h2

theorem withUpload_ok {s : State} {b k : String} {u : Nat} {f : Bucket → Upload → State × Out}
    (hok : (withB s b fun bk => withU s bk u k (f bk)).2.isErr = false) :
    ∃ bk ∈ s.buckets, bk.name = b ∧ ∃ up ∈ bk.uploads, up.uid = u ∧
      (withB s b fun bk => withU s bk u k (f bk)) = f bk up := by
  -- both lookups answer an error where they find nothing
  let P (x : State × Out) : Prop :=
    x.2.isErr = false → ∃ bk ∈ s.buckets, bk.name = b ∧ ∃ up ∈ bk.uploads, up.uid = u ∧ x = f bk up
  exact withB_ind (P := P) (fun h => nomatch h) (fun bk hfb => withU_ind (P := P) (fun h => nomatch h)
    fun up hup hu _ _ => ⟨bk, findBucket_mem hfb, findBucket_some_name hfb, up, hup, hu, rfl⟩) hok

theorem step_upload_eq (q : Quirks) (s : State) {op : Op} {u : Nat} (hu : uidOfBase op = some u) :
    ∃ (b k : String) (f : Bucket → Upload → State × Out),
      step q s op = withB (tick s) b fun bk => withU (tick s) bk u k (f bk) := by
  cases op with
  | uploadPart b k uid n body => cases hu; exact ⟨b, k, _, rfl⟩
  | complete b k uid declared inm im => cases hu; exact ⟨b, k, _, rfl⟩
  | abort b k uid => cases hu; exact ⟨b, k, _, rfl⟩
  | _ => cases hu

theorem uid_ok_upIn (q : Quirks) (s : State) (op : Op) (u : Nat) (hu : uidOfBase op = some u)
    (hok : (step q s op).2.isErr = false) : ∃ b, UpIn s b u := by
  obtain ⟨b, k, f, he⟩ := step_upload_eq q s hu
  rw [he] at hok
  obtain ⟨bk, hbk, hn, up, hup, huid, -⟩ := withUpload_ok hok
  exact ⟨b, bk, hbk, hn, up, hup, huid⟩

/-- Upload ids are owned by one bucket name. -/
def UidFunctional (s : State) : Prop := ∀ n1 n2 uid, UpIn s n1 uid → UpIn s n2 uid → n1 = n2

theorem filtered_ne {bk : Bucket} {u uid : Nat}
    (h : uid ∈ uids { bk with uploads := bk.uploads.filter (·.uid != u) }) : uid ≠ u := by
  simp only [uids, List.mem_map, List.mem_filter] at h
  obtain ⟨a, ⟨_, ha⟩, rfl⟩ := h
  simpa using ha

theorem ends_tail {s x : State} {bk : Bucket} {b : String} {u : Nat} (hU : UidFunctional s)
    (hbk : bk ∈ s.buckets) (hn : bk.name = b) (hup : ∃ up ∈ bk.uploads, up.uid = u)
    {X : Bucket} (hX : x.buckets = (setBucket s X).buckets) (hXn : X.name = b)
    (hXu : uids X ⊆ uids { bk with uploads := bk.uploads.filter (·.uid != u) }) :
    ∀ n uid, UpIn x n uid → uid ≠ u := by
  intro n uid hin
  rcases upIn_setBucket hX hin with ⟨_, h2⟩ | ⟨h1, h2⟩
  · exact filtered_ne (hXu h2)
  · intro he
    subst he
    obtain ⟨up, hup1, hup2⟩ := hup
    have := hU n b uid h2 ⟨bk, hbk, hn, up, hup1, hup2⟩
    exact h1 (by rw [this, hXn])

theorem ends_removes (q : Quirks) (s : State) (op : Op) (u : Nat) (hu : uidOfBase op = some u)
    (hends : endsUpload (.base op) = true) (hU : UidFunctional s)
    (hok : (step q s op).2.isErr = false) : ∀ n uid, UpIn (step q s op).1 n uid → uid ≠ u := by
  have hUt : UidFunctional (tick s) := hU
  cases op with
  | abort b k uid =>
    cases hu
    rw [step_tick, stepT_abort_eq] at hok ⊢
    obtain ⟨bk, hbk, hn, up, hup, huid, he⟩ := withUpload_ok hok
    rw [he]
    exact ends_tail hUt hbk hn ⟨up, hup, huid⟩
      (X := { bk with uploads := bk.uploads.filter (·.uid != u) }) rfl hn (List.Subset.refl _)
  | complete b k uid declared inm im =>
    cases hu
    rw [step_tick, stepT_complete_eq] at hok ⊢
    obtain ⟨bk, hbk, hn, up, hup, huid, he⟩ := withUpload_ok hok
    rw [he] at hok ⊢
    -- the answer is an error on every way out but the last, where `putRow` stored the object
    revert hok
    unfold unpack
    split
    · intro h; cases h
    · split
      · intro h; cases h
      · split
        · intro h; cases h
        · next hpr =>
          obtain ⟨X, e⟩ := putRow_swap hpr
          exact fun _ => ends_tail hUt hbk hn ⟨up, hup, huid⟩ e.buckets (e.name.trans hn) e.ups
  | _ => simp [endsUpload] at hends

theorem delManyLoop_noNewUpload (q : Quirks) (b : String) (keys : List String) (s : State) :
    NoNewUpload s (delManyLoop q b s keys).1 := by
  induction keys generalizing s with
  | nil => exact .refl s
  | cons k ks ih => exact (step_noNewUpload q s (.del b k none .none) fun _ _ _ h => nomatch h).trans (ih _)

theorem xstep_noNewUpload (q : Quirks) (s : State) (op : XOp) (hm : isMpu op = false) :
    NoNewUpload s (xstep q s op).1 := by
  have hx := xstep_run q s op
  generalize xstep q s op = x at hx ⊢
  cases hx with
  | fail => exact .refl s
  | base op => exact step_noNewUpload q s op (fun b k o h => by subst h; cases hm)
  | part => exact step_noNewUpload q s _ (fun _ _ _ h => nomatch h)
  | many b keys => exact delManyLoop_noNewUpload q b keys s

theorem xstep_uid_ok (q : Quirks) (s : State) (op : XOp) (u : Nat) (hu : uidOf op = some u)
    (hok : (xstep q s op).2.isErr = false) : ∃ b, UpIn s b u := by
  have hx := xstep_run q s op
  generalize xstep q s op = x at hx hok
  cases hx with
  | fail => cases hok
  | base op => exact uid_ok_upIn q s op u hu (isErr_base _ ▸ hok)
  | part _ _ _ db dk uid n _ body => exact uid_ok_upIn q s (.uploadPart db dk uid n body) u hu (isErr_base _ ▸ hok)
  | many b keys => cases hu

theorem xstep_ends (q : Quirks) (s : State) (op : XOp) (u : Nat) (hu : uidOf op = some u)
    (hends : endsUpload op = true) (hU : UidFunctional s) (hok : (xstep q s op).2.isErr = false) :
    ∀ n uid, UpIn (xstep q s op).1 n uid → uid ≠ u := by
  cases op with
  | base op => exact ends_removes q s op u hu hends hU (by simpa [xstep, isErr_base] using hok)
  | partCopy sb sk svid db dk uid n range => simp [endsUpload] at hends
  | delMany b keys => simp [endsUpload] at hends

theorem Touch.names {s s' : State} {op : Op} (h : Touch s op s') :
    names s' = names s ∨ (∃ b, op = .mkb b ∧ b ∉ names s ∧ names s' = names s ++ [b]) ∨
    (∃ b, op = .rmb b ∧ (names s').Sublist (names s)) := by
  cases h with
  | same => exact .inl rfl
  | mkb b hb =>
    refine .inr (.inl ⟨b, rfl, fun hmem => ?_, by simp [Replication.names]⟩)
    obtain ⟨bk, hbk, hn⟩ := List.mem_map.1 hmem
    simpa [hn] using List.find?_eq_none.1 hb bk hbk
  | rmb b => exact .inr (.inr ⟨b, rfl, List.Sublist.map _ List.filter_sublist⟩)
  | mpu => exact .inl (names_setBucket s _)
  | swap _ _ e => exact .inl (by unfold Replication.names; rw [e.buckets]; exact names_setBucket s _)

theorem step_names (q : Quirks) (s : State) (op : Op)
    (hmk : ∀ b, op ≠ .mkb b) (hrm : ∀ b, op ≠ .rmb b) : names (step q s op).1 = names s :=
  (step_touch q s op).names.resolve_right fun h => h.elim (fun ⟨b, hb, _⟩ => hmk b hb) fun ⟨b, hb, _⟩ => hrm b hb

theorem delManyLoop_names (q : Quirks) (b : String) (keys : List String) (s : State) :
    names (delManyLoop q b s keys).1 = names s := by
  induction keys generalizing s with
  | nil => rfl
  | cons k ks ih =>
    simp only [delManyLoop]
    rw [ih, step_names q s _ (fun _ h => by cases h) (fun _ h => by cases h)]

theorem xstep_names (q : Quirks) (s : State) (op : XOp) :
    names (xstep q s op).1 = names s ∨
    (∃ b, op = .base (.mkb b) ∧ b ∉ names s ∧ names (xstep q s op).1 = names s ++ [b]) ∨
    (∃ b, op = .base (.rmb b) ∧ (names (xstep q s op).1).Sublist (names s)) := by
  have hx := xstep_run q s op
  generalize xstep q s op = x at hx ⊢
  cases hx with
  | fail => exact .inl rfl
  | base op =>
    exact (step_touch q s op).names.imp id
      (Or.imp (fun ⟨b, h, r⟩ => ⟨b, congrArg _ h, r⟩) fun ⟨b, h, r⟩ => ⟨b, congrArg _ h, r⟩)
  | part => exact .inl (step_names q s _ (fun _ h => by cases h) (fun _ h => by cases h))
  | many b keys => exact .inl (delManyLoop_names q b keys s)

end Pithos.Replication
