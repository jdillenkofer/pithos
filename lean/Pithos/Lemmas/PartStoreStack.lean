/-
What C15's theorems on stacks, histories and divided reads rest on (helpers for C15). `StoreSpecR R S`:
there is a simulation `Sim R S` to the reference map id ↦ bytes; one step of such a store answers like
the map (`step_ok`), hence every history does (`history_correct_from`). `wrap_preserves` is the five
simulation lemmas as one statement over the alphabet `Mw`, `upRestr` saying what a letter does to the
covered histories; under `C15ok` they stay `Restr.full`, so a word is correct by induction
(`stack_correct_of`). Last, the outbox read of `Pithos.OutboxRead` with nothing between its statements.
-/
import Pithos.Lemmas.PartStoreMw
import Pithos.Lemmas.PartStoreCache
import Pithos.Lemmas.PartStoreOutbox
import Pithos.Lemmas.PartStoreEC
import Pithos.Model.OutboxRead

namespace Pithos.C15
open Pithos.Codec Pithos.PartStore

def StoreSpecR (R : Restr) (S : Store) : Prop := Nonempty (Sim R S)

/-- Correct for all contents, all ids, absent reads included, with well-behaved streams. -/
def StoreSpec (S : Store) : Prop := StoreSpecR Restr.full S

/-- The reference model the property speaks of. -/
def refNext (m : PartId → Option Bytes) : Op → PartId → Option Bytes
  | .put _ i b => upd m i (some b)
  | .del _ i => upd m i none
  | _ => m

/-- What the property demands of one observation. -/
def ObsOk (m : PartId → Option Bytes) : Op → Obs → Prop
  | .get _ i, o => ∃ out, o = .got out false ∧ OutOk out (m i)
  | .ids, o => ∃ l, o = .ids l ∧ l.Nodup ∧ ∀ i, i ∈ l ↔ (m i).isSome = true
  | _, o => o = .done

/-- `R` covers the operation when the reference map is `m`. -/
def Admissible (R : Restr) (m : PartId → Option Bytes) : Op → Prop
  | .put _ _ b => R.okContent b
  | .get _ i => Allowed R (m i)
  | _ => True

/-- `R` covers the history: each operation at the reference map it meets. -/
def AdmissibleAll (R : Restr) : (PartId → Option Bytes) → List Op → Prop
  | _, [] => True
  | m, op :: ops => Admissible R m op ∧ AdmissibleAll R (refNext m op) ops

def Conforms : (PartId → Option Bytes) → List Op → List Obs → Prop
  | _, [], [] => True
  | m, op :: ops, o :: os => ObsOk m op o ∧ Conforms (refNext m op) ops os
  | _, _, _ => False

theorem drain_ok {R : Restr} {S : Store} (sim : Sim R S) (f : Nat) (s : S.σ) (h : sim.Inv s) :
    sim.Inv (drain S f s) ∧ sim.abs (drain S f s) = sim.abs s := by
  induction f generalizing s with
  | zero => exact ⟨h, rfl⟩
  | succ f ih =>
    unfold drain
    split
    · exact ⟨h, rfl⟩
    · have := ih (S.tick s) (sim.tick_inv s h)
      exact ⟨this.1, this.2.trans (sim.tick_abs s h)⟩

theorem step_ok {R : Restr} {S : Store} (sim : Sim R S) (s : S.σ) (op : Op) (h : sim.Inv s)
    (ha : Admissible R (sim.abs s) op) :
    sim.Inv (step S s op).1 ∧ sim.abs (step S s op).1 = refNext (sim.abs s) op ∧ ObsOk (sim.abs s) op (step S s op).2 := by
  cases op with
  | put tx i b => exact ⟨sim.put_inv tx s i b h ha, sim.put_abs tx s i b h ha, rfl⟩
  | get tx i =>
    exact ⟨sim.get_inv tx s i h ha, sim.get_abs tx s i h ha,
      _, by simp only [step, sim.get_quiet tx s i h ha], sim.get_out tx s i h ha⟩
  | del tx i => exact ⟨sim.del_inv tx s i h, sim.del_abs tx s i h, rfl⟩
  | ids => exact ⟨h, rfl, _, rfl, sim.ids_nodup s h, fun i => sim.ids_mem s i h⟩
  | flush =>
    have hd := drain_ok sim ((S.pending s + 1) * 64) s h
    exact ⟨hd.1, hd.2, rfl⟩

theorem history_correct_from {R : Restr} {S : Store} (sim : Sim R S) :
    ∀ (ops : List Op) (s : S.σ), sim.Inv s → AdmissibleAll R (sim.abs s) ops → Conforms (sim.abs s) ops (run S s ops) := by
  intro ops
  induction ops with
  | nil => intro s _ _; trivial
  | cons op ops ih =>
    intro s h ha
    obtain ⟨hI, hA, hO⟩ := step_ok sim s op h ha.1
    refine ⟨hO, ?_⟩
    rw [← hA]
    exact ih _ hI (hA ▸ ha.2)

theorem admissible_full (ops : List Op) : ∀ m, AdmissibleAll Restr.full m ops := by
  induction ops with
  | nil => intro _; trivial
  | cons op ops ih =>
    intro m
    refine ⟨?_, ih _⟩
    cases op with
    | get => exact Or.inl rfl
    | _ => trivial

structure PrimsOK (P : Prims) : Prop where
  compress : CompressOK P
  tink : TinkOK P

/-- What the constructors of the middlewares enforce: compression uses gzip or zstd; the erasure-coding
parameters fit the frame format (`EC.WF`). -/
def MwWF (P : Prims) : Mw → Prop
  | .compress a _ => a ≠ .none
  | .ec c => EC.WF c P.code P.hash
  | _ => True

theorem fs_correct : StoreSpec fsStore := ⟨fsSim⟩

/-- How a middleware transforms the set of covered histories (`F` selects as-is / repaired code). -/
def upRestr (P : Prims) (F : Fixes) : Mw → Restr → Restr
  | .compress a n, R => ⟨fun b => R.okContent (compressEncode P a n b), R.absentGet, R.clean⟩
  | .tink, R => ⟨fun b => ∀ r i, R.okContent (P.tinkSeal r i b), R.absentGet, F.tinkStickyEof⟩
  | .cache _, R => R
  | .outbox, R => R
  | .ec c, R => ⟨ecOk P c R.okContent, R.absentGet && F.ec.notFoundWhenAllMissing, true⟩

/-- The one side condition: tink as it is needs an inner store whose streams answer EOF again after
EOF. -/
def TinkCond (F : Fixes) : Mw → Restr → Prop
  | .tink, R => F.tinkStickyEof = true ∨ R.clean = true
  | _, _ => True

/-- **wrap_preserves.** Every middleware — as it is or repaired — maps a correct inner store to a
correct store for the transformed set of histories. -/
theorem wrap_preserves (P : Prims) (hP : PrimsOK P) (F : Fixes) (w : Mw) (hw : MwWF P w) (S : Store) (R : Restr)
    (ht : TinkCond F w R) (spec : StoreSpecR R S) : StoreSpecR (upRestr P F w R) (wrap P F w S) := by
  obtain ⟨sim⟩ := spec
  obtain ⟨Q, g, c⟩ := R
  cases w with
  | compress a n => exact ⟨compressSim P hP.compress a hw n sim (fun _ h => h)⟩
  | tink => exact ⟨tinkSim P hP.tink F sim (fun r i _ h => h r i) ht⟩
  | cache m => exact ⟨cacheSim m sim⟩
  | outbox => exact ⟨outboxSim sim⟩
  | ec cfg => exact ⟨ecSim P F cfg hw sim⟩

/-- The repairs C15 needs; /repo has all of them (`Fixes.current`). -/
def C15ok (F : Fixes) : Prop :=
  F.sqlEmptyRow = true ∧ F.ec.notFoundWhenAllMissing = true ∧ F.tinkStickyEof = true

theorem current_ok : C15ok Fixes.current := ⟨rfl, rfl, rfl⟩
theorem repaired_ok : C15ok Fixes.repaired := ⟨rfl, rfl, rfl⟩

theorem base_correct (F : Fixes) (hF : C15ok F) (b : Base) : StoreSpec (baseStore F b) := by
  cases b
  · exact fs_correct
  · exact ⟨(sqlSim F).weaken (fun _ _ => Or.inl hF.1) id id⟩

theorem wrap_correct_of (P : Prims) (hP : PrimsOK P) (F : Fixes) (hF : C15ok F) (w : Mw) (hw : MwWF P w) (S : Store)
    (spec : StoreSpec S) : StoreSpec (wrap P F w S) := by
  -- `upRestr` leaves `Restr.full` as it is but for tink, whose streams are clean with the repair only, and
  -- erasure coding, which covers absent parts with the repair only
  cases w with
  | compress a n => exact wrap_preserves P hP F _ hw S Restr.full trivial spec
  | cache m => exact wrap_preserves P hP F _ hw S Restr.full trivial spec
  | outbox => exact wrap_preserves P hP F _ hw S Restr.full trivial spec
  | tink =>
    obtain ⟨sim⟩ := wrap_preserves P hP F .tink hw S Restr.full (Or.inr rfl) spec
    exact ⟨sim.weaken (fun _ _ _ _ => trivial) id fun _ => hF.2.2⟩
  | ec c =>
    obtain ⟨sim⟩ := wrap_preserves P hP F (.ec c) hw S Restr.full trivial spec
    exact ⟨sim.weaken (fun _ _ _ _ => trivial) (fun _ => Bool.and_eq_true_iff.2 ⟨rfl, hF.2.1⟩) id⟩

theorem stack_correct_of (P : Prims) (hP : PrimsOK P) (F : Fixes) (hF : C15ok F) (ws : List Mw) (hws : ∀ w ∈ ws, MwWF P w)
    (base : Store) (hb : StoreSpec base) : StoreSpec (ws.foldr (wrap P F) base) := by
  induction ws with
  | nil => exact hb
  | cons w ws ih =>
    exact wrap_correct_of P hP F hF w (hws w List.mem_cons_self) _ (ih fun w' hw' => hws w' (List.mem_cons_of_mem _ hw'))

open OutboxRead in
/-- the statements after a first statement that ran in the SAME state return the current value —
whatever the reader would do with a vanished entry (nothing vanishes without an event in between) -/
theorem rest_at_lookup_current (act : OnVanished) (fuel : Nat) (s : St) : rest act fuel s.lookup s = ofOpt s.abs := by
  unfold St.lookup St.abs
  cases hl : s.queue.getLast? with
  | none => cases fuel <;> rfl
  | some e =>
    have hmem := List.mem_of_getLast? hl
    have hany : s.queue.any (·.seq == e.seq) = true := List.any_eq_true.2 ⟨e, hmem, beq_self_eq_true _⟩
    unfold rest
    cases hp : e.isPut <;> simp [hany, applyEntry, hp, ofOpt]

end Pithos.C15
