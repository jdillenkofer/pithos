/-
The read of honest shards (helper for C15 and C17). One statement about the stripe loop (`loop_honest`) and
one about `read` (`read_honest`): no shard lies, at least one is intact, the code is MDS or all data
shards are intact. Then the read does not fail when `d` shards are intact, and a read that does not
fail has delivered exactly the part and has written to every DATA shard it heals exactly the stream
`PutPart` wrote for it — to every shard, with the repaired heal path (`fix.healParity`) and a code that
recomputes whole codewords. The read of an intact set of shard streams (`read_intact`) is the case "all
intact", for every code.
-/
import Pithos.Lemmas.ErasureCodingFaults

namespace Pithos.EC
open Pithos.Codec

section
variable {c : Cfg} {code : Code} {H : Bytes → Bytes}

/-- the code recomputes the whole codeword from any `d` true shards (needed by the repaired heal path only) -/
structure MDSAll (c : Cfg) (code : Code) : Prop where
  reconstructAll_ok : ∀ (data : List Bytes) (L : Nat) (avail : List (Option Bytes)),
    data.length = c.d → (∀ x ∈ data, x.length = L) → avail.length = c.n →
    (∀ k, k < c.n → avail.getD k none = none ∨ avail.getD k none = some ((data ++ code.parity c.d c.p data).getD k [])) →
    c.d ≤ (avail.filter Option.isSome).length →
    code.reconstructAll c.d c.p avail = some (data ++ code.parity c.d c.p data)

/-- which shards get their true payload in a heal frame -/
def HealsTruly (c : Cfg) (code : Code) (fix : Fix) (k : Nat) : Prop :=
  k < c.d ∨ (fix.healParity = true ∧ MDSAll c code)

theorem healPayload_true (wf : WF c code H) {fix : Fix} {x : Bytes}
    {avail : List (Option Bytes)} (h : TrueOrNone (stripeShards c code x) avail)
    (hcount : c.d ≤ (avail.filter Option.isSome).length) {k : Nat} (hk : k < c.n) (ht : HealsTruly c code fix k) :
    healPayload c code fix avail (stripe c.d x) k = truePayload c code x k := by
  obtain ⟨shl, shs⟩ := stripeShards_spec wf x
  unfold healPayload truePayload
  by_cases hkd : k < c.d
  · rw [if_pos hkd]
    simp only [stripeShards]
    rw [List.getD_eq_getElem?_getD, List.getD_eq_getElem?_getD, List.getElem?_append_left (by rw [stripe_length]; exact hkd)]
  · rw [if_neg hkd]
    rcases h.2 k (by rw [shl]; exact hk) with h1 | h1
    · rw [h1]
      rcases ht with ht | ⟨hf, hall⟩
      · exact absurd ht hkd
      · simp only [hf, if_true]
        have := hall.reconstructAll_ok (stripe c.d x) (shardLen c.d x.length) avail (stripe_length c.d x)
          (stripe_shard_length c.d x) (by rw [h.1, shl])
          (fun k' hk' => by have := h.2 k' (by rw [shl]; exact hk'); simpa [stripeShards] using this) hcount
        rw [this]
        rfl
    · rw [h1]

/-- `r` has delivered `out`, and has written `want k` to every shard `k` that `healing` marks and that is
healed truly, nothing to a shard that `healing` does not mark. -/
structure Healed (c : Cfg) (code : Code) (fix : Fix) (healing : Nat → Bool) (out : Bytes) (want : Nat → Bytes)
    (r : ReadResult) : Prop where
  out_eq : r.out = out
  partials_eq : r.partials = []
  heals_length : r.heals.length = c.n
  unmarked : ∀ k, k < c.n → healing k = false → r.heals.getD k none = none
  marked : ∀ k, k < c.n → healing k = true → HealsTruly c code fix k → r.heals.getD k none = some (want k)

/-- The stripe loop over honest readers. `I` marks intact readers; with `d` of them the loop does not
fail (`available`: each shows a payload in every stripe), and when it does not fail every stripe had `d`
payloads, all true, so the data shards and the heal payloads are the true ones (`loop_step`). -/
theorem loop_honest (wf : WF c code H) (fix : Fix)
    (healing : Nat → Bool) {I : Nat → Bool} (hd : MDS c code ∨ ∀ k, k < c.d → I k = true) :
    ∀ (xs : List Bytes) (j fuel : Nat) (r : Nat → Option Bytes) (acc : Bytes) (hacc : Nat → Bytes),
      HonestReaders c code H I j xs r → xs.length < fuel →
      (c.d ≤ (List.range c.n).countP I →
        (loop c code H fix ((List.range c.n).map healing) fuel j ((List.range c.n).map r) acc
          ((List.range c.n).map hacc)).failed = false) ∧
      ((loop c code H fix ((List.range c.n).map healing) fuel j ((List.range c.n).map r) acc
          ((List.range c.n).map hacc)).failed = false →
        Healed c code fix healing (acc ++ xs.flatten) (fun k => hacc k ++ framesFrom c code H k j xs)
          (loop c code H fix ((List.range c.n).map healing) fuel j ((List.range c.n).map r) acc
            ((List.range c.n).map hacc))) := by
  intro xs
  induction xs with
  | nil =>
    intro j fuel r acc hacc hr hf
    obtain ⟨f, rfl⟩ : ∃ f, fuel = f + 1 := ⟨fuel - 1, by simp at hf; omega⟩
    rw [loop_done fix healing f acc hacc hr.honest]
    refine ⟨fun _ => rfl, fun _ => ⟨by simp, rfl, by simp, fun k hk hh => ?_, fun k hk hh _ => ?_⟩⟩
    · rw [getD_range_map hk, hh]; rfl
    · rw [getD_range_map hk, hh]; simp [framesFrom]
  | cons x xs ih =>
    intro j fuel r acc hacc hr hf
    obtain ⟨f, rfl⟩ : ∃ f, fuel = f + 1 := ⟨fuel - 1, by simp at hf; omega⟩
    have hstep := loop_step wf fix healing f acc hacc hd hr
    have hcount := hr.available wf
    split at hstep
    · exact ⟨fun hd => by omega, fun h => by rw [hstep] at h; cases h⟩
    · rw [hstep]
      obtain ⟨ih1, ih2⟩ := ih (j + 1) f _ (acc ++ x)
        (haccNext c code H fix healing j x ((framesAt c H j r).map FrameRead.payload) hacc) (hr.next wf) (by simp at hf; omega)
      refine ⟨ih1, fun hok => ?_⟩
      obtain ⟨h1, h2, h3, h4, h5⟩ := ih2 hok
      refine ⟨by rw [h1]; simp [List.append_assoc], h2, h3, h4, fun k hk hh ht => ?_⟩
      rw [h5 k hk hh ht, haccNext, if_pos hh,
        healPayload_true wf (hr.payloads_true wf) (by omega) hk ht]
      simp [framesFrom, truePayload, List.append_assoc]

theorem ShardHonest.intact (wf : WF c code H) (b : Bytes) {k : Nat} (hk : k < c.n) :
    ShardHonest c code H b k (some (shardStream c code H k b)) := by
  unfold ShardHonest shardStream
  rw [openShard_stream wf hk]
  exact honest_intact c code H wf k hk _ 0 (stripesOK_stripesOf wf b)

theorem read_honest (wf : WF c code H) (fix : Fix)
    {b : Bytes} {streams : List (Option Bytes)} (hlen : streams.length = c.n)
    (hd : MDS c code ∨ ∀ k, k < c.d → shardIntact c code H b streams k = true)
    (hon : ∀ k, k < c.n → ShardHonest c code H b k (streams.getD k none))
    (hint : ∃ k0, k0 < c.n ∧ streams.getD k0 none = some (shardStream c code H k0 b)) :
    ∃ r, read c code H fix streams = .result r ∧
      (c.d ≤ (List.range c.n).countP (shardIntact c code H b streams) → r.failed = false) ∧
      (r.failed = false →
        Healed c code fix (fun k => (openShard c k (streams.getD k none)).isNone) b (shardStream c code H · b) r) := by
  obtain ⟨k0, hk0n, hk0⟩ := hint
  have hk0I : shardIntact c code H b streams k0 = true := decide_eq_true hk0
  have hopen := opened_intact wf b streams
  have hall : streams.all Option.isNone = false :=
    List.all_eq_false.2 ⟨_, getD_mem streams k0 none (hlen ▸ hk0n), by rw [hk0]; exact Bool.false_ne_true⟩
  rw [read_eq fix hlen, hall, Bool.and_false, if_neg Bool.false_ne_true]
  split
  · rename_i hg
    simp only [Bool.and_eq_true, decide_eq_true_eq, ← List.countP_eq_length_filter, List.countP_map] at hg
    have := List.countP_mono_left (l := List.range c.n) (p := shardIntact c code H b streams)
      (q := Option.isSome ∘ opened c streams) fun k hk hI => by
        simp only [Function.comp_apply, hopen k (List.mem_range.1 hk) hI]; rfl
    exact ⟨_, rfl, fun hfew => by omega, fun h => by cases h⟩
  · obtain ⟨h1, h2⟩ := loop_honest wf fix (fun k => (opened c streams k).isNone) hd
      (stripesOf c b) 0 _ (opened c streams) [] (shardHeader c)
      ⟨stripesOK_stripesOf wf b, hon, hopen, k0, hk0n, hk0I⟩
      (lt_fuelFor wf.hash_len (List.mem_map.2 ⟨k0, List.mem_range.2 hk0n, hopen k0 hk0n hk0I⟩))
    refine ⟨_, rfl, h1, fun hok => ?_⟩
    obtain ⟨g1, g2, g3, g4, g5⟩ := h2 hok
    exact ⟨by rw [g1, List.nil_append]; exact concat_chunks _ b, g2, g3, g4, g5⟩

attribute [local irreducible] ShardHonest in
theorem read_intact (wf : WF c code H) (fix : Fix) (b : Bytes) :
    read c code H fix ((List.range c.n).map fun k => some (shardStream c code H k b))
      = .result ⟨b, false, List.replicate c.n none, []⟩ := by
  have hn1 : 0 < c.n := Nat.lt_of_lt_of_le wf.d_pos (Nat.le_add_right _ _)
  generalize hs : ((List.range c.n).map fun k => some (shardStream c code H k b)) = streams
  have hg : ∀ k, k < c.n → streams.getD k none = some (shardStream c code H k b) :=
    fun k hk => hs ▸ getD_range_map hk
  have hI : ∀ k, k < c.n → shardIntact c code H b streams k = true := fun k hk => decide_eq_true (hg k hk)
  obtain ⟨r, hr, h1, h2⟩ := read_honest wf fix (b := b) (streams := streams) (by simp [← hs])
    (.inr fun k hk => hI k (Nat.lt_of_lt_of_le hk (Nat.le_add_right _ _)))
    (fun k hk => hg k hk ▸ .intact wf b hk) ⟨0, hn1, hg 0 hn1⟩
  have hok := h1 (by
    rw [List.countP_eq_length.2 fun k hk => hI k (List.mem_range.1 hk), List.length_range]; exact Nat.le_add_right _ _)
  obtain ⟨g1, g2, g3, g4, _⟩ := h2 hok
  have g5 : r.heals = List.replicate c.n none := eq_of_getD (d := none) g3 (by simp) fun k hk => by
    rw [g4 k hk (by rw [hg k hk, shardStream, openShard_stream wf hk]; rfl)]; simp [hk]
  rw [hr, ← g1, ← g2, ← g5, ← hok]

end

end Pithos.EC
