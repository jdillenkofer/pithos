/-
The proxy-trust decision (`Pithos.ProxyTrust`, C32), for every configuration and request. The entries kept
after parsing (`usable`) are the configured entries that are CIDRs, and none is kept exactly when none is
one: so the two variants of `trustedProxy` differ only on a configured list without a usable entry
(`asis_eq_repaired`). `resolve` leaves the peer's own IP and scheme unless `useForwarded` says otherwise
(`not_used_exposes_peer`, `used_of_differs`), and Go's `Contains` stays within the numeric reading of a CIDR
that the specification uses (`contains_inside`).
-/
import Pithos.Model.ProxyTrust
import Pithos.Spec.ProxyTrust

namespace Pithos.C32
open Pithos.ProxyTrust Pithos.ProxyTrust.Spec

theorem mem_usable (cfg : Config) (c : Cidr) : c ∈ usable cfg ↔ some c ∈ cfg.cidrs := by
  simp [usable, List.mem_filterMap]

theorem usable_isEmpty (cfg : Config) : (usable cfg).isEmpty = cfg.cidrs.all (·.isNone) := by
  unfold usable
  induction cfg.cidrs with
  | nil => rfl
  | cons e t ih => cases e <;> simp [ih]

theorem contains_inside (c : Cidr) (a : Ip) (h : contains c a = true) : inside c a = true := by
  simp only [contains, Bool.and_eq_true] at h
  exact h.2

theorem not_used_exposes_peer (r : Bool) (cfg : Config) (req : Req)
    (h : useForwarded r cfg req = false) :
    resolve r cfg req = (req.peer, peerScheme req.tls) := by
  simp [resolve, h]

theorem used_of_differs {r : Bool} {cfg : Config} {req : Req}
    (h : resolve r cfg req ≠ (req.peer, peerScheme req.tls)) : useForwarded r cfg req = true :=
  (Bool.eq_false_or_eq_true _).resolve_right fun hu => h (not_used_exposes_peer r cfg req hu)

theorem asis_eq_repaired (cfg : Config) (peer : Option Ip)
    (h : unusableList cfg = false) :
    trustedProxy false cfg peer = trustedProxy true cfg peer := by
  cases peer with
  | none => rfl
  | some a =>
    -- the list as parsed is empty only if the list as configured is
    have he : (usable cfg).isEmpty = cfg.cidrs.isEmpty := by
      rw [usable_isEmpty]
      cases h0 : cfg.cidrs.isEmpty
      · simpa [unusableList, h0] using h
      · rw [List.isEmpty_iff.1 h0]; rfl
    simp only [trustedProxy, he, Bool.false_eq_true, if_false, if_true]

end Pithos.C32
