/-
Row-list lemmas for the storage model (`Pithos.Model.S3`). `ids` is the list of row ids, `lc rows k`
the number of rows of key `k` that carry the `latest` flag, `repl` what `replaceRow` does to the
list; the lemmas say how replacing, filtering and appending rows act on `ids` and `lc`: the building
blocks of the state invariant in `Pithos.Lemmas.S3Inv`. The lookups (`latestRow`, `rowByVid`, `resolve`,
`findBucket`) rest on these facts: `replaceRow` and `setBucket` are one map, and looking up after it is
updating what the lookup finds (`find?_update` of `Pithos.Lemmas.ListFacts`); where at most one element passes
a test the lookup finds it (`find?_of_unique`, there too); with distinct row ids a lookup whose test does not tell a row from what
replaces it commutes with the replacement (`find?_repl_of_nodup`). `isSort` puts the model's `sortBy`
under the insertion-sort lemmas of `Pithos.Lemmas.ListFacts`; `maxBy_*` say what `promote`'s choice
returns. At the end: with distinct row ids the lock of a conditional write leaves no trace
(`install_lockRow`), so `putRow` is three tests and an `install` (`putRow_eq_of_nodup`).
-/
import Pithos.Lemmas.S3Write
import Pithos.Lemmas.ListFacts

namespace Pithos.S3

theorem isSort {α : Type} (lt : α → α → Bool) : InsertionSort (fun x y => lt x y = true) (insertSorted lt) (sortBy lt) :=
  ⟨fun _ => rfl, fun _ _ _ => rfl, rfl, fun _ _ => rfl⟩

theorem maxBy_mem (f : Row → Nat) : ∀ (l : List Row) (r : Row), maxBy f l = some r → r ∈ l
  | [], r, h => by simp [maxBy] at h
  | a :: t, r, h => by
    unfold maxBy at h
    cases hm : maxBy f t with
    | none => simp [hm] at h; subst h; simp
    | some m =>
      simp [hm] at h
      split at h
      · injection h with h; subst h; exact List.mem_cons_of_mem _ (maxBy_mem f t m hm)
      · injection h with h; subst h; simp

theorem maxBy_none (f : Row → Nat) : ∀ (l : List Row), maxBy f l = none → l = []
  | [], _ => rfl
  | a :: t, h => by
    unfold maxBy at h
    cases hm : maxBy f t with
    | none => simp [hm] at h
    | some m => simp [hm] at h; split at h <;> cases h

theorem maxBy_ge (f : Row → Nat) : ∀ (l : List Row) (r : Row), maxBy f l = some r → ∀ x ∈ l, f x ≤ f r
  | [], _, h, _, hx => by cases hx
  | a :: t, r, h, x, hx => by
    unfold maxBy at h
    cases hm : maxBy f t with
    | none =>
      simp [hm] at h; subst h
      rcases List.mem_cons.1 hx with rfl | hxt
      · exact Nat.le_refl _
      · have := maxBy_none f t hm
        subst this
        cases hxt
    | some m =>
      simp [hm] at h
      have ih := maxBy_ge f t m hm
      split at h
      · injection h with h; subst h
        rcases List.mem_cons.1 hx with rfl | hxt
        · omega
        · exact ih x hxt
      · injection h with h; subst h
        rename_i hgt
        rcases List.mem_cons.1 hx with rfl | hxt
        · exact Nat.le_refl _
        · have := ih x hxt; omega

/-- number of rows of key `k` flagged latest -/
def lc (rows : List Row) (k : String) : Nat := rows.countP (fun r => r.key == k && r.latest)

def ids (rows : List Row) : List Nat := rows.map (·.rowId)

def repl (rows : List Row) (y : Row) : List Row := rows.map fun x => if x.rowId == y.rowId then y else x

theorem replaceRow_rows (bk : Bucket) (y : Row) : (replaceRow bk y).rows = repl bk.rows y := rfl
theorem removeRow_rows (bk : Bucket) (i : Nat) : (removeRow bk i).rows = bk.rows.filter (fun x => x.rowId != i) := rfl
theorem addRow_rows (bk : Bucket) (y : Row) : (addRow bk y).rows = bk.rows ++ [y] := rfl
theorem replaceRow_ver (bk : Bucket) (y : Row) : (replaceRow bk y).ver = bk.ver := rfl
theorem replaceRow_name (bk : Bucket) (y : Row) : (replaceRow bk y).name = bk.name := rfl
theorem removeRow_name (bk : Bucket) (i : Nat) : (removeRow bk i).name = bk.name := rfl
theorem addRow_name (bk : Bucket) (y : Row) : (addRow bk y).name = bk.name := rfl
theorem promote_name (q : Quirks) (now : Nat) (bk : Bucket) (k : String) : (promote q now bk k).name = bk.name := by
  unfold promote; simp only []; split <;> rfl
theorem unlatestCur_name (q : Quirks) (now : Nat) (bk : Bucket) (k : String) : (unlatestCur q now bk k).name = bk.name := by
  unfold unlatestCur; cases latestRow bk k <;> rfl

theorem map_repl {α : Type} (f : Row → α) (rows : List Row) (y : Row) (h : ∀ x ∈ rows, x.rowId = y.rowId → f x = f y) :
    (repl rows y).map f = rows.map f := by
  unfold repl
  rw [List.map_map]
  apply List.map_congr_left
  intro x hx
  by_cases hid : x.rowId = y.rowId
  · simp [hid, h x hx hid]
  · simp [hid]

theorem ids_repl (rows : List Row) (y : Row) : ids (repl rows y) = ids rows :=
  map_repl (·.rowId) rows y fun _ _ h => h

theorem mem_repl {rows : List Row} {y z : Row} (h : z ∈ repl rows y) :
    z = y ∨ (z ∈ rows ∧ z.rowId ≠ y.rowId) := by
  unfold repl at h
  obtain ⟨x, hx, rfl⟩ := List.mem_map.1 h
  by_cases hq : x.rowId = y.rowId
  · left; simp [hq]
  · right; simp [hq]; exact hx

theorem forall_mem_repl {P : Row → Prop} {rows : List Row} {y : Row} (h : ∀ x ∈ rows, P x) (hy : P y) :
    ∀ z ∈ repl rows y, P z := by
  intro z hz
  rcases mem_repl hz with rfl | ⟨hz', _⟩
  · exact hy
  · exact h z hz'

theorem mem_repl_other {rows : List Row} {y x : Row} (hx : x ∈ rows) (hne : x.rowId ≠ y.rowId) : x ∈ repl rows y := by
  unfold repl
  exact List.mem_map.2 ⟨x, hx, by simp [hne]⟩

theorem mem_repl_same {rows : List Row} {y x : Row} (hx : x ∈ rows) (he : x.rowId = y.rowId) : y ∈ repl rows y := by
  unfold repl
  exact List.mem_map.2 ⟨x, hx, by simp [he]⟩

theorem repl_repl (rows : List Row) {y z : Row} (h : y.rowId = z.rowId) : repl (repl rows y) z = repl rows z := by
  unfold repl
  rw [List.map_map]
  refine List.map_congr_left fun x _ => ?_
  simp only [Function.comp]
  by_cases hid : x.rowId = z.rowId
  · simp [hid, h]
  · simp [hid, h]

theorem replaceRow_replaceRow (bk : Bucket) {y z : Row} (h : y.rowId = z.rowId) :
    replaceRow (replaceRow bk y) z = replaceRow bk z :=
  congrArg (fun l => ({ bk with rows := l } : Bucket)) (repl_repl bk.rows h)

theorem eq_of_id_eq {rows : List Row} (hn : (ids rows).Nodup) {a b : Row} (ha : a ∈ rows) (hb : b ∈ rows)
    (he : a.rowId = b.rowId) : a = b :=
  eq_of_map_eq hn ha hb he

theorem find?_repl_of_nodup (p : Row → Bool) (g : Row → Row) {rows : List Row} {r : Row} (hn : (ids rows).Nodup)
    (hr : r ∈ rows) (hg : (g r).rowId = r.rowId) (hp : p (g r) = p r) :
    (repl rows (g r)).find? p = (rows.find? p).map fun x => if x.rowId == r.rowId then g x else x := by
  rw [repl, find?_update _ p (g r) rows fun x hx hc => by rw [eq_of_id_eq hn hx hr ((beq_iff_eq.1 hc).trans hg), hp]]
  simp only [hg]
  cases hf : rows.find? p with
  | none => rfl
  | some x =>
    by_cases hid : x.rowId = r.rowId
    · cases eq_of_id_eq hn (List.mem_of_find?_eq_some hf) hr hid; rfl
    · simp only [Option.map_some, beq_iff_eq, hid, if_false]

theorem find?_repl_irrel {p : Row → Bool} {rows : List Row} {r y : Row} (hn : (ids rows).Nodup) (hr : r ∈ rows)
    (hid : y.rowId = r.rowId) (hpr : p r = false) (hpy : p y = false) : (repl rows y).find? p = rows.find? p := by
  rw [find?_repl_of_nodup p (fun _ => y) hn hr hid (hpy.trans hpr.symm)]
  cases hf : rows.find? p with
  | none => rfl
  | some x =>
    -- what is found passes the test, so it is not `r`
    have hne : ¬ x.rowId = r.rowId := fun h => by
      have hx := List.find?_some hf
      rw [eq_of_id_eq hn (List.mem_of_find?_eq_some hf) hr h, hpr] at hx
      cases hx
    simp only [Option.map_some, beq_iff_eq, hne, if_false]

theorem find?_repl_first (p : Row → Bool) (rows : List Row) (y r : Row) (hn : (ids rows).Nodup)
    (hf : rows.find? p = some r) (hid : y.rowId = r.rowId) (hy : p y = true) : (repl rows y).find? p = some y := by
  rw [find?_repl_of_nodup p (fun _ => y) hn (List.mem_of_find?_eq_some hf) hid (hy.trans (List.find?_some hf).symm), hf]
  simp

theorem find?_repl_none (p : Row → Bool) (rows : List Row) (y r : Row) (hz : ∀ x ∈ rows, ¬ p x = true) (hr : r ∈ rows)
    (hid : y.rowId = r.rowId) (hy : p y = true) : (repl rows y).find? p = some y := by
  unfold repl
  rw [List.find?_map]
  cases hf : rows.find? (p ∘ fun x => if x.rowId == y.rowId then y else x) with
  | none => simpa [hid, hy] using List.find?_eq_none.1 hf r hr
  | some x =>
    -- what is found satisfies `p` after the update only: it is replaced by `y`
    have hx := List.find?_some hf
    by_cases hc : x.rowId = y.rowId
    · simp [hc]
    · simp only [Function.comp, beq_iff_eq, hc, if_false] at hx
      exact absurd hx (hz x (List.mem_of_find?_eq_some hf))

theorem map_replaceRow {α : Type} (f : Row → α) {bk : Bucket} (hn : (ids bk.rows).Nodup) {r y : Row} (hr : r ∈ bk.rows)
    (hid : y.rowId = r.rowId) (hf : f y = f r) : (replaceRow bk y).rows.map f = bk.rows.map f :=
  map_repl f _ _ fun x hx hxy => by rw [eq_of_id_eq hn hx hr (hxy.trans hid), hf]

theorem repl_absent (rows : List Row) (y : Row) (h : y.rowId ∉ ids rows) : repl rows y = rows := by
  unfold repl
  rw [List.map_congr_left (g := id)]
  · simp
  · intro x hx
    have : x.rowId ≠ y.rowId := by
      intro e; apply h; rw [← e]; exact List.mem_map.2 ⟨x, hx, rfl⟩
    simp [this]

theorem countP_repl (p : Row → Bool) (rows : List Row) (r y : Row)
    (hn : (ids rows).Nodup) (hr : r ∈ rows) (hy : y.rowId = r.rowId) :
    (repl rows y).countP p + (if p r then 1 else 0) = rows.countP p + (if p y then 1 else 0) := by
  induction rows with
  | nil => cases hr
  | cons a t ih =>
    have hn' : (ids t).Nodup := by
      have := hn; simp only [ids, List.map_cons, List.nodup_cons] at this; exact this.2
    have ha : a.rowId ∉ ids t := by
      have := hn; simp only [ids, List.map_cons, List.nodup_cons] at this; exact this.1
    rcases List.mem_cons.1 hr with rfl | hrt
    · -- the head is the replaced row; nothing in the tail has this id
      have htail : repl t y = t := repl_absent t y (by rw [hy]; exact ha)
      have hhead : repl (r :: t) y = y :: repl t y := by
        simp [repl, hy]
      rw [hhead, htail, List.countP_cons, List.countP_cons]
      omega
    · have hne : a.rowId ≠ y.rowId := by
        intro e; apply ha; rw [e, hy]; exact List.mem_map.2 ⟨r, hrt, rfl⟩
      have hhead : repl (a :: t) y = a :: repl t y := by
        simp [repl, hne]
      have := ih hn' hrt
      rw [hhead, List.countP_cons, List.countP_cons]
      omega

theorem lc_filter_le (rows : List Row) (k : String) (q : Row → Bool) : lc (rows.filter q) k ≤ lc rows k := by
  unfold lc
  rw [List.countP_filter]
  apply List.countP_mono_left
  intro x _ hx
  simp at hx ⊢
  exact hx.1

theorem ids_filter_nodup (rows : List Row) (q : Row → Bool) (h : (ids rows).Nodup) : (ids (rows.filter q)).Nodup := by
  unfold ids at *
  exact h.sublist (List.Sublist.map _ List.filter_sublist)

theorem lc_append (a b : List Row) (k : String) : lc (a ++ b) k = lc a k + lc b k := by
  simp [lc, List.countP_append]

theorem lc_single (y : Row) (k : String) : lc [y] k = if (y.key == k && y.latest) then 1 else 0 := by
  simp [lc, List.countP_cons]

theorem latestRow_some {bk : Bucket} {k : String} {r : Row} (h : latestRow bk k = some r) :
    r ∈ bk.rows ∧ r.key = k ∧ r.latest = true := by
  unfold latestRow at h
  have hm := List.mem_of_find?_eq_some h
  have hp := List.find?_some h
  simp at hp
  exact ⟨hm, hp.1, hp.2⟩

theorem latestRow_eq_none {bk : Bucket} {k : String} : latestRow bk k = none ↔ lc bk.rows k = 0 := by
  unfold latestRow lc
  rw [List.find?_eq_none, List.countP_eq_zero]

theorem lc_eq_zero {rows : List Row} {k : String} : lc rows k = 0 ↔ ∀ x ∈ rows, x.latest = true → x.key ≠ k := by
  unfold lc
  rw [List.countP_eq_zero]
  refine forall₂_congr fun x _ => ?_
  simp only [Bool.and_eq_true, beq_iff_eq, not_and', ne_eq]

theorem latestRow_eq_of_unique {bk : Bucket} {k : String} {r : Row}
    (hone : lc bk.rows k ≤ 1) (hr : r ∈ bk.rows) (hk : r.key = k) (hl : r.latest = true) :
    latestRow bk k = some r :=
  have hp : (r.key == k && r.latest) = true := by simp [hk, hl]
  find?_of_unique hr hp fun _ hx hpx => eq_of_countP_le_one hone hx hr hpx hp

theorem rowByVid_mem {bk : Bucket} {k : String} {v : Option Nat} {r : Row} (h : rowByVid bk k v = some r) :
    r ∈ bk.rows ∧ r.key = k ∧ r.vid = v := by
  unfold rowByVid at h
  have hm := List.mem_of_find?_eq_some h
  have hp := List.find?_some h
  simp at hp
  exact ⟨hm, hp.1, hp.2⟩

/-- The last step of `resolve`, whichever lookup came before. -/
theorem found_ok_iff {o : Option Row} {e : Err} {r : Row} :
    (match o with
      | none => Except.error Err.noSuchKey
      | some x => if x.dm then Except.error e else Except.ok x) = Except.ok r ↔ o = some r ∧ r.dm = false := by
  cases o with
  | none => simp
  | some x =>
    by_cases hd : x.dm = true
    · simp only [hd, if_true, Option.some.injEq]
      exact ⟨fun h => (nomatch h), fun h => by rw [h.1, h.2] at hd; cases hd⟩
    · simp only [hd, Bool.false_eq_true, if_false, Except.ok.injEq, Option.some.injEq]
      exact ⟨fun h => ⟨h, by rw [← h]; simpa using hd⟩, fun h => h.1⟩

theorem resolve_none_ok {bk : Bucket} {k : String} {r : Row} :
    resolve bk k none = .ok r ↔ latestRow bk k = some r ∧ r.dm = false := found_ok_iff

theorem resolve_some_ok {bk : Bucket} {k : String} {v : Option Nat} {r : Row} :
    resolve bk k (some v) = .ok r ↔ rowByVid bk k v = some r ∧ r.dm = false := found_ok_iff

theorem resolve_mem {bk : Bucket} {k : String} {vid : Option (Option Nat)} {r : Row}
    (h : resolve bk k vid = .ok r) : r ∈ bk.rows := by
  cases vid with
  | none => exact (latestRow_some (resolve_none_ok.1 h).1).1
  | some v => exact (rowByVid_mem (resolve_some_ok.1 h).1).1

theorem mem_setBucket {s : State} {bk b : Bucket} (h : b ∈ (setBucket s bk).buckets) :
    b = bk ∨ (b ∈ s.buckets ∧ b.name ≠ bk.name) := by
  obtain ⟨x, hx, rfl⟩ := List.mem_map.1 h
  split
  · exact .inl rfl
  · next hq => exact .inr ⟨hx, by simpa using hq⟩

theorem forall_setBucket {P : Bucket → Prop} {s : State} {X : Bucket} (h : ∀ bk ∈ s.buckets, P bk) (hX : P X) :
    ∀ bk ∈ (setBucket s X).buckets, P bk := by
  intro b hb
  rcases mem_setBucket hb with rfl | ⟨hold, _⟩
  · exact hX
  · exact h b hold

theorem findBucket_mem {s : State} {b : String} {bk : Bucket} (h : findBucket s b = some bk) : bk ∈ s.buckets :=
  List.mem_of_find?_eq_some h

theorem findBucket_some_name {s : State} {b : String} {bk : Bucket} (h : findBucket s b = some bk) : bk.name = b := by
  unfold findBucket at h
  have := List.find?_some h
  simpa using this

theorem findBucket_setBucket_eq (s : State) (bk : Bucket) (b : String) :
    findBucket (setBucket s bk) b = (findBucket s b).map fun x => if x.name == bk.name then bk else x :=
  find?_update _ _ bk s.buckets fun x _ hx => by rw [beq_iff_eq.1 hx]

theorem findBucket_setBucket {s : State} {b : String} {bk0 bk : Bucket}
    (h0 : findBucket s b = some bk0) (hb : bk.name = b) : findBucket (setBucket s bk) b = some bk := by
  rw [findBucket_setBucket_eq, h0, Option.map_some, if_pos (by rw [findBucket_some_name h0, hb]; exact beq_self_eq_true b)]

theorem findBucket_setBucket_ne {s : State} {bk : Bucket} {b : String} (hne : bk.name ≠ b) :
    findBucket (setBucket s bk) b = findBucket s b := by
  rw [findBucket_setBucket_eq]
  cases h : findBucket s b with
  | none => rfl
  | some x => rw [Option.map_some, if_neg (by rw [findBucket_some_name h]; simpa using Ne.symm hne)]

theorem findBucket_replaced {s st' : State} {b' : String} {bk1 X : Bucket} (hfb' : findBucket s b' = some bk1)
    (hX : X.name = bk1.name) (hst : st'.buckets = (setBucket s X).buckets) (b : String) :
    findBucket st' b = if b' = b then some X else findBucket s b := by
  have hn : X.name = b' := hX.trans (findBucket_some_name hfb')
  unfold findBucket at *
  rw [hst]
  split
  · next h => exact h ▸ findBucket_setBucket hfb' hn
  · next h => exact findBucket_setBucket_ne (hn ▸ h)

theorem findBucket_congr {s s' : State} (h : s'.buckets = s.buckets) (b : String) : findBucket s' b = findBucket s b := by
  unfold findBucket; rw [h]

theorem findBucket_mkb (s : State) (b n : String) :
    findBucket { s with buckets := s.buckets ++ [{ name := b }] } n =
      (findBucket s n).or (if b = n then some { name := b } else none) := by
  unfold findBucket
  rw [List.find?_append, List.find?_singleton]
  simp only [beq_iff_eq]

theorem findBucket_rmb_ne {s : State} {b b' : String} (h : b' ≠ b) :
    findBucket { s with buckets := s.buckets.filter (·.name != b') } b = findBucket s b := by
  unfold findBucket
  refine find?_filter_of_imp fun x _ hx => ?_
  simpa [beq_iff_eq.1 hx] using Ne.symm h

theorem findBucket_rmb_self (s : State) (b : String) :
    findBucket { s with buckets := s.buckets.filter (·.name != b) } b = none := by
  unfold findBucket
  rw [List.find?_eq_none]
  intro x hx
  simpa using (List.mem_filter.1 hx).2

/-- The lock of a conditional write leaves no trace: `install` saves the current row of the key again
anyway, and every other lookup of the write path finds the rows it found before. -/
theorem install_lockRow {q : Quirks} {s : State} {bk : Bucket} {k : String} {n : NewObj} {inm : Bool} {im : IfMatch}
    (hn : (ids bk.rows).Nodup) : install q s (lockRow q s.clock bk k inm im) k n = install q s bk k n := by
  unfold lockRow
  cases hl : latestRow bk k with
  | none => rfl
  | some r =>
    simp only []
    split
    · have hr := (latestRow_some hl).1
      have h1 : latestRow (replaceRow bk (touch q s.clock r)) k = some (touch q s.clock r) := by
        unfold latestRow at hl ⊢
        rw [replaceRow_rows, find?_repl_of_nodup _ (touch q s.clock) hn hr rfl rfl, hl]
        simp
      have h2 : nullRow (replaceRow bk (touch q s.clock r)) k =
          (nullRow bk k).map fun x => if x.rowId == r.rowId then touch q s.clock x else x :=
        find?_repl_of_nodup _ (touch q s.clock) hn hr rfl rfl
      have h3 : unlatestCur q s.clock (replaceRow bk (touch q s.clock r)) k = unlatestCur q s.clock bk k := by
        unfold unlatestCur
        rw [h1, hl]
        unfold unlatest
        refine (replaceRow_replaceRow bk (y := touch q s.clock r) ?_).trans ?_
        · rfl
        · unfold touch
          cases q.touchOnAnySave <;> rfl
      have h4 : ∀ x : Row, (if x.rowId == r.rowId then touch q s.clock x else x).rowId = x.rowId ∧
          (if x.rowId == r.rowId then touch q s.clock x else x).created = x.created := fun x => by
        split <;> exact ⟨rfl, rfl⟩
      unfold install
      simp only [h3, replaceRow_ver, h2]
      cases nullRow bk k with
      | none => rfl
      | some nr => simp only [Option.map_some, h4]
    · rfl

theorem nullRow_lockRow {q : Quirks} {now : Nat} {bk : Bucket} {k : String} {inm : Bool} {im : IfMatch}
    (hn : (ids bk.rows).Nodup) :
    (nullRow (lockRow q now bk k inm im) k).any (·.latest) = (nullRow bk k).any (·.latest) := by
  unfold lockRow
  cases hl : latestRow bk k with
  | none => rfl
  | some r =>
    simp only []
    split
    · rw [show nullRow (replaceRow bk (touch q now r)) k = _ from find?_repl_of_nodup _ (touch q now) hn (latestRow_some hl).1 rfl rfl,
        Option.any_map]
      refine congrArg (fun f => Option.any f _) (funext fun x => ?_)
      show (if _ then _ else _ : Row).latest = _
      split <;> rfl
    · rfl

theorem putRow_eq_of_nodup {q : Quirks} {s : State} {bk : Bucket} {k : String} {n : NewObj} {inm : Bool} {im : IfMatch}
    (hn : (ids bk.rows).Nodup) :
    putRow q s bk k n inm im =
      if !ifMatchOk im (latestRow bk k) then .error .preconditionFailed
      else if inm && live (latestRow bk k) then .error .preconditionFailed
      else if inm && bk.ver != .enabled && (nullRow bk k).any (·.latest) then .error .preconditionFailed
      else .ok (install q s bk k n) := by
  rw [putRow_eq, install_lockRow hn, nullRow_lockRow hn]

theorem putRow_ok {q : Quirks} {s : State} {bk : Bucket} {k : String} {n : NewObj} {inm : Bool} {im : IfMatch}
    {x : State × Option Nat} (hn : (ids bk.rows).Nodup) (hok : putRow q s bk k n inm im = .ok x) :
    x = install q s bk k n :=
  (putRow_ok_install hok).trans (install_lockRow hn)

end Pithos.S3
