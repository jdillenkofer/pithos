/-
The object-cache middleware, concurrent part: the invariant behind `C20.Conc.body_matches_head` (body
entries tagged with their version). An atomic step of a thread is, as far as the invariant can tell, of
one of six kinds (`TStep`, read off `stepThread` by `stepThread_spec`); each kind keeps `Inv` and keeps
the versions the thread holds committed (`TStep.inv`), so every schedule keeps `GInv` (`run_ginv`).
-/
import Pithos.Model.ObjectCache
import Pithos.Lemmas.ListFacts

namespace Pithos.C20
open Pithos.ObjectCache

namespace Conc
open Pithos.ObjectCache.Conc

/-- Shared-state invariant of the tagged design. -/
structure Inv (s : St) : Prop where
  inner    : ∀ v, s.inner = some v → v ∈ s.written
  chead    : ∀ h, s.chead = some h → h ∈ s.written
  cbody    : ∀ b t, s.cbody = some (b, t) → b = t
  returned : ∀ p ∈ s.returned, p.1 = p.2 ∧ p.1 ∈ s.written

def TInv (w : List Nat) (t : Thread) : Prop := ∀ x ∈ t.locals, x ∈ w

/-- One atomic step of a thread whose locals hold the versions `l`, as far as the invariant can tell:
the new shared state and the new locals, one constructor per kind of step. -/
inductive TStep (s : St) (l : List Nat) : St → List Nat → Prop
  | read (l') (h : ∀ x ∈ l', x ∈ l ∨ s.chead = some x ∨ s.inner = some x) : TStep s l s l'
  | commit (v) : TStep s l (commit s v) l
  | setBody (e) (he : ∀ b t, e = some (b, t) → b = t) : TStep s l { s with cbody := e } l
  | setHead (h) (hh : ∀ x, h = some x → x ∈ l) : TStep s l { s with chead := h } l
  | hit (h b) (hb : s.cbody = some (b, h)) (hh : h ∈ l) :
      TStep s l { s with returned := (h, b) :: s.returned } l
  | fill (v) (hv : v ∈ l) : TStep s l { s with cbody := some (v, v), returned := (v, v) :: s.returned } l

theorem TStep.stutter (s : St) (l : List Nat) : TStep s l s l := .read l fun _ => Or.inl

theorem stepThread_spec (s : St) (t : Thread) :
    TStep s t.locals (stepThread true s t).1 (stepThread true s t).2.locals := by
  cases t with
  | put v bf pc h =>
    cases pc with
    | p0 =>
      cases bf
      · exact .commit v
      · exact .setBody _ (by rintro _ _ ⟨⟩; rfl)
    | p1 =>
      cases bf
      · exact .setBody _ (by rintro _ _ ⟨⟩; rfl)
      · exact .commit v
    | p2 => exact .read _ fun x hx => Or.inr (Or.inr (by simpa [stepThread, Thread.locals] using hx))
    | p3 => exact .setHead h fun x hx => by simp [Thread.locals, hx]
    | done => exact .stutter _ _
  | get pc hh sn =>
    cases pc with
    | g0 =>
      refine .read _ fun x hx => ?_
      simp only [stepThread, Thread.locals, List.mem_append, Option.mem_toList] at hx ⊢
      exact hx.elim (fun h => Or.inr (Or.inl h)) fun h => Or.inl (Or.inr h)
    | g1 =>
      simp only [stepThread]
      split
      · next h b t hcb =>
        split
        · next hcond =>
          -- the tag of the body entry is the version of the head read at g0
          have hth : t = h := by simpa using hcond
          exact .hit h b (hth ▸ hcb) (by simp [Thread.locals])
        · exact .stutter _ _
      · exact .stutter _ _
    | g2 =>
      simp only [stepThread]
      split
      · next v hv =>
        refine .read _ fun x hx => ?_
        simp only [Thread.locals, List.mem_append, Option.mem_toList] at hx ⊢
        exact hx.elim (fun h => Or.inl (Or.inl h)) fun h => Or.inr (Or.inr (hv.trans h))
      · exact .read _ fun x hx => Or.inl (by simp [Thread.locals] at hx ⊢; exact Or.inl hx)
    | g3 => exact .setHead sn fun x hx => by simp [Thread.locals, hx]
    | g4 =>
      cases sn with
      | some v => exact .fill v (by simp [Thread.locals])
      | none => exact .stutter _ _
    | done => exact .stutter _ _
  | inval pc =>
    cases pc with
    | i0 => exact .setBody none nofun
    | i1 => exact .setHead none nofun
    | done => exact .stutter _ _

theorem TStep.inv {s s' : St} {l l' : List Nat} (h : TStep s l s' l') (hs : Inv s) (hl : ∀ x ∈ l, x ∈ s.written) :
    Inv s' ∧ (∀ x ∈ l', x ∈ s'.written) ∧ (∀ x ∈ s.written, x ∈ s'.written) ∧ s'.threads = s.threads := by
  cases h with
  | read _ h =>
    -- what a thread reads from the head entry or the inner storage is a committed version
    exact ⟨hs, fun x hx => (h x hx).elim (hl x) fun h => h.elim (hs.chead x) (hs.inner x), fun _ h => h, rfl⟩
  | commit v =>
    have mono : ∀ x ∈ s.written, x ∈ v :: s.written := fun x => List.mem_cons_of_mem v
    refine ⟨⟨?_, fun x hx => mono x (hs.chead x hx), hs.cbody, fun p hp => ?_⟩, fun x hx => mono x (hl x hx), mono, rfl⟩
    · rintro x ⟨⟩; exact List.mem_cons_self
    · exact ⟨(hs.returned p hp).1, mono _ (hs.returned p hp).2⟩
  | setBody e he => exact ⟨⟨hs.inner, hs.chead, he, hs.returned⟩, hl, fun _ h => h, rfl⟩
  | setHead h hh => exact ⟨⟨hs.inner, fun x hx => hl x (hh x hx), hs.cbody, hs.returned⟩, hl, fun _ h => h, rfl⟩
  | hit h b hb hh =>
    refine ⟨⟨hs.inner, hs.chead, hs.cbody, fun p hp => ?_⟩, hl, fun _ h => h, rfl⟩
    rcases List.mem_cons.1 hp with rfl | hp
    · exact ⟨(hs.cbody b h hb).symm, hl h hh⟩
    · exact hs.returned p hp
  | fill v hv =>
    refine ⟨⟨hs.inner, hs.chead, ?_, fun p hp => ?_⟩, hl, fun _ h => h, rfl⟩
    · rintro b t ⟨⟩; rfl
    · rcases List.mem_cons.1 hp with rfl | hp
      · exact ⟨rfl, hl v hv⟩
      · exact hs.returned p hp

/-- Global invariant: shared invariant + every thread's locals are committed versions. -/
def GInv (s : St) : Prop := Inv s ∧ ∀ t ∈ s.threads, TInv s.written t

theorem step_ginv (s : St) (i : Nat) (h : GInv s) : GInv (step true s i) := by
  unfold step
  cases hti : s.threads[i]? with
  | none => exact h
  | some t =>
    obtain ⟨h1, h2, h3, h4⟩ := (stepThread_spec s t).inv h.1 (h.2 t (List.mem_of_getElem? hti))
    exact ⟨⟨h1.inner, h1.chead, h1.cbody, h1.returned⟩,
      forall_mem_set (h4 ▸ h.2) (fun _ (ht : TInv s.written _) x hx => h3 x (ht x hx)) i h2⟩

theorem run_ginv (s : St) (sched : List Nat) (h : GInv s) : GInv (run true s sched) := by
  induction sched generalizing s with
  | nil => exact h
  | cons i is ih => exact ih _ (step_ginv s i h)

end Conc

end Pithos.C20
