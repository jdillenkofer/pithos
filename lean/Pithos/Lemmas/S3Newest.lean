/-
Second invariant of the storage model, for every quirk setting with `promoteByCreated = false`
(the reference promotion rule): in every bucket, a row flagged `latest` carries the greatest
`wrote` sequence number among the rows of its key — "the current version is the most recently
written version that still exists" (C02). `WRows` is closed under the row edits the operations make
(`wrows_closed`), so every operation preserves it; the `Pithos.C02` block at the end states it for all
histories (`reachable_winv`), and Props/C02 reads `latest_is_newest` off that. With
`promoteByCreated = true` (the code today) the invariant fails; the witness is in Props/C02.
-/
import Pithos.Lemmas.S3Step

namespace Pithos.S3

structure WRows (clock : Nat) (rows : List Row) : Prop where
  le  : ∀ r ∈ rows, r.wrote ≤ clock
  max : ∀ r ∈ rows, r.latest = true → ∀ r' ∈ rows, r'.key = r.key → r'.wrote ≤ r.wrote

def WInv (s : State) : Prop := ∀ bk ∈ s.buckets, WRows s.clock bk.rows

theorem WRows.nil (c : Nat) : WRows c [] := ⟨by simp, by simp⟩

theorem WRows.mono {c d : Nat} {rows : List Row} (h : WRows c rows) (hcd : c ≤ d) : WRows d rows :=
  ⟨fun r hr => Nat.le_trans (h.le r hr) hcd, h.max⟩

theorem WRows.filter {c : Nat} {rows : List Row} (h : WRows c rows) (f : Row → Bool) : WRows c (rows.filter f) :=
  ⟨fun r hr => h.le r (List.mem_filter.1 hr).1,
   fun r hr hl r' hr' hk => h.max r (List.mem_filter.1 hr).1 hl r' (List.mem_filter.1 hr').1 hk⟩

theorem WRows.replace {c : Nat} {rows : List Row} (h : WRows c rows) {y : Row} (hle : y.wrote ≤ c)
    (hy : y.latest = true → ∀ x ∈ rows, x.key = y.key → x.wrote ≤ y.wrote)
    (hx : ∀ x ∈ rows, x.rowId ≠ y.rowId → x.latest = true → x.key = y.key → y.wrote ≤ x.wrote) :
    WRows c (repl rows y) := by
  refine ⟨forall_mem_repl h.le hle, fun z hz hzl z' hz' hzk => ?_⟩
  · rcases mem_repl hz with rfl | ⟨hzo, hzne⟩ <;> rcases mem_repl hz' with rfl | ⟨hzo', _⟩
    · exact Nat.le_refl _
    · exact hy hzl z' hzo' hzk
    · exact hx z hzo hzne hzl hzk.symm
    · exact h.max z hzo hzl z' hzo' hzk

theorem WRows.add {c : Nat} {rows : List Row} (h : WRows c rows) {y : Row}
    (hw : y.wrote = c) (hz : lc rows y.key = 0) : WRows c (rows ++ [y]) := by
  have hno := lc_eq_zero.1 hz
  refine ⟨?_, ?_⟩
  · intro z hz'
    rcases List.mem_append.1 hz' with hz'' | hz''
    · exact h.le z hz''
    · simp at hz''; subst hz''; omega
  · intro z hz' hzl z' hz'' hzk
    rcases List.mem_append.1 hz' with hzo | hzy
    · rcases List.mem_append.1 hz'' with hzo' | hzy'
      · exact h.max z hzo hzl z' hzo' hzk
      · simp at hzy'; subst hzy'; exact absurd hzk.symm (hno z hzo hzl)
    · simp at hzy; subst hzy
      rcases List.mem_append.1 hz'' with hzo' | hzy'
      · rw [hw]; exact h.le z' hzo'
      · simp at hzy'; subst hzy'; exact Nat.le_refl _

theorem wrows_closed {q : Quirks} (hq : q.promoteByCreated = false) : RowsClosed q (fun _ _ c rows => WRows c rows) where
  nil := fun _ _ c => WRows.nil c
  mono := fun _ _ hc h => h.mono hc
  edit := fun e hb h => by
    cases e with
    | @save r l _ _ _ hr hk hl =>
      refine h.replace (h.le r hr) (fun hyl x hx hxk => ?_) fun x hx _ hxl hxk => ?_
      · -- the flag is up: `r` had it, or is the newest row of its key
        rcases hl hyl with hrl | ⟨_, hmax⟩
        · exact h.max r hr hrl x hx hxk
        · have : x.wrote ≤ r.wrote := by simpa only [promKey, hq, Bool.false_eq_true, if_false] using hmax x hx (hxk.trans hk)
          exact this
      · exact h.max x hx hxl r hr hxk.symm
    | over hr hk _ hid hyk _ _ _ hw hone =>
      -- `y` is written now; an old flagged row of its key is `r` itself, which has been replaced, or there is none
      refine h.replace (Nat.le_of_eq hw) (fun _ x hx _ => by rw [hw]; exact h.le x hx) fun x hx hne hxl hxk => ?_
      rcases hone with hl | hz
      · exact absurd (by rw [hb.latest_unique hx hr (hxk.trans (hyk.trans hk.symm)) hxl hl, hid]) hne
      · exact absurd (hxk.trans hyk) (lc_eq_zero.1 hz x hx hxl)
    | drop => exact h.filter _
    | add _ hyk _ hw hz => exact h.add hw (hyk ▸ hz)

end Pithos.S3

namespace Pithos.C02
open Pithos.S3

theorem reachable_winv (q : Quirks) (hq : q.promoteByCreated = false) (ops : List Op) :
    Inv (run q {} ops).1 ∧ WInv (run q {} ops).1 :=
  (wrows_closed hq).reachable ops

end Pithos.C02
