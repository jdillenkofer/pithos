/-
In every bucket (key, version id) pairs are pairwise distinct and version ids are below the counter
(`VRows`), so a version id addresses at most one row in every reachable state (`VInv`). `VRows` is
closed under the row edits the operations make (`vrows_closed`): rows are saved again under their key
and version id or removed, and the one row an operation may append is a null version of a key that
has none or carries the fresh version id (for the append behaviour since /repo 8a5dc41).
-/
import Pithos.Lemmas.S3Step

namespace Pithos.S3

def kv (r : Row) : String × Option Nat := (r.key, r.vid)

structure VRows (nv : Nat) (rows : List Row) : Prop where
  nodup : (rows.map kv).Nodup
  fresh : ∀ r ∈ rows, ∀ v, r.vid = some v → v < nv

theorem VRows.nil (nv : Nat) : VRows nv [] := ⟨by simp, by simp⟩

theorem VRows.mono {nv nv' : Nat} {rows : List Row} (h : VRows nv rows) (hle : nv ≤ nv') : VRows nv' rows :=
  ⟨h.nodup, fun r hr v hv => Nat.lt_of_lt_of_le (h.fresh r hr v hv) hle⟩

theorem VRows.filter {nv : Nat} {rows : List Row} (h : VRows nv rows) (f : Row → Bool) : VRows nv (rows.filter f) :=
  ⟨(List.filter_sublist.map kv).nodup h.nodup, fun r hr => h.fresh r (List.mem_filter.1 hr).1⟩

theorem VRows.replace {nv n : Nat} {rows : List Row} (h : VRows nv rows) (hb : RowsInv n rows) {r y : Row} (hr : r ∈ rows)
    (hid : y.rowId = r.rowId) (hk : y.key = r.key) (hv : y.vid = r.vid) : VRows nv (repl rows y) := by
  refine ⟨?_, forall_mem_repl h.fresh (by rw [hv]; exact h.fresh r hr)⟩
  rw [map_repl kv rows y fun x hx hxy => by rw [eq_of_id_eq hb.nodup hx hr (hxy.trans hid)]; exact (Prod.ext hk hv).symm]
  exact h.nodup

theorem VRows.add {nv nv' : Nat} {rows : List Row} {y : Row} (h : VRows nv rows)
    (hy : (y.vid = some nv ∧ nv' = nv + 1) ∨ (y.vid = none ∧ nv' = nv ∧ ∀ x ∈ rows, x.key = y.key → x.vid ≠ none)) :
    VRows nv' (rows ++ [y]) := by
  have hle : nv ≤ nv' := by rcases hy with ⟨_, rfl⟩ | ⟨_, rfl, _⟩ <;> omega
  refine ⟨?_, fun r hr v hv => ?_⟩
  · rw [List.map_append, List.map_singleton, List.nodup_append]
    refine ⟨h.nodup, by simp, ?_⟩
    intro a ha b hb e
    simp only [List.mem_singleton] at hb
    subst hb
    obtain ⟨x, hx, rfl⟩ := List.mem_map.1 ha
    have hxv : x.vid = y.vid := congrArg Prod.snd e
    rcases hy with ⟨hv, _⟩ | ⟨hv, _, hno⟩
    · exact Nat.lt_irrefl _ (h.fresh x hx nv (hxv.trans hv))
    · exact hno x hx (congrArg Prod.fst e) (hxv.trans hv)
  · rcases List.mem_append.1 hr with hr | hr
    · exact Nat.lt_of_lt_of_le (h.fresh r hr v hv) hle
    · rw [List.mem_singleton.1 hr] at hv
      rcases hy with ⟨hv', rfl⟩ | ⟨hn, _, _⟩
      · rw [hv'] at hv; cases hv; exact Nat.lt_succ_self _
      · rw [hn] at hv; cases hv

theorem vrows_closed {q : Quirks} (hq : q.appendLatestInPlace = false) : RowsClosed q (fun _ nv _ rows => VRows nv rows) where
  nil := fun _ nv _ => VRows.nil nv
  mono := fun _ hle _ h => h.mono hle
  edit := fun e hb h => by
    cases e with
    | save _ _ _ _ hr => exact h.replace hb hr rfl rfl rfl
    | over hr hk _ hid hyk hv => exact h.replace hb hr hid (hyk.trans hk.symm) hv
    | drop => exact h.filter _
    | add _ hyk _ _ _ hy =>
      exact h.add (hy.imp id fun ⟨hv, _, hnv, hno⟩ => ⟨hv, hnv, hyk ▸ hno.resolve_right (by rw [hq]; exact Bool.noConfusion)⟩)

/-- In every bucket (key, version id) pairs are pairwise distinct; version ids are below the counter. -/
def VInv (s : State) : Prop := ∀ bk ∈ s.buckets, VRows s.nextVid bk.rows

theorem rowByVid_of_mem {bk : Bucket} {nv : Nat} (hv : VRows nv bk.rows) {r : Row} (hr : r ∈ bk.rows) :
    rowByVid bk r.key r.vid = some r :=
  find?_of_unique hr (by simp) fun x hx hp => by
    simp only [Bool.and_eq_true, beq_iff_eq] at hp
    exact eq_of_map_eq hv.nodup hx hr (Prod.ext hp.1 hp.2)

end Pithos.S3
