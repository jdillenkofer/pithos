/-
Listings of the storage model agree with reads: `sortBy` is a permutation, so a listing shows
exactly the rows it selects — no entry lost, none duplicated (`list_out`, `listVersions_out`), and a key has
a listed row exactly when a read of its current version resolves (`listed_iff_resolve`).
-/
import Pithos.Lemmas.S3Inv

namespace Pithos.S3

theorem sortBy_perm {α : Type} (lt : α → α → Bool) (l : List α) : (sortBy lt l).Perm l := (isSort lt).perm l

/-- The rows a plain listing shows: current, not a delete marker. -/
def listed (bk : Bucket) : List Row := bk.rows.filter fun r => r.latest && !r.dm

theorem mem_listed {bk : Bucket} {r : Row} : r ∈ listed bk ↔ r ∈ bk.rows ∧ r.latest = true ∧ r.dm = false := by
  simp [listed]

theorem list_out {q : Quirks} {s : State} {b : String} {bk : Bucket} (hfb : findBucket s b = some bk) :
    (step q s (.list b)).2 = .listing ((sortBy (fun a b => a.key < b.key) (listed bk)).map
      fun r => (r.key, r.size, r.etag, r.cls)) := by
  rw [step_eq_stepT, stepT_list_eq, withB, findBucket_tick, hfb]
  rfl

theorem listVersions_out {q : Quirks} {s : State} {b : String} {bk : Bucket} (hfb : findBucket s b = some bk) :
    (step q s (.listVersions b)).2 = .versions ((sortBy verLt bk.rows).map fun r =>
      { key := r.key, vid := r.vid, latest := r.latest, dm := r.dm, size := r.size, updated := r.updated,
        rowId := r.rowId, cls := r.cls }) := by
  rw [step_eq_stepT, stepT_listVersions_eq, withB, findBucket_tick, hfb]

theorem listed_iff_resolve {n : Nat} {bk : Bucket} (hb : RowsInv n bk.rows) (k : String) :
    (∃ r ∈ listed bk, r.key = k) ↔ ∃ r, resolve bk k none = .ok r := by
  constructor
  · rintro ⟨r, hr, hk⟩
    obtain ⟨hm, hl, hd⟩ := mem_listed.1 hr
    exact ⟨r, resolve_none_ok.2 ⟨latestRow_eq_of_unique (hb.one k) hm hk hl, hd⟩⟩
  · rintro ⟨r, hres⟩
    obtain ⟨hl, hd⟩ := resolve_none_ok.1 hres
    obtain ⟨hm, hk, hlat⟩ := latestRow_some hl
    exact ⟨r, mem_listed.2 ⟨hm, hlat, hd⟩, hk⟩

/-- Both sides count: a key occurs among the listed rows at most as often as it has current rows. -/
theorem listed_keys_nodup {n : Nat} {bk : Bucket} (hb : RowsInv n bk.rows) : ((listed bk).map (·.key)).Nodup := by
  rw [List.nodup_iff_count]
  intro k
  refine Nat.le_trans ?_ (hb.one k)
  rw [List.count_eq_countP, List.countP_map, listed, List.countP_filter]
  refine List.countP_mono_left fun r _ hr => ?_
  simp only [Function.comp, Bool.and_eq_true, beq_iff_eq] at hr ⊢
  exact ⟨hr.1.symm ▸ rfl, hr.2.1⟩

end Pithos.S3
