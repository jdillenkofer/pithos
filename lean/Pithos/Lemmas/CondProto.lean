/-
Helper lemmas for C07: the invariants of `Pithos.CondProto` that the two safety theorems of `Pithos.Props.C07`
read off. `Inv`: one If-Match writer against an arbitrary environment, for code-path shapes whose
lock-supplying read is a compared read (`Spec.Safe`). `InvI`: the create-if-absent writer.
-/
import Pithos.Model.CondProto
namespace Pithos.CondProto

/-- The shape condition: the read that supplies (id, version) of the guarded statement exists and its
ETag was compared with the If-Match value. -/
def Spec.Safe (sp : Spec) : Prop := sp.compared.contains sp.lockGen = true ∧ 1 ≤ sp.lockGen ∧ sp.lockGen ≤ sp.reads

instance (sp : Spec) : Decidable sp.Safe := by unfold Spec.Safe; exact inferInstance

/-- A register is consistent with the database: its id is not fresh, and if the row still has that
id, the row's version is at least the register's, with equality only for the same row.
(`MetaFine.RegOK`, over this model's own `Db` and `Cell`; the two models share no type.) -/
def RegOK (d : Db) (c : Cell) : Prop :=
  c.id < d.nextId ∧ ∀ r, d.row = some r → r.id = c.id → c.ver ≤ r.ver ∧ (c.ver = r.ver → r = c)

structure Inv (sp : Spec) (e : List Nat) (d : Db) (w : Writer) : Prop where
  rowId : ∀ r, d.row = some r → r.id < d.nextId
  /-- Once the lock-supplying read is done the lock register holds a row, which passed the
  comparison with the If-Match value and is consistent with the database. -/
  lock : sp.lockGen ≤ w.pc → ∃ c, w.lockSeen = some (some c) ∧ c.parts = e ∧ RegOK d c
  pcle : w.pc ≤ sp.reads
  done : ∀ b, w.st = .committed b → ∃ c, b = some c ∧ c.parts = e

theorem Inv.change {sp : Spec} {e : List Nat} {d d' : Db} {w : Writer} (h : Inv sp e d w)
    (hrow : ∀ r, d'.row = some r → r.id < d'.nextId) (hreg : ∀ c, RegOK d c → RegOK d' c) :
    Inv sp e d' w :=
  ⟨hrow, fun hle => let ⟨c, hs, hp, hc⟩ := h.lock hle; ⟨c, hs, hp, hreg c hc⟩, h.pcle, h.done⟩

theorem inv_env {sp : Spec} {e : List Nat} {d : Db} {w : Writer} (h : Inv sp e d w) (c : Change) :
    Inv sp e (applyChange d c) w := by
  cases c with
  | update bump parts =>
    cases hr : d.row with
    | none => simpa [applyChange, hr] using h
    | some r =>
      refine h.change ?_ fun c hc => ?_
      · intro r' hr'
        simp only [applyChange, hr, Option.some.injEq] at hr'
        subst hr'
        simpa [applyChange, hr] using h.rowId r hr
      · refine ⟨by simpa [applyChange, hr] using hc.1, ?_⟩
        intro r' hr' hid
        simp only [applyChange, hr, Option.some.injEq] at hr'
        subst hr'
        have h2 := hc.2 r hr hid
        simp only at hid ⊢
        constructor
        · omega
        · intro heq; omega
  | delete =>
    refine h.change ?_ fun c hc => ⟨hc.1, ?_⟩
    · intro r hr; simp [applyChange] at hr
    · intro r hr; simp [applyChange] at hr
  | insert parts =>
    cases hr : d.row with
    | some r => simpa [applyChange, hr] using h
    | none =>
      refine h.change ?_ fun c hc => ?_
      · intro r' hr'
        simp only [applyChange, hr, Option.some.injEq] at hr'
        subst hr'
        simp [applyChange, hr]
      · have := hc.1
        refine ⟨by simp only [applyChange, hr]; omega, ?_⟩
        intro r' hr' hid
        simp only [applyChange, hr, Option.some.injEq] at hr'
        subst hr'
        simp only at hid
        omega

theorem guard_iff (c : Cell) (d : Db) :
    guard c d = true ↔ ∃ r, d.row = some r ∧ r.id = c.id ∧ r.ver = c.ver := by
  unfold guard
  cases d.row <;> simp

theorem inv_a {sp : Spec} {e : List Nat} (new : List Nat) {d : Db} {w : Writer} (hs : sp.Safe) (h : Inv sp e d w) :
    Inv sp e (stepA sp e new d w).1 (stepA sp e new d w).2 := by
  obtain ⟨hc, h1, h2⟩ := hs
  unfold stepA
  cases hst : w.st with
  | failed => simpa [hst] using h
  | committed b => simpa [hst] using h
  | running =>
    simp only
    by_cases hpc : w.pc < sp.reads
    · simp only [hpc, if_true]
      by_cases hfail : (sp.compared.contains (w.pc + 1) && !hasEtag e d.row) = true
      · simp only [hfail, if_true]
        exact ⟨h.rowId, h.lock, h.pcle, nofun⟩
      · simp only [hfail, Bool.false_eq_true, if_false]
        by_cases hg : (w.pc + 1 == sp.lockGen) = true
        · -- the lock-supplying read: it is a compared read, so the row is there and has the named parts
          have hg' : w.pc + 1 = sp.lockGen := by simpa using hg
          simp only [hg, if_true]
          refine ⟨h.rowId, fun _ => ?_, Nat.succ_le_of_lt hpc, nofun⟩
          rw [hg', hc] at hfail
          cases hr : d.row with
          | none => simp [hr, hasEtag] at hfail
          | some r =>
            refine ⟨r, rfl, by simpa [hr, hasEtag] using hfail, h.rowId r hr, fun r' hr' _ => ?_⟩
            cases hr.symm.trans hr'
            exact ⟨Nat.le_refl _, fun _ => rfl⟩
        · simp only [hg, Bool.false_eq_true, if_false]
          have hne : w.pc + 1 ≠ sp.lockGen := by simpa using hg
          exact ⟨h.rowId, fun (hle : sp.lockGen ≤ w.pc + 1) => h.lock (by omega), Nat.succ_le_of_lt hpc, nofun⟩
    · simp only [hpc, if_false]
      have hpc' : w.pc = sp.reads := by have := h.pcle; omega
      obtain ⟨c, hls, hce, hreg⟩ := h.lock (by omega)
      simp only [hls]
      by_cases hgd : guard c d = true
      · simp only [hgd, if_true]
        -- the guarded statement matched: the current row is exactly the row that was read and compared
        obtain ⟨r, hr, hid, hver⟩ := (guard_iff c d).1 hgd
        have hrc : r = c := (hreg.2 r hr hid).2 hver.symm
        refine ⟨?_, fun _ => ⟨c, rfl, hce, hreg.1, ?_⟩, h.pcle, ?_⟩
        · intro r' hr'
          cases hr'
          exact hreg.1
        · intro r' hr' _
          cases hr'
          exact ⟨Nat.le_add_right _ _, fun heq => absurd heq (by simp only; omega)⟩
        · intro b hb
          cases hb
          exact ⟨r, hr, hrc ▸ hce⟩
      · simp only [hgd, Bool.false_eq_true, if_false]
        exact ⟨h.rowId, fun _ => ⟨c, rfl, hce, hreg⟩, h.pcle, nofun⟩

theorem inv_run {sp : Spec} {e : List Nat} (new : List Nat) (hs : sp.Safe) (evs : List Ev) {s : Db × Writer}
    (h : Inv sp e s.1 s.2) : Inv sp e (run sp e new s evs).1 (run sp e new s evs).2 :=
  List.foldlRecOn (motive := fun s : Db × Writer => Inv sp e s.1 s.2) evs _ h fun _ h ev _ => by
    cases ev with
    | a => exact inv_a new hs h
    | env c => exact inv_env h c

theorem inv_init (sp : Spec) (e : List Nat) (d : Db) (hs : sp.Safe) (hd : ∀ r, d.row = some r → r.id < d.nextId) :
    Inv sp e d {} := by
  refine ⟨hd, fun hle => ?_, Nat.zero_le _, nofun⟩
  have : sp.lockGen ≤ 0 := hle
  have := hs.2.1
  omega

/-- With `guardFresh = true` the last guard refuses whenever the null-version read finds a row, so
the writer never holds one: the branch of `stepInm` that overwrites what was read is dead, and only
the insert, which the unique index admits on an absent key alone, commits. -/
structure InvI (w : InmWriter) : Prop where
  nullNone : w.nullSeen = none
  done : ∀ b, w.st = .committed b → b = none

theorem invI_step (reads : Nat) (new : List Nat) (d : Db) (w : InmWriter) (h : InvI w) :
    InvI (stepInm reads true new d w).2 := by
  unfold stepInm
  cases hst : w.st with
  | failed => simpa [hst] using h
  | committed b => simpa [hst] using h
  | running =>
    simp only
    by_cases h1 : w.pc < reads
    · simp only [h1, if_true]
      split
      · exact ⟨h.nullNone, nofun⟩
      · exact ⟨h.nullNone, nofun⟩
    · simp only [h1, if_false]
      by_cases h2 : (w.pc == reads) = true
      · simp only [h2, if_true, Bool.true_and]
        cases hr : d.row with
        | none => exact ⟨by simp, nofun⟩
        | some r => exact ⟨by simpa using h.nullNone, nofun⟩
      · simp only [h2, Bool.false_eq_true, if_false]
        rw [h.nullNone]
        simp only
        cases hr : d.row with
        | none => exact ⟨by simp, by intro b hb; simp at hb; exact hb.symm⟩
        | some r => exact ⟨by simp, nofun⟩

theorem invI_run (reads : Nat) (new : List Nat) (evs : List Ev) (s : Db × InmWriter) (h : InvI s.2) :
    InvI (runInm reads true new s evs).2 :=
  List.foldlRecOn (motive := fun s : Db × InmWriter => InvI s.2) evs _ h fun s h ev _ => by
    cases ev with
    | a => exact invI_step reads new s.1 s.2 h
    | env c => exact h

end Pithos.CondProto
