/-
C13 core: an existing non-null version never changes. For every operation other than the explicit
delete of that very version and, while the bucket is unversioned, a key-only delete of its key, a row with
a version id is still present afterwards with the same key, version id, delete-marker flag, parts
(content, size) and ETag — and, when Last-Modified is not bumped by mere row saves
(`touchOnAnySave = false`), the same `updated` value (`version_frozen_T`, for the append behaviour
since /repo 8a5dc41). `KeepsRow q r rows` says that `r` survives in `rows` up to those fields; an
edit keeps it unless it may remove or overwrite `r` (`Edit.keepsRow`), and no operation but those deletes may.
-/
import Pithos.Lemmas.S3Step

namespace Pithos.S3

def frozenEq (q : Quirks) (a b : Row) : Prop :=
  a.rowId = b.rowId ∧ a.key = b.key ∧ a.vid = b.vid ∧ a.dm = b.dm ∧ a.parts = b.parts ∧ a.etag = b.etag ∧
    (q.touchOnAnySave = false → a.updated = b.updated)

theorem frozenEq.refl (q : Quirks) (a : Row) : frozenEq q a a := ⟨rfl, rfl, rfl, rfl, rfl, rfl, fun _ => rfl⟩

theorem frozenEq.trans {q : Quirks} {a b c : Row} (h1 : frozenEq q a b) (h2 : frozenEq q b c) : frozenEq q a c :=
  ⟨h1.1.trans h2.1, h1.2.1.trans h2.2.1, h1.2.2.1.trans h2.2.2.1, h1.2.2.2.1.trans h2.2.2.2.1,
   h1.2.2.2.2.1.trans h2.2.2.2.2.1, h1.2.2.2.2.2.1.trans h2.2.2.2.2.2.1,
   fun hq => (h1.2.2.2.2.2.2 hq).trans (h2.2.2.2.2.2.2 hq)⟩

/-- `r` survives in `rows'` up to the frozen fields. -/
def KeepsRow (q : Quirks) (r : Row) (rows' : List Row) : Prop := ∃ r' ∈ rows', frozenEq q r r'

theorem keeps_self {q : Quirks} {r : Row} {rows : List Row} (h : r ∈ rows) : KeepsRow q r rows := ⟨r, h, frozenEq.refl q r⟩

theorem keeps_append {q : Quirks} {r : Row} {rows : List Row} (y : Row) (h : KeepsRow q r rows) : KeepsRow q r (rows ++ [y]) := by
  obtain ⟨r', hr', he⟩ := h
  exact ⟨r', List.mem_append_left _ hr', he⟩

theorem keeps_repl {q : Quirks} {r c y : Row} {rows : List Row} {n : Nat} (hb : RowsInv n rows) (h : KeepsRow q r rows)
    (hc : c ∈ rows) (hid : y.rowId = c.rowId) (hy : frozenEq q r c → frozenEq q r y) : KeepsRow q r (repl rows y) := by
  obtain ⟨r', hr', he⟩ := h
  by_cases hid' : r'.rowId = y.rowId
  · obtain rfl : r' = c := eq_of_id_eq hb.nodup hr' hc (hid'.trans hid)
    exact ⟨y, mem_repl_same hr' hid', hy he⟩
  · exact ⟨r', mem_repl_other hr' hid', he⟩

theorem ids_nodup_of_keeps {rows : List Row} {n : Nat} (h : RowsInv n rows) : (ids rows).Nodup := h.nodup

theorem Edit.keepsRow {q : Quirks} {now : Nat} {k : String} {A : Row → Prop} {nr nv nr' nv' : Nat} {rows rows' : List Row}
    {r : Row} (hA : ∀ c : Row, c.key = k → frozenEq q r c → ¬ A c) (e : Edit q now k A nr nv rows nr' nv' rows')
    (hb : RowsInv nr rows) (h : KeepsRow q r rows) : KeepsRow q r rows' := by
  cases e with
  | save l t cl sb hc =>
    exact keeps_repl hb h hc rfl fun he => he.trans ⟨rfl, rfl, rfl, rfl, rfl, rfl, fun hq => by simp [touch, hq]⟩
  | over hc hk ha hid => exact keeps_repl hb h hc hid fun he => absurd ha (hA _ hk he)
  | @drop c hc hk ha =>
    obtain ⟨r', hr', he⟩ := h
    refine ⟨r', List.mem_filter.2 ⟨hr', ?_⟩, he⟩
    simp only [bne_iff_ne, ne_eq]
    intro hid
    exact hA c hk (eq_of_id_eq hb.nodup hr' hc hid ▸ he) ha
  | add => exact keeps_append _ h

/-- Nothing stored changes, or the bucket is replaced by one of the same name that keeps `r`
(the latter under the side conditions `C`). -/
def KShape (q : Quirks) (s : State) (bk : Bucket) (r : Row) (C : Prop) (st : State) : Prop :=
  st.buckets = s.buckets ∨ ∃ X, st.buckets = (setBucket s X).buckets ∧ X.name = bk.name ∧ (C → KeepsRow q r X.rows)

/-- Deletes that are not the explicit delete of version `r` keep `r`: explicit deletes of other
versions (including the promotion of `r` to current, a row save), and key-only deletes in a
versioned bucket (delete marker added, null version possibly removed). -/
theorem deleteOp_keeps (q : Quirks) (s : State) (bk : Bucket) (k' : String) (vid : Option (Option Nat)) (im : IfMatch)
    (r : Row) :
    KShape q s bk r (RowsInv s.nextRow bk.rows ∧ r ∈ bk.rows ∧ r.vid ≠ none ∧ (vid = none → bk.ver = .off → k' ≠ r.key) ∧
        ¬(k' = r.key ∧ vid = some r.vid)) (deleteOp q s bk k' vid im).1 := by
  rcases (deleteOp_eff q s bk k' vid im).edited (A := fun c => vid = some c.vid ∨ c.vid = none ∨ (vid = none ∧ bk.ver = .off))
    (fun _ => id) with h | ⟨X, nr, nv, h, hX, he⟩
  · exact .inl (by rw [h])
  · refine .inr ⟨X, by rw [h], hX, fun ⟨hb, hr, hvn, hk, hnot⟩ =>
      ((he hb).keeps (P := fun _ _ rows => KeepsRow q r rows) (Edit.keepsRow fun c hck he ha => ?_) hb (keeps_self hr)).2⟩
    have hkey : k' = r.key := (he.2.1.trans hck).symm
    rcases ha with h1 | h2 | ⟨h3, h4⟩
    · exact hnot ⟨hkey, by rw [h1, he.2.2.1]⟩
    · exact hvn (he.2.2.1.trans h2)
    · exact hk h3 h4 hkey

/-- Bucket `b` exists in `st` and keeps `r`. -/
def Good (q : Quirks) (b : String) (r : Row) (st : State) : Prop :=
  ∃ bk', findBucket st b = some bk' ∧ KeepsRow q r bk'.rows

theorem good_update {q : Quirks} {b : String} {r : Row} {s st' : State} {bk bk1 X : Bucket} {b' : String}
    (hfb : findBucket s b = some bk) (hr : KeepsRow q r bk.rows)
    (hfb' : findBucket s b' = some bk1) (hX : X.name = bk1.name) (hst : st'.buckets = (setBucket s X).buckets)
    (hk : b' = b → bk1 = bk → KeepsRow q r X.rows) : Good q b r st' := by
  unfold Good
  rw [findBucket_replaced hfb' hX hst]
  split
  · next h => subst h; exact ⟨X, rfl, hk rfl (Option.some.inj (hfb'.symm.trans hfb))⟩
  · exact ⟨bk, hfb, hr⟩

theorem good_eff {q : Quirks} (hq : q.appendLatestInPlace = false) {s s' : State} (hinv : Inv s) {op : Op}
    {b : String} {bk : Bucket} {r : Row} (hfb : findBucket s b = some bk) (hr : r ∈ bk.rows) (hv : r.vid ≠ none)
    (hdel : ∀ b' k' vid im, op = .del b' k' vid im → b' = b →
      ¬(k' = r.key ∧ vid = some r.vid) ∧ (vid = none → bk.ver = .off → k' ≠ r.key))
    {o : Out} (e : Eff q s op s' o) : Good q b r s' := by
  have hkr : KeepsRow q r bk.rows := keeps_self hr
  have hbinv := hinv bk (findBucket_mem hfb)
  cases e with
  | same => exact ⟨bk, hfb, hkr⟩
  | mkb b' _ =>
    -- a new bucket is appended; the bucket found first under b is unchanged
    exact ⟨bk, by rw [findBucket_mkb, hfb]; rfl, hkr⟩
  | @rmb b' bk1 hfb' hempty =>
    -- the bucket removed has no rows: it is not ours
    have hbb : b' ≠ b := by
      intro e; subst e
      rw [hfb] at hfb'; injection hfb' with e
      rw [e, hempty] at hr; cases hr
    exact ⟨bk, by rw [findBucket_rmb_ne hbb]; exact hfb, hkr⟩
  | aside _ u hfb' hn hr' =>
    exact good_update hfb hkr hfb' hn rfl (fun _ h => by rw [hr', h]; exact hkr)
  | @resave _ b' _ _ _ bk1 c hrs hfb' hres =>
    refine good_update hfb hkr hfb' (X := replaceRow bk1 _) rfl rfl (fun _ hb1 => ?_)
    subst hb1
    obtain ⟨t, cl, sb, hf⟩ := hrs.save c
    rw [hf]
    exact Edit.keepsRow (A := fun _ => False) (nv := 0) (fun _ _ _ => id)
      (.save c.latest t cl sb (resolve_mem hres) rfl .inl) hbinv hkr
  | @rows _ b' k' bk1 _ _ hw hfb' e =>
    rcases e.edited (hinv _ (findBucket_mem hfb')) with rfl | ⟨X, nr, nv, rfl, hX, he⟩
    · exact ⟨bk, hfb, hkr⟩
    · refine good_update hfb hkr hfb' hX rfl (fun hbb hb1 => ?_)
      subst hb1
      refine ((he hbinv).keeps (P := fun _ _ rows => KeepsRow q r rows) (Edit.keepsRow fun c hck hf ha => ?_) hbinv hkr).2
      -- `r` has a version id, and the call is not the delete of that version
      rcases ha with h | h | ⟨b2, k2, vid, im, rfl, h⟩
      · exact hv (hf.2.2.1.trans h)
      · rw [hq] at h; cases h
      · obtain ⟨d1, d2⟩ := hdel b2 k2 vid im rfl (hw.1.trans hbb)
        have hkey : k2 = r.key := hw.2.trans (hf.2.1.trans hck).symm
        rcases h with h | ⟨h1, h2⟩
        · exact d1 ⟨hkey, by rw [h, hf.2.2.1]⟩
        · exact d2 h1 h2 hkey

/-- `version_frozen`, on a state whose clock has been advanced: every operation keeps a row that has a
version id (frozen fields), except the explicit delete of that version and, in an unversioned bucket, the
key-only delete of its key (`hdel`). -/
theorem version_frozen_T (q : Quirks) (hq : q.appendLatestInPlace = false) (s : State) (hinv : Inv s) (op : Op)
    (b : String) (bk : Bucket) (r : Row) (hfb : findBucket s b = some bk)
    (hr : r ∈ bk.rows) (hv : r.vid ≠ none)
    (hdel : ∀ b' k' vid im, op = .del b' k' vid im → b' = b →
      ¬(k' = r.key ∧ vid = some r.vid) ∧ (vid = none → bk.ver = .off → k' ≠ r.key)) :
    Good q b r (stepT q s op).1 :=
  good_eff hq hinv hfb hr hv hdel (stepT_eff q s op)

end Pithos.S3
