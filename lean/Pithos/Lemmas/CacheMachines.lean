/-
The two atomic-step machines of C19, GenericCache over a persistor (`Conc`) and the cache part store (`Part`),
go the same way: what a thread holds locally is named (`handle`, `claim`), one step is characterised once by a
relation `TStep` over shared state and local value (`stepThread_spec`), the invariant is shown per kind of step
(`TStep.inv`) and carried along every schedule (`run_ginv`). For `Part` also one call run from its first to its
last step (`runToEnd_fresh`): what it does to coherence, to the inner store and to the answers.
-/
import Pithos.Model.Cache
import Pithos.Lemmas.Assoc
import Pithos.Lemmas.ListFacts

namespace Pithos.C19
open Pithos.Cache

namespace Conc
open Pithos.Cache.Conc

/-- `x` is the complete value of a Set of `k` whose `persistor.Store` has finished. -/
def Good (comp : List (Key × Nat)) (k : Key) (x : Val) : Prop := ∃ v, x = .full v ∧ (k, v) ∈ comp

theorem good_mono {comp comp' : List (Key × Nat)} (h : ∀ p ∈ comp, p ∈ comp') {k : Key} {x : Val}
    (hg : Good comp k x) : Good comp' k x := by
  obtain ⟨v, h1, h2⟩ := hg
  exact ⟨v, h1, h _ h2⟩

/-- Safety for all interleavings over an atomic persistor: what the persistor holds and what Get callers were
handed are complete values of finished Sets of that key. -/
structure Inv (s : St) : Prop where
  store : ∀ p ∈ s.store, Good s.completed p.1 p.2
  ret   : ∀ p ∈ s.returned, Good s.completed p.1 p.2

/-- The handle a reader holds: the value it found under its key when it opened it. -/
def handle : Thread → Option (Key × Val)
  | .get k _ (some x) => some (k, x)
  | _ => none

/-- A reader's handle refers to a completely stored value. -/
def TInv (comp : List (Key × Nat)) (t : Thread) : Prop := ∀ p, handle t = some p → Good comp p.1 p.2

/-- One atomic step of a thread holding the handle `h`, over an atomic persistor: the new shared state
and the new handle, one constructor per kind of step. -/
inductive TStep (s : St) (h : Option (Key × Val)) : St → Option (Key × Val) → Prop
  | idle (h') (hh : ∀ p, h' = some p → h = some p) : TStep s h s h'
  | erase (e) : TStep s h { s with store := sErase s.store e } h
  | store (k v) :
      TStep s h { s with store := sInsert s.store k (.full v), completed := (k, v) :: s.completed } h
  | open_ (k x) (hx : sLookup s.store k = some x) : TStep s h s (some (k, x))
  | read (k y) (hy : h = some (k, y)) : TStep s h { s with returned := (k, y) :: s.returned } h

theorem TStep.stutter (s : St) (h : Option (Key × Val)) : TStep s h s h := .idle h fun _ hp => hp

theorem stepThread_spec (s : St) (t : Thread) :
    TStep s (handle t) (stepThread true s t).1 (handle (stepThread true s t).2) := by
  cases t with
  | set k v known fails ev pc =>
    cases pc with
    | evict =>
      simp only [stepThread]
      split
      · split
        · exact .erase _
        · exact .stutter _ _
      · exact .stutter _ _
    | trunc =>
      simp only [stepThread, if_true]
      split
      · exact .erase _
      · exact .store k v
    | fill =>
      simp only [stepThread]
      split
      · exact .erase _
      · exact .store k v
    | post =>
      simp only [stepThread]
      split
      · exact .stutter _ _
      · split
        · exact .erase _
        · exact .stutter _ _
    | done => exact .stutter _ _
  | get k pc seen =>
    cases pc with
    | open_ =>
      simp only [stepThread]
      split
      · exact .idle _ fun _ hp => nomatch hp
      · next x hx => exact .open_ k x hx
    | read =>
      cases seen with
      | none => exact .idle _ fun _ hp => nomatch hp
      | some y => exact .read k y rfl
    | done => exact .stutter _ _
  | remove k dn =>
    cases dn with
    | false => exact .erase _
    | true => exact .stutter _ _

theorem TStep.inv {s s' : St} {h h' : Option (Key × Val)} (st : TStep s h s' h') (hs : Inv s)
    (hh : ∀ p, h = some p → Good s.completed p.1 p.2) :
    Inv s' ∧ (∀ p, h' = some p → Good s'.completed p.1 p.2) ∧ (∀ p ∈ s.completed, p ∈ s'.completed) ∧
    s'.threads = s.threads := by
  cases st with
  | idle h' hh' => exact ⟨hs, fun p hp => hh p (hh' p hp), fun _ hp => hp, rfl⟩
  | erase e => exact ⟨⟨fun p hp => hs.store p (mem_erase hp), hs.ret⟩, hh, fun _ hp => hp, rfl⟩
  | store k v =>
    have mono : ∀ p ∈ s.completed, p ∈ (k, v) :: s.completed := fun p => List.mem_cons_of_mem _
    refine ⟨⟨fun p hp => ?_, fun p hp => good_mono mono (hs.ret p hp)⟩, fun p hp => good_mono mono (hh p hp), mono, rfl⟩
    rcases mem_insert hp with rfl | h0
    · exact ⟨v, rfl, List.mem_cons_self⟩
    · exact good_mono mono (hs.store p h0)
  | open_ k x hx =>
    -- the handle is what the persistor held at that moment
    refine ⟨hs, ?_, fun _ hp => hp, rfl⟩
    rintro p ⟨⟩
    exact hs.store _ (mem_of_lookup hx)
  | read k y hy =>
    refine ⟨⟨hs.store, fun p hp => ?_⟩, hh, fun _ hp => hp, rfl⟩
    rcases List.mem_cons.1 hp with rfl | hp
    · exact hh _ hy
    · exact hs.ret p hp

def GInv (s : St) : Prop := Inv s ∧ ∀ t ∈ s.threads, TInv s.completed t

theorem step_ginv (s : St) (i : Nat) (h : GInv s) : GInv (step true s i) := by
  unfold step
  cases hti : s.threads[i]? with
  | none => exact h
  | some t =>
    obtain ⟨h1, h2, h3, h4⟩ := (stepThread_spec s t).inv h.1 (h.2 t (List.mem_of_getElem? hti))
    exact ⟨⟨h1.store, h1.ret⟩,
      forall_mem_set (h4 ▸ h.2) (fun _ (ht : TInv s.completed _) p hp => good_mono h3 (ht p hp)) i h2⟩

theorem run_ginv (s : St) (sched : List Nat) (h : GInv s) : GInv (run true s sched) := by
  induction sched generalizing s with
  | nil => exact h
  | cons i is ih => exact ih _ (step_ginv s i h)

/-- A Get that has not yet opened anything. -/
def fresh : Thread → Prop
  | .get _ _ seen => seen = none
  | _ => True

theorem handle_fresh (t : Thread) (h : fresh t) : handle t = none := by
  cases t with
  | get k pc seen => cases h; rfl
  | set => rfl
  | remove => rfl

end Conc

namespace Part
open Pithos.Cache.Part

theorem lookup_insert (st : List (Nat × Nat)) (k v k' : Nat) :
    lookup (Cache.Part.insert st k v) k' = if k' = k then some v else lookup st k' :=
  Pithos.lookup_insert st k v k'

theorem lookup_erase (st : List (Nat × Nat)) (k k' : Nat) :
    lookup (erase st k) k' = if k' = k then none else lookup st k' :=
  Pithos.lookup_erase st k k'

/-- Safety for all interleavings: everything in the inner store, in the cache, in a reader's hands and
returned to callers was written by a PutPart under that id. -/
structure Inv (s : St) : Prop where
  inner : ∀ p ∈ s.inner, p ∈ s.puts
  cache : ∀ p ∈ s.cache, p ∈ s.puts
  ret   : ∀ id v, (id, some v) ∈ s.returned → (id, v) ∈ s.puts

/-- The pair a call holds and may still cache or return: the snapshot a GetPart read from the inner store,
the part of a PutPart once the inner store has it. -/
def claim : Thread → Option (Nat × Nat)
  | .get id _ _ sn => sn.map (id, ·)
  | .put _ _ 0 => none
  | .put id v (_ + 1) => some (id, v)
  | .delete _ _ _ => none

/-- A call's claim was written by a PutPart. -/
def TInv (puts : List (Nat × Nat)) (t : Thread) : Prop := ∀ p, claim t = some p → p ∈ puts

/-- One atomic step of a call holding the claim `c`: the new shared state and the new claim, one
constructor per kind of step. -/
inductive TStep (s : St) (c : Option (Nat × Nat)) : St → Option (Nat × Nat) → Prop
  | idle (c') (hc : ∀ p, c' = some p → c = some p) : TStep s c s c'
  | put (id v) :
      TStep s c { s with inner := Cache.Part.insert s.inner id v, puts := (id, v) :: s.puts } (some (id, v))
  | cacheSet (id v) (hc : c = some (id, v)) : TStep s c { s with cache := Cache.Part.insert s.cache id v } c
  | hit (id v) (hv : lookup s.cache id = some v) :
      TStep s c { s with returned := (id, some v) :: s.returned } c
  | readInner (id v) (hv : lookup s.inner id = some v) : TStep s c s (some (id, v))
  | notFound (id) : TStep s c { s with returned := (id, none) :: s.returned } none
  | fill (id v) (hc : c = some (id, v)) :
      TStep s c { s with cache := Cache.Part.insert s.cache id v, returned := (id, some v) :: s.returned } c
  | eraseInner (id) : TStep s c { s with inner := erase s.inner id } c
  | eraseCache (id) : TStep s c { s with cache := erase s.cache id } c

theorem TStep.stutter (s : St) (c : Option (Nat × Nat)) : TStep s c s c := .idle c fun _ hp => hp

theorem stepThread_spec (s : St) (t : Thread) :
    TStep s (claim t) (stepThread s t).1 (claim (stepThread s t).2) := by
  cases t with
  | put id v pc =>
    match pc with
    | 0 => exact .put id v
    | 1 => exact .cacheSet id v rfl
    | _ + 2 => exact .stutter _ _
  | get id fl pc sn =>
    cases pc with
    | lookup =>
      simp only [stepThread]
      split
      · next v hv => exact .hit id v hv
      · exact .stutter _ _
    | inner =>
      simp only [stepThread]
      split
      · next v hv => exact .readInner id v hv
      · exact .notFound id
    | fill =>
      cases sn with
      | none => exact .stutter _ _
      | some v =>
        cases fl with
        | true => exact .stutter _ _
        | false => exact .fill id v rfl
    | done => exact .stutter _ _
  | delete id cf pc =>
    match pc with
    | 0 =>
      cases cf
      · exact .eraseInner id
      · exact .eraseCache id
    | 1 =>
      cases cf
      · exact .eraseCache id
      · exact .eraseInner id
    | _ + 2 => exact .stutter _ _

theorem TStep.inv {s s' : St} {c c' : Option (Nat × Nat)} (st : TStep s c s' c') (hs : Inv s)
    (hcl : ∀ p, c = some p → p ∈ s.puts) :
    Inv s' ∧ (∀ p, c' = some p → p ∈ s'.puts) ∧ (∀ p ∈ s.puts, p ∈ s'.puts) ∧ s'.threads = s.threads := by
  obtain ⟨hi, hc, hr⟩ := hs
  have cacheIns : ∀ id v, (id, v) ∈ s.puts → ∀ p ∈ Cache.Part.insert s.cache id v, p ∈ s.puts := by
    intro id v hv p hp
    rcases mem_insert hp with rfl | h0
    · exact hv
    · exact hc p h0
  have retCons : ∀ id r, (∀ v, r = some v → (id, v) ∈ s.puts) →
      ∀ id' v', (id', some v') ∈ (id, r) :: s.returned → (id', v') ∈ s.puts := by
    intro id r hv id' v' hp
    rcases List.mem_cons.1 hp with h0 | hp
    · cases h0; exact hv v' rfl
    · exact hr id' v' hp
  cases st with
  | idle c' hc' => exact ⟨⟨hi, hc, hr⟩, fun p hp => hcl p (hc' p hp), fun _ hp => hp, rfl⟩
  | put id v =>
    have mono : ∀ p ∈ s.puts, p ∈ (id, v) :: s.puts := fun p => List.mem_cons_of_mem _
    refine ⟨⟨fun p hp => ?_, fun p hp => mono p (hc p hp), fun id' v' hp => mono _ (hr id' v' hp)⟩, ?_, mono, rfl⟩
    · rcases mem_insert hp with rfl | h0
      · exact List.mem_cons_self
      · exact mono p (hi p h0)
    · rintro p ⟨⟩; exact List.mem_cons_self
  | cacheSet id v hcv =>
    -- the after-commit hook caches what this very PutPart wrote to the inner store
    exact ⟨⟨hi, cacheIns id v (hcl _ hcv), hr⟩, hcl, fun _ hp => hp, rfl⟩
  | hit id v hv =>
    refine ⟨⟨hi, hc, retCons id (some v) ?_⟩, hcl, fun _ hp => hp, rfl⟩
    rintro _ ⟨⟩
    exact hc _ (mem_of_lookup hv)
  | readInner id v hv =>
    refine ⟨⟨hi, hc, hr⟩, ?_, fun _ hp => hp, rfl⟩
    rintro p ⟨⟩
    exact hi _ (mem_of_lookup hv)
  | notFound id => exact ⟨⟨hi, hc, retCons id none nofun⟩, nofun, fun _ hp => hp, rfl⟩
  | fill id v hcv =>
    refine ⟨⟨hi, cacheIns id v (hcl _ hcv), retCons id (some v) ?_⟩, hcl, fun _ hp => hp, rfl⟩
    rintro _ ⟨⟩
    exact hcl _ hcv
  | eraseInner id => exact ⟨⟨fun p hp => hi p (mem_erase hp), hc, hr⟩, hcl, fun _ hp => hp, rfl⟩
  | eraseCache id => exact ⟨⟨hi, fun p hp => hc p (mem_erase hp), hr⟩, hcl, fun _ hp => hp, rfl⟩

def GInv (s : St) : Prop := Inv s ∧ ∀ t ∈ s.threads, TInv s.puts t

theorem step_ginv (s : St) (i : Nat) (h : GInv s) : GInv (step s i) := by
  unfold step
  cases hti : s.threads[i]? with
  | none => exact h
  | some t =>
    obtain ⟨h1, h2, h3, h4⟩ := (stepThread_spec s t).inv h.1 (h.2 t (List.mem_of_getElem? hti))
    exact ⟨⟨h1.inner, h1.cache, h1.ret⟩,
      forall_mem_set (h4 ▸ h.2) (fun _ (ht : TInv s.puts _) p hp => h3 p (ht p hp)) i h2⟩

theorem run_ginv (s : St) (sched : List Nat) (h : GInv s) : GInv (run s sched) := by
  induction sched generalizing s with
  | nil => exact h
  | cons i is ih => exact ih _ (step_ginv s i h)

/-- A call that has not started yet. -/
def fresh : Thread → Prop
  | .put _ _ pc => pc = 0
  | .get _ _ pc sn => pc = .lookup ∧ sn = none
  | .delete _ _ pc => pc = 0

theorem claim_fresh (t : Thread) (h : fresh t) : claim t = none := by
  cases t with
  | put id v pc => cases h; rfl
  | get id fl pc sn => obtain ⟨_, rfl⟩ := h; rfl
  | delete => rfl

/-- Cache coherence between calls. -/
def Coh (s : St) : Prop := ∀ id v, lookup s.cache id = some v → lookup s.inner id = some v

/-- Does this GetPart end in an error? Only when it has to stream from the inner store (cache miss, the part
exists) and that stream breaks before EOF (`fl`). -/
def getFails (s : St) (id : Nat) (fl : Bool) : Bool :=
  fl && (lookup s.cache id).isNone && (lookup s.inner id).isSome

/-- What a sequential history must answer: every GetPart that answers at all answers what the inner store
holds under the id at that moment. -/
def spec : St → List Thread → List (Nat × Option Nat)
  | _, [] => []
  | s, t :: ts =>
    (match t with
     | .get id fl _ _ => if getFails s id fl then [] else [(id, lookup s.inner id)]
     | _ => []) ++ spec (runToEnd s t) ts

theorem runToEnd_get_eq (s : St) (id : Nat) (fl : Bool) : runToEnd s (.get id fl .lookup none) =
    match lookup s.cache id, lookup s.inner id with
    | some v, _ => { s with returned := (id, some v) :: s.returned }
    | none, none => { s with returned := (id, none) :: s.returned }
    | none, some v =>
      if fl then s else { s with cache := Cache.Part.insert s.cache id v, returned := (id, some v) :: s.returned } := by
  cases hl : lookup s.cache id with
  | some v => simp only [runToEnd, stepThread, hl]
  | none =>
    cases hin : lookup s.inner id with
    | none => simp only [runToEnd, stepThread, hl, hin]
    | some v => cases fl <;> simp only [runToEnd, stepThread, hl, hin, if_true, Bool.false_eq_true, if_false]

/-- The cache is right about `id`; `Coh s` says so of every id. -/
def CohAt (s : St) (id : Nat) : Prop := ∀ v, lookup s.cache id = some v → lookup s.inner id = some v

theorem runToEnd_fresh (s : St) (t : Thread) (hf : fresh t) :
    (∀ id', CohAt s id' → CohAt (runToEnd s t) id') ∧
    (runToEnd s t).inner = (match t with
      | .put id v _ => Cache.Part.insert s.inner id v
      | .get _ _ _ _ => s.inner
      | .delete id _ _ => erase s.inner id) ∧
    (Coh s → (runToEnd s t).returned = (match t with
      | .get id fl _ _ => if getFails s id fl then s.returned else (id, lookup s.inner id) :: s.returned
      | _ => s.returned)) := by
  cases t with
  | put id v pc =>
    simp only [fresh] at hf; subst hf
    refine ⟨fun id' hc v' h => ?_, rfl, fun _ => rfl⟩
    simp only [runToEnd, stepThread] at h ⊢
    rw [lookup_insert] at h ⊢
    split at h
    · next e => rw [if_pos e]; exact h
    · next e => rw [if_neg e]; exact hc v' h
  | delete id cf pc =>
    simp only [fresh] at hf; subst hf
    have key : ∀ id', CohAt s id' → CohAt { s with inner := erase s.inner id, cache := erase s.cache id } id' := by
      intro id' hc v' h
      simp only [] at h ⊢
      rw [lookup_erase] at h ⊢
      split at h
      · cases h
      · next e => rw [if_neg e]; exact hc v' h
    cases cf
    · exact ⟨key, rfl, fun _ => rfl⟩
    · exact ⟨key, rfl, fun _ => rfl⟩
  | get id fl pc sn =>
    simp only [fresh] at hf; obtain ⟨h1, h2⟩ := hf; subst h1 h2
    rw [runToEnd_get_eq]
    split
    · -- a hit: the inner store holds the same by coherence
      next _ v hl => exact ⟨fun _ h => h, rfl, fun hc => by simp [getFails, hl, hc id v hl]⟩
    · next hl hin => exact ⟨fun _ h => h, rfl, fun _ => by simp [getFails, hl, hin]⟩
    · next v hl hin =>
      cases fl
      · refine ⟨fun id' hc v' h => ?_, rfl, fun _ => by simp [getFails, hl, hin]⟩
        simp only [Bool.false_eq_true, if_false] at h ⊢
        rw [lookup_insert] at h
        split at h
        · next e => exact e ▸ hin.trans h
        · exact hc v' h
      · exact ⟨fun _ h => h, rfl, fun _ => by simp [getFails, hl, hin]⟩

def isGet : Thread → Prop
  | .get _ _ _ _ => True
  | _ => False

theorem serial_gets (gs : List Thread) (hg : ∀ t ∈ gs, isGet t ∧ fresh t) (s : St) :
    (serial s gs).inner = s.inner ∧ ∀ id, CohAt s id → CohAt (serial s gs) id := by
  induction gs generalizing s with
  | nil => exact ⟨rfl, fun _ h => h⟩
  | cons t ts ih =>
    obtain ⟨hget, hf⟩ := hg t (by simp)
    obtain ⟨a, b, _⟩ := runToEnd_fresh s t hf
    obtain ⟨c, d⟩ := ih (fun t' ht' => hg t' (by simp [ht'])) (runToEnd s t)
    cases t with
    | get id fl pc sn => exact ⟨c.trans b, fun id' h => d id' (a id' h)⟩
    | put => exact absurd hget (by simp [isGet])
    | delete => exact absurd hget (by simp [isGet])

end Part

end Pithos.C19
