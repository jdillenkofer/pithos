/-
`S3.step` cannot tell two states apart that differ only in timestamps, as long as the call names no
explicit version id (the only place where the model reads a timestamp back, `promote` after deleting
a version by id, is then unreachable).

The proof is one-sided. On a state without timestamps, clock 0 included, nothing `S3.stepT` writes
carries a timestamp, so running a call on `erase s` gives exactly the erasure of what it gives on `s`
(`stepT_erase`); the lemmas before it say the same of every helper of `S3.stepT`, as equations
(`f (erase s) (eraseBucket bk) = erase… (f s bk)`). The clock tick of `S3.step` is invisible to `erase`,
so the result of a call, erased, is a function of the erased state: `step_respects_equiv`.
-/
import Pithos.Model.Replication
import Pithos.Lemmas.StepCalls

namespace Pithos.Replication
open Pithos.S3 Pithos.S3Ext

abbrev REqv (r r' : Row) : Prop := eraseRow r = eraseRow r'
abbrev UEqv (u u' : Upload) : Prop := eraseUpload u = eraseUpload u'
abbrev BEqv (b b' : Bucket) : Prop := eraseBucket b = eraseBucket b'

theorem REqv.fields {r r' : Row} (h : REqv r r') :
    r.rowId = r'.rowId ∧ r.key = r'.key ∧ r.vid = r'.vid ∧ r.dm = r'.dm ∧ r.latest = r'.latest ∧
    r.parts = r'.parts ∧ r.etag = r'.etag ∧ r.ct = r'.ct ∧ r.md = r'.md ∧ r.tags = r'.tags ∧
    r.cls = r'.cls ∧ r.seqBase = r'.seqBase := by
  cases r; cases r'; simpa [REqv, eraseRow] using h

theorem UEqv.fields {u u' : Upload} (h : UEqv u u') :
    u.uid = u'.uid ∧ u.key = u'.key ∧ u.ct = u'.ct ∧ u.md = u'.md ∧ u.tags = u'.tags ∧ u.cls = u'.cls ∧
    u.parts = u'.parts := by
  cases u; cases u'; simpa [UEqv, eraseUpload] using h

theorem BEqv.fields {b b' : Bucket} (h : BEqv b b') :
    b.name = b'.name ∧ b.ver = b'.ver ∧ b.rows.map eraseRow = b'.rows.map eraseRow ∧
    b.uploads.map eraseUpload = b'.uploads.map eraseUpload := by
  cases b; cases b'; simpa [BEqv, eraseBucket] using h

theorem Equiv.fields {s t : State} (h : Equiv s t) :
    s.buckets.map eraseBucket = t.buckets.map eraseBucket ∧ s.nextVid = t.nextVid ∧ s.nextUid = t.nextUid ∧
    s.nextRow = t.nextRow := by
  cases s; cases t; simpa [Equiv, erase] using h

theorem Equiv.refl (s : State) : Equiv s s := rfl
theorem Equiv.symm {s t : State} (h : Equiv s t) : Equiv t s := Eq.symm h
theorem Equiv.trans {s t u : State} (h : Equiv s t) (h' : Equiv t u) : Equiv s u := Eq.trans h h'

/-- The clock is not part of the comparison. -/
theorem Equiv.clock (s : State) (c : Nat) : Equiv { s with clock := c } s := rfl

theorem sortBy_map {α : Type} (f : α → α) (lt : α → α → Bool) (hlt : ∀ a c, lt (f a) (f c) = lt a c) (l : List α) :
    sortBy lt (l.map f) = (sortBy lt l).map f :=
  (isSort lt).map_sort (isSort lt) f l fun a _ c _ => by rw [hlt]

theorem latestRow_erase (bk : Bucket) (k : String) : latestRow (eraseBucket bk) k = (latestRow bk k).map eraseRow :=
  List.find?_map ..

theorem rowByVid_erase (bk : Bucket) (k : String) (v : Option Nat) :
    rowByVid (eraseBucket bk) k v = (rowByVid bk k v).map eraseRow :=
  List.find?_map ..

theorem nullRow_erase (bk : Bucket) (k : String) : nullRow (eraseBucket bk) k = (nullRow bk k).map eraseRow :=
  rowByVid_erase bk k none

theorem findBucket_erase (s : State) (b : String) : findBucket (erase s) b = (findBucket s b).map eraseBucket :=
  List.find?_map ..

theorem findUpload_erase (bk : Bucket) (uid : Nat) (k : String) :
    ((eraseBucket bk).uploads.find? fun u => u.uid == uid && u.key == k) =
      (bk.uploads.find? fun u => u.uid == uid && u.key == k).map eraseUpload :=
  List.find?_map ..

theorem resolve_erase (bk : Bucket) (k : String) (vid : Option (Option Nat)) :
    resolve (eraseBucket bk) k vid = (resolve bk k vid).map eraseRow := by
  -- the last step of `resolve`, whichever lookup came before
  have found : ∀ (e : Err) (x : Option Row),
      (match x.map eraseRow with
        | none => Except.error Err.noSuchKey
        | some r => if r.dm then Except.error e else Except.ok r) =
      Except.map eraseRow (match x with
        | none => Except.error Err.noSuchKey
        | some r => if r.dm then Except.error e else Except.ok r) := by
    intro e x
    cases x with
    | none => rfl
    | some r => show (if r.dm then _ else _) = Except.map eraseRow (if r.dm then _ else _); cases r.dm <;> rfl
  cases vid with
  | none => unfold resolve; dsimp only; rw [latestRow_erase]; exact found _ _
  | some v => unfold resolve; dsimp only; rw [rowByVid_erase]; exact found _ _

theorem touch_erase (q : Quirks) (n : Nat) (r : Row) : touch q 0 (eraseRow r) = eraseRow (touch q n r) := by
  simp [touch, eraseRow]

theorem eraseBucket_replaceRow (bk : Bucket) (r : Row) :
    eraseBucket (replaceRow bk r) = replaceRow (eraseBucket bk) (eraseRow r) := by
  simp only [eraseBucket, replaceRow, List.map_map]
  congr 1
  exact List.map_congr_left fun x _ => apply_ite eraseRow ..

theorem eraseBucket_removeRow (bk : Bucket) (id : Nat) :
    eraseBucket (removeRow bk id) = removeRow (eraseBucket bk) id := by
  simp only [eraseBucket, removeRow, List.filter_map]
  rfl

theorem eraseBucket_addRow (bk : Bucket) (r : Row) : eraseBucket (addRow bk r) = addRow (eraseBucket bk) (eraseRow r) := by
  simp [eraseBucket, addRow]

theorem eraseBucket_dropUpload (bk : Bucket) (uid : Nat) :
    eraseBucket { bk with uploads := bk.uploads.filter (·.uid != uid) } =
      { eraseBucket bk with uploads := (eraseBucket bk).uploads.filter (·.uid != uid) } := by
  simp only [eraseBucket, List.filter_map]
  rfl

theorem eraseBucket_setUpload (bk : Bucket) (uid : Nat) (u : Upload) :
    eraseBucket { bk with uploads := bk.uploads.map fun x => if x.uid == uid then u else x } =
      { eraseBucket bk with uploads := (eraseBucket bk).uploads.map fun x => if x.uid == uid then eraseUpload u else x } := by
  simp only [eraseBucket, List.map_map]
  congr 1
  exact List.map_congr_left fun x _ => apply_ite eraseUpload ..

theorem erase_setBucket (s : State) (bk : Bucket) : erase (setBucket s bk) = setBucket (erase s) (eraseBucket bk) := by
  simp only [erase, setBucket, List.map_map]
  congr 1
  exact List.map_congr_left fun x _ => apply_ite eraseBucket ..

theorem unlatest_erase (q : Quirks) (n : Nat) (bk : Bucket) (r : Row) :
    unlatest q 0 (eraseBucket bk) (eraseRow r) = eraseBucket (unlatest q n bk r) := by
  unfold unlatest
  rw [eraseBucket_replaceRow]
  simp [eraseRow]

theorem unlatestCur_erase (q : Quirks) (n : Nat) (bk : Bucket) (k : String) :
    unlatestCur q 0 (eraseBucket bk) k = eraseBucket (unlatestCur q n bk k) := by
  unfold unlatestCur
  rw [latestRow_erase]
  cases latestRow bk k with
  | none => rfl
  | some r => exact unlatest_erase q n bk r

theorem saveRow_erase (q : Quirks) (s : State) (bk : Bucket) (r : Row) :
    setBucket (erase s) (replaceRow (eraseBucket bk) (touch q 0 (eraseRow r))) =
      erase (setBucket s (replaceRow bk (touch q s.clock r))) := by
  rw [erase_setBucket, eraseBucket_replaceRow, touch_erase]

/-- A step result without its timestamps. -/
def eraseRes (x : State × Out) : State × Out := (erase x.1, eraseOut x.2)

theorem eraseRes_mk {x s : State} (h : x = erase s) {o : Out} (ho : eraseOut o = o) : (x, o) = eraseRes (s, o) := by
  rw [h]; exact congrArg (Prod.mk _) ho.symm

/-- `n'` is `n` with its creation stamp, if it carries one, erased (CompleteMultipartUpload passes
`created := some u.created`, the other writers none). The two are tied by an equation, `rfl` at every call:
the erased side of a goal is unified first, and `n` cannot be read off it. -/
theorem install_erase (q : Quirks) (s : State) (bk : Bucket) (k : String) {n n' : NewObj} {c : Option Nat}
    (hn : n' = { n with created := c }) (hc : c.getD 0 = 0) :
    install q (erase s) (eraseBucket bk) k n' = (erase (install q s bk k n).1, (install q s bk k n).2) := by
  subst hn
  unfold install
  simp only [nullRow_erase, show (erase s).clock = 0 from rfl, unlatestCur_erase q s.clock, hc]
  show (if bk.ver == .enabled then _ else _) = _
  split
  · show _ = (({ erase (setBucket s _) with nextVid := _, nextRow := _ } : State), _)
    rw [erase_setBucket, eraseBucket_addRow]; rfl
  · cases nullRow bk k with
    | none =>
      show _ = (({ erase (setBucket s _) with nextRow := _ } : State), _)
      rw [erase_setBucket, eraseBucket_addRow]; rfl
    | some nr =>
      rw [erase_setBucket, eraseBucket_replaceRow]
      cases c with
      | none => rfl
      | some v => cases (show v = 0 from hc); rfl

theorem ifMatchOk_erase (im : IfMatch) (x : Option Row) : ifMatchOk im (x.map eraseRow) = ifMatchOk im x := by
  cases x <;> cases im <;> rfl

theorem lockRow_erase (q : Quirks) (n : Nat) (bk : Bucket) (k : String) (inm : Bool) (im : IfMatch) :
    lockRow q 0 (eraseBucket bk) k inm im = eraseBucket (lockRow q n bk k inm im) := by
  unfold lockRow
  rw [latestRow_erase]
  cases latestRow bk k with
  | none => rfl
  | some r =>
    dsimp only [Option.map]
    split
    · rw [eraseBucket_replaceRow, ← touch_erase]
    · rfl

theorem live_erase (x : Option Row) : live (x.map eraseRow) = live x := by
  cases x <;> rfl

theorem anyLatest_erase (x : Option Row) : (x.map eraseRow).any (·.latest) = x.any (·.latest) := by
  cases x <;> rfl

theorem putRow_erase (q : Quirks) (s : State) (bk : Bucket) (k : String) {n n' : NewObj} {c : Option Nat}
    (hn : n' = { n with created := c }) (hc : c.getD 0 = 0) (inm : Bool) (im : IfMatch) (f : Option Nat → Out)
    (hf : ∀ v, eraseOut (f v) = f v) :
    unpack (erase s) f (putRow q (erase s) (eraseBucket bk) k n' inm im) =
      eraseRes (unpack s f (putRow q s bk k n inm im)) := by
  rw [putRow_eq, putRow_eq, show (erase s).clock = 0 from rfl, lockRow_erase q s.clock]
  -- the three refusal tests read no timestamp
  refine ite3_congr (unpack (erase s) f) (fun r => eraseRes (unpack s f r)) ?_ ?_ ?_ rfl ?_
  · rw [latestRow_erase, ifMatchOk_erase]
  · rw [latestRow_erase, live_erase]
  · rw [nullRow_erase, anyLatest_erase]; rfl
  · rw [install_erase q s _ k hn hc]; exact congrArg (Prod.mk _) (hf _).symm

theorem lessNull_erase (bk : Bucket) (k : String) : lessNull (eraseBucket bk) k = eraseBucket (lessNull bk k) := by
  unfold lessNull
  rw [nullRow_erase]
  show (if bk.ver == .suspended then _ else _) = _
  split
  · cases nullRow bk k with
    | none => rfl
    | some r => exact (eraseBucket_removeRow bk r.rowId).symm
  · rfl

theorem beforeMarker_erase (q : Quirks) (n : Nat) (bk : Bucket) (k : String) :
    beforeMarker q 0 (eraseBucket bk) k = eraseBucket (beforeMarker q n bk k) := by
  unfold beforeMarker
  rw [latestRow_erase, lessNull_erase]
  cases latestRow bk k with
  | none => rfl
  | some r =>
    show (if ((lessNull bk k).rows.map eraseRow).any (·.rowId == r.rowId) then _ else _) = _
    rw [List.any_map, unlatest_erase q n]
    exact (apply_ite eraseBucket ..).symm

theorem delNone_erase (q : Quirks) (s : State) (bk : Bucket) (k : String) (im : IfMatch) :
    delNone q (erase s) (eraseBucket bk) k im = eraseRes (delNone q s bk k im) := by
  unfold delNone
  simp only [latestRow_erase, nullRow_erase, ifMatchOk_erase, show (erase s).clock = 0 from rfl,
    beforeMarker_erase q s.clock, ← apply_ite (Option.map eraseRow), Option.isNone_map, apply_ite eraseRes]
  show (if _ then _ else if _ then _ else if bk.ver != Versioning.off then _ else _) = _
  congr 3
  · show _ = (({ erase (setBucket s _) with nextVid := _, nextRow := _ } : State), _)
    rw [erase_setBucket, eraseBucket_addRow]; rfl
  · cases latestRow bk k with
    | none => rfl
    | some r => exact eraseRes_mk (by rw [erase_setBucket, eraseBucket_removeRow]; rfl) rfl

theorem withB_erase (s : State) (b : String) {f g : Bucket → State × Out}
    (h : ∀ bk, f (eraseBucket bk) = eraseRes (g bk)) : withB (erase s) b f = eraseRes (withB s b g) := by
  unfold withB
  rw [findBucket_erase]
  cases findBucket s b with
  | none => rfl
  | some bk => exact h bk

theorem withU_erase (s : State) (bk : Bucket) (uid : Nat) (k : String) {f g : Upload → State × Out}
    (h : ∀ u, f (eraseUpload u) = eraseRes (g u)) :
    withU (erase s) (eraseBucket bk) uid k f = eraseRes (withU s bk uid k g) := by
  unfold withU
  rw [findUpload_erase]
  cases bk.uploads.find? fun u => u.uid == uid && u.key == k with
  | none => rfl
  | some u => exact h u

theorem res_erase (bk : Bucket) (k : String) (vid : Option (Option Nat)) (s : State) {f g : Row → State × Out}
    (h : ∀ r, f (eraseRow r) = eraseRes (g r)) :
    (match resolve (eraseBucket bk) k vid with | .error e => (erase s, .err e) | .ok r => f r) =
      eraseRes (match resolve bk k vid with | .error e => (s, .err e) | .ok r => g r) := by
  rw [resolve_erase]
  cases resolve bk k vid with
  | error e => rfl
  | ok r => exact h r

/-- Tagging and transitions: the row resolved is saved again as `f` of it, and `f` does not touch a timestamp. -/
theorem resave_erase (q : Quirks) (s : State) (b k : String) (vid : Option (Option Nat)) (g : Err → Err) {f : Row → Row}
    (hf : ∀ r, f (eraseRow r) = eraseRow (f r)) : resave q (erase s) b k vid g f = eraseRes (resave q s b k vid g f) := by
  unfold resave
  refine withB_erase s b fun bk => ?_
  rw [resolve_erase]
  cases resolve bk k vid with
  | error e => rfl
  | ok r => exact eraseRes_mk (by rw [← saveRow_erase q s bk (f r), ← hf]; rfl) rfl

theorem liveCur_erase (bk : Bucket) (k : String) : liveCur (eraseBucket bk) k = (liveCur bk k).map eraseRow := by
  unfold liveCur
  rw [latestRow_erase]
  cases latestRow bk k with
  | none => rfl
  | some r => show (if r.dm then _ else _) = Option.map eraseRow (if r.dm then _ else _); cases r.dm <;> rfl

theorem matchRow_erase {x' x : Option Row} {f g : Row → State × Out} {a b : State × Out}
    (hs : ∀ r, f (eraseRow r) = eraseRes (g r)) (hn : a = eraseRes b) : x' = x.map eraseRow →
    (match x' with | some r => f r | none => a) = eraseRes (match x with | some r => g r | none => b) := by
  rintro rfl
  cases x with
  | none => exact hn
  | some r => exact hs r

theorem appendFrom_erase (q : Quirks) (s : State) (bk : Bucket) (k : String) (body : Bytes) (off : Option Nat)
    (ex : Option Row) :
    appendFrom q (erase s) (eraseBucket bk) k body off (ex.map eraseRow) =
      eraseRes (appendFrom q s bk k body off ex) := by
  unfold appendFrom
  dsimp only
  rw [apply_ite eraseRes, apply_ite eraseRes]
  -- after `cases ex` the reads of the erased row and of the row reduce to the same fields
  congr 1
  · cases off <;> cases ex <;> rfl
  congr 1
  · cases ex <;> exact putRow_erase q s bk k (by rfl) (by rfl) false .none (fun _ => .appended _ _) fun _ => rfl
  · refine matchRow_erase (fun r => ?_) ?_ ?_
    · rw [apply_ite eraseRes]
      congr 1
      cases ex <;> exact eraseRes_mk (by rw [erase_setBucket, eraseBucket_replaceRow]; rfl) rfl
    · rw [apply_ite eraseRes]
      congr 1
      · show _ = (({ erase (setBucket s _) with nextRow := _ } : State), _)
        rw [erase_setBucket, eraseBucket_addRow]
        cases ex <;> rfl
      · cases ex <;> exact putRow_erase q s bk k (by rfl) (by rfl) false .none (fun _ => .appended _ _) fun _ => rfl
    · rw [latestRow_erase, apply_ite (Option.map eraseRow)]
      congr 1
      cases ex with
      | none => rfl
      | some r => show (if r.vid.isNone then _ else _) = Option.map eraseRow (if r.vid.isNone then _ else _); cases r.vid.isNone <;> rfl

theorem declaredErr_erase (u : Upload) (d : Option (List Nat)) : declaredErr (eraseUpload u) d = declaredErr u d := rfl

/-- The one call that reads a timestamp back: DeleteObject of a version by id, which may `promote`. -/
def delsVersion : Op → Bool
  | .del _ _ (some _) _ => true
  | _ => false

theorem delsVersion_of_names {op : Op} (h : opNamesVersion op = false) : delsVersion op = false := by
  cases op with
  | del b k vid im => cases vid with
    | none => rfl
    | some v => cases h
  | _ => rfl

theorem stepT_erase (q : Quirks) (s : State) (op : Op) (hv : delsVersion op = false) :
    stepT q (erase s) op = eraseRes (stepT q s op) := by
  -- each case of `stepT` unfolds to the pieces of Lemmas/S3Write (`withB`, `unpack`, `withU`, … as in
  -- `stepT_*_eq`), and the lemma of the outermost piece is applied to it as it stands
  cases op with
  | mkb b =>
    show (if (findBucket (erase s) b).isSome then _ else _) = eraseRes (if (findBucket s b).isSome then _ else _)
    rw [findBucket_erase, Option.isSome_map]
    split
    · rfl
    · exact eraseRes_mk (by simp [erase, eraseBucket]) rfl
  | rmb b =>
    refine withB_erase s b fun bk => ?_
    show (if !(bk.rows.map eraseRow).isEmpty || !(bk.uploads.map eraseUpload).isEmpty then _ else _) = _
    rw [List.isEmpty_map, List.isEmpty_map]
    split
    · rfl
    · exact eraseRes_mk (by simp only [erase, List.filter_map]; rfl) rfl
  | setVer b v => exact withB_erase s b fun bk => eraseRes_mk (erase_setBucket s { bk with ver := v }).symm rfl
  | put b k body o inm im =>
    exact withB_erase s b fun bk => putRow_erase q s bk k (by rfl) (by rfl) inm im _ fun _ => rfl
  | get b k vid | head b k vid | getTags b k vid => exact withB_erase s b fun bk => res_erase bk k vid s fun _ => rfl
  | del b k vid im => cases vid with
    -- `deleteOp … none im` is `delNone … im` by `rfl` (`deleteOp_none_eq`)
    | none => exact withB_erase s b fun bk => delNone_erase q s bk k im
    | some v => cases hv
  | copy sb sk svid db dk rm rt o =>
    refine withB_erase s sb fun sbk => res_erase sbk sk svid s fun src => withB_erase s db fun dbk => ?_
    dsimp only
    exact putRow_erase q s dbk dk (by rfl) (by rfl) false .none (fun vid => .wrote vid src.etag) fun _ => rfl
  | append b k body off =>
    rw [stepT_append_eq, stepT_append_eq]
    refine withB_erase s b fun bk => ?_
    rw [liveCur_erase, appendFrom_erase]
  | mpu b k o =>
    refine withB_erase s b fun bk => ?_
    show _ = (({ erase (setBucket s _) with nextUid := _ } : State), _)
    rw [erase_setBucket]
    simp only [eraseBucket, List.map_append]
    rfl
  | uploadPart b k uid n body =>
    exact withB_erase s b fun bk => withU_erase s bk uid k fun u =>
      eraseRes_mk (by rw [erase_setBucket, eraseBucket_setUpload]; rfl) rfl
  | complete b k uid declared inm im =>
    refine withB_erase s b fun bk => withU_erase s bk uid k fun u => ?_
    rw [apply_ite eraseRes]
    show (if !contiguousFrom 1 u.parts then _ else _) = _
    congr 1
    simp only [declaredErr_erase]
    cases declaredErr u declared with
    | some e => rfl
    | none =>
      rw [← eraseBucket_dropUpload]
      exact putRow_erase q s _ k (by rfl) (by rfl) inm im _ fun _ => rfl
  | abort b k uid =>
    exact withB_erase s b fun bk => withU_erase s bk uid k fun _ =>
      eraseRes_mk (by rw [erase_setBucket, eraseBucket_dropUpload]) rfl
  | putTags b k vid tags => exact resave_erase q s b k vid id fun _ => rfl
  | delTags b k vid => exact resave_erase q s b k vid id fun _ => rfl
  | transition b k cls vid =>
    rw [stepT_transition, stepT_transition]
    exact resave_erase q s b k vid _ fun _ => rfl
  | list b =>
    refine withB_erase s b fun bk => ?_
    show (_, Out.listing (List.map _ (sortBy _ (List.filter _ (bk.rows.map eraseRow))))) = _
    rw [List.filter_map, sortBy_map eraseRow _ fun _ _ => rfl, List.map_map]
    rfl
  | listVersions b =>
    refine withB_erase s b fun bk => ?_
    show (_, Out.versions (List.map _ (sortBy _ (bk.rows.map eraseRow)))) = _
    rw [sortBy_map eraseRow _ fun _ _ => rfl, List.map_map]
    simp only [eraseRes, eraseOut, List.map_map]
    rfl
  | listBuckets =>
    show (_, Out.buckets (sortBy _ ((s.buckets.map eraseBucket).map _))) = _
    rw [List.map_map]
    rfl

/-- Relatedness of two step results: equivalent states, same answer up to timestamps. -/
def PRel (x y : State × Out) : Prop := Equiv x.1 y.1 ∧ eraseOut x.2 = eraseOut y.2

theorem step_equiv (q : Quirks) {s t : State} (h : Equiv s t) (op : Op) (hv : delsVersion op = false) :
    PRel (step q s op) (step q t op) := by
  -- `erase (tick u)` is `erase u`
  have e : ∀ u, eraseRes (step q u op) = stepT q (erase u) op := fun u => (stepT_erase q (tick u) op hv).symm
  have := (e s).trans ((congrArg (stepT q · op) h).trans (e t).symm)
  exact Prod.mk.inj this

/-- **`S3.step` cannot see timestamps**: on states that are equal up to timestamps, a call that names
no explicit version id leads to states that are equal up to timestamps and gives the same answer up
to timestamps. -/
theorem step_respects_equiv (q : Quirks) {s t : State} (h : Equiv s t) (op : Op)
    (hv : opNamesVersion op = false) : PRel (step q s op) (step q t op) :=
  step_equiv q h op (delsVersion_of_names hv)

def XRel (x y : State × XOut) : Prop := Equiv x.1 y.1 ∧ eraseXOut x.2 = eraseXOut y.2

theorem XRel.of_prel {x y : State × Out} (h : PRel x y) : XRel (x.1, .base x.2) (y.1, .base y.2) :=
  ⟨h.1, by simp [eraseXOut, h.2]⟩

theorem isErr_erase (x : XOut) : (eraseXOut x).isErr = x.isErr := by
  cases x with
  | base o => cases o <;> rfl
  | many l => rfl

theorem uploadUid_erase (x : XOut) : uploadUid (eraseXOut x) = uploadUid x := by
  cases x with
  | base o => cases o <;> rfl
  | many l => rfl

theorem XRel.refl (x : State × XOut) : XRel x x := ⟨rfl, rfl⟩
theorem XRel.trans {x y z : State × XOut} (h : XRel x y) (h' : XRel y z) : XRel x z :=
  ⟨h.1.trans h'.1, h.2.trans h'.2⟩
theorem XRel.symm {x y : State × XOut} (h : XRel x y) : XRel y x := ⟨h.1.symm, h.2.symm⟩

theorem eraseRow_idem (r : Row) : eraseRow (eraseRow r) = eraseRow r := rfl

theorem erase_idem (s : State) : erase (erase s) = erase s := by
  have hb : ∀ bk, eraseBucket (eraseBucket bk) = eraseBucket bk := fun bk => by
    simp only [eraseBucket, List.map_map]
    congr 1
  simp only [erase, List.map_map]
  congr 1
  exact List.map_congr_left fun bk _ => hb bk

theorem Equiv.erase (s : State) : Equiv (erase s) s := erase_idem s

theorem Equiv.tick {s t : State} (h : Equiv s t) : Equiv (tick s) (tick t) := h

theorem delManyLoop_congr (q : Quirks) (b : String) (keys : List String) {s t : State} (h : Equiv s t) :
    Equiv (delManyLoop q b s keys).1 (delManyLoop q b t keys).1 ∧
    (delManyLoop q b s keys).2.map eraseOut = (delManyLoop q b t keys).2.map eraseOut := by
  induction keys generalizing s t with
  | nil => exact ⟨h, rfl⟩
  | cons k ks ih =>
    simp only [delManyLoop]
    have h1 := step_respects_equiv q h (.del b k none .none) rfl
    obtain ⟨i1, i2⟩ := ih h1.1
    exact ⟨i1, by simp [h1.2, i2]⟩

theorem readSource_erase (s : State) (sb sk : String) (svid : Option (Option Nat)) :
    readSource (erase s) sb sk svid = (readSource s sb sk svid).map eraseRow := by
  unfold readSource
  rw [findBucket_erase]
  cases findBucket s sb with
  | none => rfl
  | some bk => exact resolve_erase bk sk svid

def xDelsVersion : XOp → Bool
  | .base op => delsVersion op
  | _ => false

theorem xDelsVersion_of_names {op : XOp} (h : op.namesVersion = false) : xDelsVersion op = false := by
  cases op with
  | base op => exact delsVersion_of_names h
  | _ => rfl

theorem xstep_erase (q : Quirks) (s : State) (op : XOp) (hv : xDelsVersion op = false) :
    XRel (xstep q (erase s) op) (xstep q s op) := by
  cases op with
  | base op => exact XRel.of_prel (step_equiv q (.erase s) op hv)
  | partCopy sb sk svid db dk uid n range =>
    simp only [xstep]
    rw [readSource_erase]
    cases readSource s sb sk svid with
    | error e => exact ⟨(Equiv.erase s).tick, rfl⟩
    | ok r =>
      simp only [Except.map, show (eraseRow r).content = r.content from rfl]
      cases sliceOf r.content range with
      | error e => exact ⟨(Equiv.erase s).tick, rfl⟩
      | ok body => exact XRel.of_prel (step_equiv q (.erase s) (.uploadPart db dk uid n body) rfl)
  | delMany b keys =>
    simp only [xstep]
    rw [findBucket_erase]
    cases findBucket s b with
    | none => exact ⟨(Equiv.erase s).tick, rfl⟩
    | some bk =>
      obtain ⟨i1, i2⟩ := delManyLoop_congr q b keys (.erase s)
      exact ⟨i1, by simp [eraseXOut, i2]⟩

theorem xstep_equiv (q : Quirks) {s t : State} (h : Equiv s t) (op : XOp)
    (hv : xDelsVersion op = false) : XRel (xstep q s op) (xstep q t op) := by
  have e := xstep_erase q t op hv
  rw [← show erase s = erase t from h] at e
  exact (xstep_erase q s op hv).symm.trans e

theorem currentObjects_erase (bk : Bucket) : currentObjects (eraseBucket bk) = currentObjects bk := by
  show List.map _ (sortBy _ (List.filter _ (bk.rows.map eraseRow))) = _
  rw [List.filter_map, sortBy_map eraseRow _ fun _ _ => rfl, List.map_map]
  rfl

theorem observe_erase (s : State) : observe (erase s) = observe s := by
  show List.map _ (sortBy _ (s.buckets.map eraseBucket)) = _
  rw [sortBy_map eraseBucket _ fun _ _ => rfl, List.map_map]
  exact List.map_congr_left fun bk _ => congrArg (Prod.mk _) (currentObjects_erase bk)

end Pithos.Replication
