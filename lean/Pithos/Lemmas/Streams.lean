/-
The guarded close-hook counter of `Pithos.Model.Streams`, for any number `n` of readers: the
invariant `Inv` says that `remaining` is the number of readers still open, that the transaction is
done exactly when that number is 0 (so it is live while a reader is open, `Inv.live`), and that the
release has run once iff it is done. A guarded step either leaves the state as it is or is the first
close of an open reader followed by the hook (`step_guarded`), and setting a `false` entry of the
`closed` list lowers the open count by one (`filter_set_true`); hence `Inv` holds after every word
(`inv_run`; from the initial state: `inv_reachable`, which the C36 theorems project). Core Lean only.
-/
import Pithos.Model.Streams

namespace Pithos.C36
open Pithos.Streams

/-- Bookkeeping invariant of the guarded counter over `n` readers. -/
structure Inv (n : Nat) (s : St) : Prop where
  len  : s.closed.length = n
  rem  : s.remaining = (openCount s : Int)
  done : s.txDone = (openCount s == 0)
  rb   : s.rollbacks = if s.txDone then 1 else 0

theorem openCount_replicate (n : Nat) :
    ((List.replicate n false).filter (fun b => !b)).length = n := by
  induction n with
  | zero => rfl
  | succ k ih => simp [List.replicate_succ]

theorem inv_init (n : Nat) : Inv n (init n) := by
  have hc : openCount (init n) = n := openCount_replicate n
  refine ⟨List.length_replicate, ?_, ?_, ?_⟩
  · rw [hc]; rfl
  · rw [hc]; rfl
  · cases n <;> rfl

theorem filter_set_true (l : List Bool) (i : Nat) (h : l.getD i true = false) :
    ((l.set i true).filter (fun b => !b)).length + 1 = (l.filter (fun b => !b)).length := by
  induction l generalizing i with
  | nil => simp at h
  | cons a t ih =>
    cases i with
    | zero =>
      simp at h
      subst h
      simp
    | succ j =>
      simp at h
      have := ih j (by simpa using h)
      cases a <;> simp [List.set] <;> omega

theorem step_guarded (s : St) (op : Op) :
    (step true s op).1 = s ∨
    ∃ i, isClosed s i = false ∧ (step true s op).1 = fireHook { s with closed := s.closed.set i true } := by
  cases op with
  | read i =>
    left; simp only [step]; split <;> try rfl
    split <;> rfl
  | close i =>
    by_cases hi : i < s.closed.length
    · cases hc : isClosed s i
      · exact .inr ⟨i, hc, by simp [step, hi, hc]⟩
      · have hget : s.closed[i] = true := by simpa [isClosed, hi] using hc
        have hset : s.closed.set i true = s.closed := hget ▸ List.set_getElem_self hi
        exact .inl (by simp [step, hi, hc, hset])
    · exact .inl (by simp [step, hi])

theorem fireHook_closed (s : St) : (fireHook s).closed = s.closed := by
  by_cases h : (s.remaining - 1 == 0) = true <;> simp [fireHook, h]

/-- While a reader is open the transaction is live. -/
theorem Inv.live {n : Nat} {s : St} {i : Nat} (h : Inv n s) (hc : isClosed s i = false) : s.txDone = false := by
  have hcnt := filter_set_true s.closed i hc
  rw [h.done, openCount, beq_eq_false_iff_ne]
  omega

/-- Before the first close of a reader the transaction is live and has not been released; the hook
then leaves `remaining` at the new count and releases iff that is 0. -/
theorem inv_fire {n : Nat} (s : St) (i : Nat) (h : Inv n s) (hc : isClosed s i = false) :
    Inv n (fireHook { s with closed := s.closed.set i true }) := by
  have hcnt := filter_set_true s.closed i hc
  have hdone := h.live hc
  obtain ⟨hl, hr, _, hb⟩ := h
  simp only [openCount] at hr
  generalize hN : ((s.closed.set i true).filter (fun b => !b)).length = N at hcnt
  generalize (s.closed.filter (fun b => !b)).length = M at hcnt hr
  have hrb : s.rollbacks = 0 := by simpa [hdone] using hb
  have hrem : s.remaining - 1 = (N : Int) := by omega
  refine ⟨by simp [fireHook_closed, hl], ?_, ?_, ?_⟩ <;>
    by_cases hz : N = 0 <;> simp [fireHook, openCount, hrem, hN, hz, hdone, hrb]

theorem inv_step {n : Nat} (s : St) (op : Op) (h : Inv n s) : Inv n (step true s op).1 := by
  rcases step_guarded s op with e | ⟨i, hc, e⟩ <;> rw [e]
  · exact h
  · exact inv_fire s i h hc

theorem inv_run {n : Nat} (s : St) (ops : List Op) (h : Inv n s) : Inv n (final true s ops) := by
  induction ops generalizing s with
  | nil => exact h
  | cons op ops ih =>
    have := ih (step true s op).1 (inv_step s op h)
    simpa [final, run] using this

theorem inv_reachable (n : Nat) (ops : List Op) : Inv n (final true (init n) ops) :=
  inv_run (init n) ops (inv_init n)

theorem openCount_zero_iff (s : St) : openCount s = 0 ↔ allClosed s = true := by
  unfold openCount allClosed
  induction s.closed with
  | nil => simp
  | cons a t ih => cases a <;> simp [ih]

theorem read_open_ok {n : Nat} (s : St) (i : Nat) (h : Inv n s) (hi : i < n)
    (ho : isClosed s i = false) : (step true s (.read i)).2 = .ok := by
  have hi : i < s.closed.length := h.len ▸ hi
  simp [step, hi, ho, h.live ho]

end Pithos.C36
