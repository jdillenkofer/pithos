/-
Helper lemmas for C08: the grace-window system `Pithos.Parts.Grace` — the collector's candidate
list is harmless as long as no part of a still-open transaction is old enough to be listed.
Core Lean only.
-/
import Pithos.Model.Parts
import Pithos.Lemmas.Assoc

namespace Pithos.Parts.Grace

/-- Every part referenced by a committed row is present. -/
def Safe (g : G) : Prop := ∀ p ∈ g.committed, p ∈ ids g

/-- No part of a still-open transaction is older than the grace window. -/
def Young (grace : Nat) (g : G) : Prop := ∀ e ∈ g.store, e.1 ∈ g.inflight → ¬ (e.2 + grace < g.now)

/-- The timing assumption, stated exactly where it is used: at every listing of a store that
shows uncommitted parts. -/
def Timely (grace : Nat) : G → List GA → Prop
  | _, [] => True
  | g, a :: as => (a = .list → Young grace g) ∧ Timely grace (gstep grace g a) as

/-- `Safe`, made inductive: a part of a still-open transaction is present and is no candidate (this is
where `Timely` enters: a listing only adds old parts), and it is not yet committed. -/
structure GInv (g : G) : Prop where
  safe : ∀ p ∈ g.committed, p ∈ ids g
  infl : ∀ f ∈ g.inflight, f ∈ ids g ∧ f ∉ g.cands
  disj : ∀ f ∈ g.inflight, f ∉ g.committed
  ucands : ∀ p ∈ g.cands, p ∈ g.used
  ustore : ∀ p ∈ ids g, p ∈ g.used

theorem ginv_init : GInv G.init := by
  refine ⟨?_, ?_, ?_, ?_, ?_⟩ <;> simp [G.init, ids]

theorem GInv.setCands {g : G} (h : GInv g) {cands : List PartId} (hu : ∀ p ∈ cands, p ∈ g.used)
    (hi : ∀ f ∈ g.inflight, f ∉ cands) : GInv { g with cands := cands } :=
  { h with infl := fun f hf => ⟨(h.infl f hf).1, hi f hf⟩, ucands := hu }

theorem GInv.dropPart {g : G} (h : GInv g) (p : PartId) (hnc : p ∉ g.committed) {infl : List PartId}
    (hsub : ∀ x ∈ infl, x ∈ g.inflight) (hp : p ∉ infl) :
    GInv { g with store := g.store.filter (fun e => e.1 != p), inflight := infl } :=
  { safe := fun q hq => (mem_keys_erase _ p q).2 ⟨h.safe q hq, fun e => hnc (e ▸ hq)⟩
    infl := fun x hx =>
      ⟨(mem_keys_erase _ p x).2 ⟨(h.infl x (hsub x hx)).1, fun e => hp (e ▸ hx)⟩, (h.infl x (hsub x hx)).2⟩
    disj := fun x hx => h.disj x (hsub x hx)
    ucands := h.ucands
    ustore := fun q hq => h.ustore q ((List.filter_sublist.map _).subset hq) }

theorem gstep_inv (grace : Nat) {g : G} (h : GInv g) (a : GA) (ht : a = .list → Young grace g) :
    GInv (gstep grace g a) := by
  have hrest : ∀ {p rest}, g.cands = p :: rest → GInv { g with cands := rest } := fun hc =>
    h.setCands (fun x hx => h.ucands x (hc ▸ List.mem_cons_of_mem _ hx))
      fun x hx hr => (h.infl x hx).2 (hc ▸ List.mem_cons_of_mem _ hr)
  cases a <;> dsimp only [gstep]
  case put f =>
    split
    · exact h
    · next hf =>
      refine ⟨?_, ?_, ?_, ?_, ?_⟩
      · intro p hp; simp only [ids, List.map_cons]; exact List.mem_cons_of_mem _ (h.safe p hp)
      · intro x hx
        rcases List.mem_cons.1 hx with hx | hx
        · subst hx
          exact ⟨by simp [ids], fun hc => hf (h.ucands _ hc)⟩
        · exact ⟨by simp only [ids, List.map_cons]; exact List.mem_cons_of_mem _ (h.infl x hx).1, (h.infl x hx).2⟩
      · intro x hx
        rcases List.mem_cons.1 hx with hx | hx
        · subst hx; intro hc; exact hf (h.ustore _ (h.safe _ hc))
        · exact h.disj x hx
      · intro p hp; exact List.mem_cons_of_mem _ (h.ucands p hp)
      · intro p hp
        simp only [ids, List.map_cons] at hp
        rcases List.mem_cons.1 hp with hp | hp
        · subst hp; simp
        · exact List.mem_cons_of_mem _ (h.ustore p hp)
  case commit f =>
    split
    · next hf =>
      refine ⟨?_, ?_, ?_, h.ucands, h.ustore⟩
      · intro p hp
        rcases List.mem_cons.1 hp with hp | hp
        · subst hp; exact (h.infl _ hf).1
        · exact h.safe p hp
      · intro x hx; exact h.infl x (List.mem_filter.1 hx).1
      · intro x hx hc
        obtain ⟨hx1, hx2⟩ := List.mem_filter.1 hx
        rcases List.mem_cons.1 hc with hc | hc
        · simp [hc] at hx2
        · exact h.disj x hx1 hc
    · exact h
  case rollback f =>
    split
    · next hf => exact h.dropPart f (h.disj f hf) (fun x hx => (List.mem_filter.1 hx).1) (by simp)
    · exact h
  case tick n => exact ⟨h.safe, h.infl, h.disj, h.ucands, h.ustore⟩
  case list =>
    -- a listed part is old, a part of an open transaction is young
    refine h.setCands (fun p hp => h.ustore p ((List.filter_sublist.map _).subset hp)) fun x hx hc => ?_
    obtain ⟨e, he, rfl⟩ := List.mem_map.1 hc
    obtain ⟨he1, he2⟩ := List.mem_filter.1 he
    exact ht rfl e he1 hx (by simpa using he2)
  case listTx =>
    refine h.setCands (fun p hp => h.ustore p ((List.filter_sublist.map _).subset hp)) fun x hx hc => ?_
    obtain ⟨e, he, rfl⟩ := List.mem_map.1 hc
    have he2 := (List.mem_filter.1 he).2
    simp at he2
    exact he2.2 hx
  case condemn =>
    split
    · exact h
    · next p rest hc =>
      split
      · exact hrest hc
      · next hnc =>
        -- a candidate belongs to no open transaction
        exact (hrest hc).dropPart p hnc (fun _ => id) fun hp => (h.infl p hp).2 (by rw [hc]; simp)

theorem grun_inv (grace : Nat) {g : G} (h : GInv g) (as : List GA) (ht : Timely grace g as) :
    GInv (grun grace g as) := by
  induction as generalizing g with
  | nil => exact h
  | cons a as ih =>
    simp only [Timely] at ht
    exact ih (gstep_inv grace h a ht.1) ht.2

end Pithos.Parts.Grace
