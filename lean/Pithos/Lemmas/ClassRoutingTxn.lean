/-
The acquire phase of a transaction of the routing model: every step (`putPart`, `tryShare`,
`tryIndex`, `copyPart`, `tryAddRefs`, the loops `copyParts` / `moveParts`) keeps the
mid-transaction summary `Txn`, from which `commit_inv` re-establishes the invariant.
-/
import Pithos.Lemmas.ClassRouting

namespace Pithos.ClassRouting

theorem set2_same (f : SName → Nat → Option Nat) (st : SName) (p : Nat) (v : Option Nat) :
    set2 f st p v st p = v := by simp [set2]

theorem set2_other_pid {f : SName → Nat → Option Nat} {st st' : SName} {p p' : Nat} {v : Option Nat}
    (h : p' ≠ p) : set2 f st p v st' p' = f st' p' := by simp [set2, h]

theorem prePids_append (a b : List NewPart) : prePids (a ++ b) = prePids a ++ prePids b := by
  simp [prePids]

theorem Txn.held_mono {s0 s s1 : State} {acq pend : List Nat} {news : List NewPart}
    (h : Txn s0 s acq pend news) (hphys : ∀ st p, p < s.next → s1.phys st p = s.phys st p) :
    ∀ n ∈ news, n.row.store ∈ s0.stores ∧ s1.phys n.row.store n.row.pid = some n.row.content := by
  intro n hn
  obtain ⟨hst, hp⟩ := h.held n hn
  exact ⟨hst, (hphys _ _ (lt_of_phys_some h.mid.physNew hp)).trans hp⟩

theorem Txn.move {s0 s s1 : State} {acq acq1 pend pend1 : List Nat} {news : List NewPart}
    (h : Txn s0 s acq pend news) (hmid : Mid s0 s1 acq1)
    (hphys : ∀ st p, p < s.next → s1.phys st p = s.phys st p)
    (hbal : ∀ p, acq1.count p + pend1.count p = (prePids news).count p) :
    Txn s0 s1 acq1 pend1 news :=
  { mid := hmid, held := h.held_mono hphys, fresh := h.fresh, bal := hbal }

theorem Txn.extend {s0 s s1 : State} {acq acq1 pend pend1 : List Nat} {news : List NewPart} {np : NewPart}
    (h : Txn s0 s acq pend news) (hmid : Mid s0 s1 acq1)
    (hphys : ∀ st p, p < s.next → s1.phys st p = s.phys st p)
    (hst : np.row.store ∈ s0.stores) (hheld : s1.phys np.row.store np.row.pid = some np.row.content)
    (hfresh : np.pre = false → s0.next ≤ np.row.pid)
    (hbal : ∀ p, acq1.count p + pend1.count p = acq.count p + pend.count p + (prePids [np]).count p) :
    Txn s0 s1 acq1 pend1 (news ++ [np]) := by
  refine { mid := hmid, held := ?_, fresh := ?_, bal := ?_ }
  · exact List.forall_mem_append.2 ⟨h.held_mono hphys, List.forall_mem_singleton.2 ⟨hst, hheld⟩⟩
  · exact List.forall_mem_append.2 ⟨h.fresh, List.forall_mem_singleton.2 hfresh⟩
  · intro p
    rw [prePids_append, List.count_append, hbal, h.bal]

theorem Txn.share {s0 s s1 : State} {acq pend : List Nat} {news : List NewPart} {r : PartRow}
    (h : Txn s0 s acq pend news) (hmid : Mid s0 s1 (acq ++ [r.pid]))
    (hphys : ∀ st p, p < s.next → s1.phys st p = s.phys st p)
    (hst : r.store ∈ s0.stores) (hheld : s1.phys r.store r.pid = some r.content) :
    Txn s0 s1 (acq ++ [r.pid]) pend (news ++ [⟨r, true⟩]) :=
  h.extend hmid hphys hst hheld (fun hp => by cases hp) fun p => by
    rw [List.count_append, Nat.add_right_comm]
    rfl

/-- A store changes at one id the transaction handed out, or is about to (`NewRandomPartId` + `PutPart`,
or the removal of a fresh part again); the index does not mention that id. -/
theorem Mid.setPhys {s0 s : State} {acq : List Nat} (h : Mid s0 s acq) {st : SName} {p n : Nat} {v : Option Nat}
    (hp : s0.next ≤ p) (hn : s.next ≤ n) (hv : n ≤ p → v = none) (hidx : ∀ st' c', s.idx st' c' ≠ some p) :
    Mid s0 { s with phys := set2 s.phys st p v, next := n } acq := by
  refine { h with physOld := ?_, physNew := ?_, next_le := Nat.le_trans h.next_le hn, idxOk := ?_ }
  · intro st' p' hp'
    exact (set2_other_pid (by omega)).trans (h.physOld st' p' hp')
  · intro st' p' hp'
    show set2 s.phys st p v st' p' = none
    unfold set2
    split
    · rename_i e
      exact hv (e.2 ▸ hp')
    · exact h.physNew st' p' (Nat.le_trans hn hp')
  · intro st' c' p' hp'
    have hp2 : s.idx st' c' = some p' := hp'
    have hne : p' ≠ p := fun e => hidx st' c' (e ▸ hp2)
    exact (set2_other_pid hne).trans (h.idxOk st' c' p' hp2)

theorem Mid.putLike {s0 s : State} {acq : List Nat} (h : Mid s0 s acq) (st : SName) (c : Option Nat) :
    Mid s0 { s with phys := set2 s.phys st s.next c, next := s.next + 1 } acq :=
  h.setPhys h.next_le (Nat.le_succ _) (fun hle => absurd hle (Nat.not_succ_le_self _))
    fun _ _ hi => Nat.lt_irrefl _ (h.idx_lt hi)

theorem Mid.live {s0 s : State} {acq : List Nat} (h : Mid s0 s acq) {p : Nat} (hp : 0 < s.reg p) :
    0 < s0.reg p := by
  by_cases hc : p ∈ acq
  · exact h.acqLive p hc
  · have := h.reg p
    rw [List.count_eq_zero_of_not_mem hc] at this
    omega

theorem Mid.addReg {s0 s : State} {acq ids : List Nat} (h : Mid s0 s acq) {reg : Nat → Nat}
    (hreg : ∀ p, reg p = s.reg p + ids.count p) (hpos : ∀ p ∈ ids, 0 < s.reg p) :
    Mid s0 { s with reg := reg } (acq ++ ids) := by
  refine { h with reg := ?_, acqLive := ?_ }
  · intro p
    show reg p = _
    rw [hreg, List.count_append, h.reg p, Nat.add_assoc]
  · intro p hp
    rcases List.mem_append.mp hp with hp | hp
    · exact h.acqLive p hp
    · exact h.live (hpos p hp)

theorem Mid.bump {s0 s : State} {acq : List Nat} (h : Mid s0 s acq) {q : Nat} (hq : 0 < s.reg q) :
    Mid s0 { s with reg := fun p => if p = q then s.reg p + 1 else s.reg p } (acq ++ [q]) := by
  refine h.addReg (fun p => ?_) (List.forall_mem_singleton.2 hq)
  simp only [List.count_singleton, beq_iff_eq, eq_comm (a := q)]
  split <;> rfl

theorem Mid.dropIdx {s0 s : State} {acq : List Nat} (h : Mid s0 s acq) (q : Nat) :
    Mid s0 (dropIdx s q) acq := by
  refine { h with idxOk := ?_ }
  intro st c p hp
  have hp' : (if s.idx st c = some q then none else s.idx st c) = some p := hp
  split at hp'
  · cases hp'
  · exact h.idxOk st c p hp'

theorem Mid.tryIndex {s0 s : State} {acq : List Nat} (h : Mid s0 s acq) {st : SName} {c p : Nat}
    (hp : s.phys st p = some c) : Mid s0 (tryIndex s st c p) acq := by
  refine { h with idxOk := ?_ }
  intro st' c' p' hp'
  have hp2 : (if st' = st ∧ c' = c then (match s.idx st c with | some q => some q | none => some p)
      else s.idx st' c') = some p' := hp'
  show s.phys st' p' = some c'
  split at hp2
  · rename_i heq
    obtain ⟨h1, h2⟩ := heq
    subst h1 h2
    cases hi : s.idx st' c' with
    | none => rw [hi] at hp2; cases hp2; exact hp
    | some q => rw [hi] at hp2; cases hp2; exact h.idxOk st' c' _ hi
  · exact h.idxOk st' c' p' hp2

theorem tryAddRefs_some {s s1 : State} {ids : List Nat} (ha : tryAddRefs s ids = some s1) :
    (∀ p ∈ ids, 0 < s.reg p) ∧ s1 = { s with reg := fun p => s.reg p + ids.count p } := by
  unfold tryAddRefs at ha
  split at ha
  · rename_i hall
    cases ha
    exact ⟨fun p hp => by simpa using List.all_eq_true.mp hall p hp, rfl⟩
  · cases ha

theorem Mid.tryShare {s0 s : State} {acq : List Nat} (h : Mid s0 s acq) (st : SName) (c : Nat) :
    ∃ reg idx o, tryShare s st c = ({ s with reg := reg, idx := idx }, o) ∧
      (∀ st' c' p, idx st' c' = some p → s.idx st' c' = some p) ∧
      match o with
      | some q => s.idx st c = some q ∧ Mid s0 { s with reg := reg, idx := idx } (acq ++ [q])
      | none => Mid s0 { s with reg := reg, idx := idx } acq := by
  unfold ClassRouting.tryShare
  cases hi : s.idx st c with
  | none => exact ⟨s.reg, s.idx, none, rfl, fun _ _ _ hp => hp, h⟩
  | some q =>
    by_cases hq : 0 < s.reg q
    · exact ⟨_, s.idx, some q, if_pos hq, fun _ _ _ hp => hp, rfl, h.bump hq⟩
    · refine ⟨s.reg, _, none, if_neg hq, ?_, h.dropIdx q⟩
      intro st' c' p hp
      split at hp
      · cases hp
      · exact hp

theorem dropIdx_idx_none {s : State} {st : SName} {c q : Nat} (h : s.idx st c = some q) :
    (dropIdx s q).idx st c = none := by
  show (if s.idx st c = some q then none else s.idx st c) = none
  rw [if_pos h]

theorem writeFresh_row (s : State) (st : SName) (c seq : Nat) :
    (writeFresh s st c seq).2.row.store = st ∧ (writeFresh s st c seq).2.row.content = c ∧
    (writeFresh s st c seq).2.row.seq = seq := by
  unfold writeFresh dedupeFresh
  dsimp only
  split <;> exact ⟨rfl, rfl, rfl⟩

theorem writeFresh_txn {s0 s : State} {acq pend : List Nat} {news : List NewPart}
    (h : Txn s0 s acq pend news) {st : SName} (hst : st ∈ s0.stores) (c seq : Nat) :
    ∃ acq', Txn s0 (writeFresh s st c seq).1 acq' pend (news ++ [(writeFresh s st c seq).2]) := by
  let s1 : State := { s with phys := set2 s.phys st s.next (some c), next := s.next + 1 }
  have hm1 : Mid s0 s1 acq := h.mid.putLike st (some c)
  have hphys1 : ∀ st' p, p < s.next → s1.phys st' p = s.phys st' p :=
    fun _ _ hp => set2_other_pid (Nat.ne_of_lt hp)
  have hheld1 : s1.phys st s.next = some c := set2_same _ _ _ _
  have hw : writeFresh s st c seq = dedupeFresh s1 st c s.next seq := rfl
  rw [hw]
  unfold dedupeFresh
  obtain ⟨reg, idx, o, hts, hsub, ho⟩ := hm1.tryShare st c
  rw [hts]
  cases o with
  | none =>
    -- nothing shared: the fresh part is indexed (unless a stale entry was in the way) and kept
    exact ⟨acq, h.extend (Mid.tryIndex ho hheld1) hphys1 hst hheld1 (fun _ => h.mid.next_le) fun _ => rfl⟩
  | some q =>
    -- a live indexed part: share it, delete the fresh bytes
    obtain ⟨hi, hm2⟩ := ho
    have hm3 := hm2.setPhys (st := st) (v := none) h.mid.next_le (Nat.le_refl _) (fun _ => rfl)
      fun st' c' hi' => Nat.lt_irrefl _ (h.mid.idx_lt (hsub st' c' _ hi'))
    have hq : q < s.next := h.mid.idx_lt hi
    refine ⟨acq ++ [q], h.share (r := ⟨q, st, c, seq⟩) hm3 ?_ hst ?_⟩
    · intro st' p hp
      exact (set2_other_pid (Nat.ne_of_lt hp)).trans (hphys1 st' p hp)
    · exact (set2_other_pid (Nat.ne_of_lt hq)).trans (hm1.idxOk st c q hi)

theorem copyPart_txn {s0 s s1 : State} {acq pend : List Nat} {news : List NewPart} (h0 : Inv s0)
    (h : Txn s0 s acq pend news) {r : PartRow} (hr : r ∈ rows s0) {dst : SName} (hdst : dst ∈ s0.stores)
    {p i : Nat} (hc : copyPart s r.store r.pid dst = some (s1, p)) :
    Txn s0 s1 acq pend (news ++ [⟨⟨p, dst, r.content, i⟩, false⟩]) ∧ s1.phys dst p = some r.content := by
  unfold copyPart at hc
  split at hc
  · rw [h.mid.held h0 hr] at hc
    simp only [Option.some.injEq, Prod.mk.injEq] at hc
    obtain ⟨hs1, hp⟩ := hc
    subst hs1 hp
    have hheld : set2 s.phys dst s.next (some r.content) dst s.next = some r.content := set2_same _ _ _ _
    exact ⟨h.extend (h.mid.putLike dst (some r.content)) (fun _ _ hp => set2_other_pid (Nat.ne_of_lt hp)) hdst
      hheld (fun _ => h.mid.next_le) fun _ => rfl, hheld⟩
  · cases hc

/-- A part that stays where it is: recorded as pre-acquired, its reference is taken at the end. -/
theorem keep_txn {s0 s : State} {acq pend : List Nat} {news : List NewPart} (h0 : Inv s0)
    (h : Txn s0 s acq pend news) {r : PartRow} (hr : r ∈ rows s0) (i : Nat) :
    Txn s0 s acq (pend ++ [r.pid]) (news ++ [⟨{ r with seq := i }, true⟩]) := by
  refine h.extend h.mid (fun _ _ _ => rfl) (h0.held r hr).1 (h.mid.held h0 (r := r) hr) (fun hp => by cases hp) fun p => ?_
  rw [List.count_append, Nat.add_assoc]
  rfl

theorem sharedIds_cons_eq (dst : SName) (r : PartRow) (rs : List PartRow) (h : r.store = dst) :
    sharedIds dst (r :: rs) = r.pid :: sharedIds dst rs := by
  simp [sharedIds, h]

theorem sharedIds_cons_ne (dst : SName) (r : PartRow) (rs : List PartRow) (h : ¬ r.store = dst) :
    sharedIds dst (r :: rs) = sharedIds dst rs := by
  simp [sharedIds, h]

/-- TransitionObjectStorageClass's loop. -/
theorem moveParts_txn {s0 : State} (h0 : Inv s0) {dst : SName} (hdst : dst ∈ s0.stores)
    {ps : List PartRow} {s : State} {acq pend : List Nat} {news : List NewPart} {i : Nat}
    {s' : State} {ns : List NewPart} (hps : ∀ r ∈ ps, r ∈ rows s0) (h : Txn s0 s acq pend news)
    (hm : moveParts dst s ps i = some (s', ns)) :
    Txn s0 s' acq (pend ++ sharedIds dst ps) (news ++ ns) := by
  -- the cases of `moveParts.induct` in which the loop succeeds: no row left, the row stays (2), it is copied (5)
  fun_induction moveParts dst s ps i generalizing pend news s' ns <;> cases hm
  case case1 => simpa [sharedIds] using h
  case case2 s r rs i hst s1 ns1 hrec ih =>
    have := ih (List.forall_mem_cons.1 hps).2 (keep_txn h0 h (List.forall_mem_cons.1 hps).1 i) hrec
    rw [sharedIds_cons_eq dst r rs hst]
    simpa [List.append_assoc] using this
  case case5 s r rs i hst s2 p hcp s1 ns1 hrec ih =>
    have := ih (List.forall_mem_cons.1 hps).2
      (copyPart_txn h0 h (List.forall_mem_cons.1 hps).1 hdst (i := i) hcp).1 hrec
    rw [sharedIds_cons_ne dst r rs hst]
    simpa [List.append_assoc] using this

/-- CopyObject's loop. -/
theorem copyParts_txn {s0 : State} (h0 : Inv s0) {dst : SName} (hdst : dst ∈ s0.stores)
    {ps : List PartRow} {s : State} {acq pend : List Nat} {news : List NewPart} {i : Nat}
    {s' : State} {ns : List NewPart} (hps : ∀ r ∈ ps, r ∈ rows s0) (h : Txn s0 s acq pend news)
    (hm : copyParts dst s ps i = some (s', ns)) :
    ∃ acq', Txn s0 s' acq' (pend ++ sharedIds dst ps) (news ++ ns) := by
  -- successful cases of `copyParts.induct`: no row left, the row stays (2), is shared (4), is copied (7)
  fun_induction copyParts dst s ps i generalizing acq pend news s' ns <;> cases hm
  case case1 => exact ⟨acq, by simpa [sharedIds] using h⟩
  case case2 s r rs i hst s1 ns1 hrec ih =>
    obtain ⟨acq', this⟩ := ih (List.forall_mem_cons.1 hps).2
      (keep_txn h0 h (List.forall_mem_cons.1 hps).1 i) hrec
    rw [sharedIds_cons_eq dst r rs hst]
    exact ⟨acq', by simpa [List.append_assoc] using this⟩
  case case4 s r rs i hst s1 q hsh s2 ns1 hrec ih =>
    -- a live indexed part of the destination store with this content: share it
    obtain ⟨reg, idx, o, hts, _, ho⟩ := h.mid.tryShare dst r.content
    cases hts.symm.trans hsh
    obtain ⟨acq', this⟩ := ih (List.forall_mem_cons.1 hps).2
      (h.share (r := ⟨q, dst, r.content, i⟩) ho.2 (fun _ _ _ => rfl) hdst (h.mid.idxOk dst r.content q ho.1)) hrec
    rw [sharedIds_cons_ne dst r rs hst]
    exact ⟨acq', by simpa [List.append_assoc] using this⟩
  case case7 s r rs i hst s1 hsh s2 p hcp s3 ns1 hrec ih =>
    -- nothing to share: copy the bytes and index the copy
    obtain ⟨reg, idx, o, hts, _, ho⟩ := h.mid.tryShare dst r.content
    cases hts.symm.trans hsh
    obtain ⟨hk, hheld⟩ :=
      copyPart_txn h0 (h.move ho (fun _ _ _ => rfl) h.bal) (List.forall_mem_cons.1 hps).1 hdst (i := i) hcp
    obtain ⟨acq', this⟩ := ih (List.forall_mem_cons.1 hps).2
      (hk.move (hk.mid.tryIndex hheld) (fun _ _ _ => rfl) hk.bal) hrec
    rw [sharedIds_cons_ne dst r rs hst]
    exact ⟨acq', by simpa [List.append_assoc] using this⟩

/-- The closing `TryAddPartReferences` for the parts that stayed in place. -/
theorem addRefs_txn {s0 s s1 : State} {acq pend : List Nat} {news : List NewPart}
    (h : Txn s0 s acq pend news) (ha : tryAddRefs s pend = some s1) :
    Txn s0 s1 (acq ++ pend) [] news := by
  obtain ⟨hpos, rfl⟩ := tryAddRefs_some ha
  refine h.move (h.mid.addReg (fun _ => rfl) hpos) (fun _ _ _ => rfl) fun p => ?_
  rw [List.count_append, List.count_nil]
  exact h.bal p

end Pithos.ClassRouting
