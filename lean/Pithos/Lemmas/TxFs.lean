/-
Helper lemmas for the transaction/filesystem model (Model/TxFs.lean), used by Props/C03 and
Props/C10. For C03: the rollback closures, run last-registered-first, take back whatever the
pre-commit closures did (`undo_all`), and closures of different part ids commute (`LocalTo`), so
registration order does the same when no id occurs twice. For C10: `Held`, what the start-up pass
finds for a part the database references, and the steps before the commit that keep it. The closing
`namespace Pithos.C03` block holds `registerAll_code`, which `C03.nested_hooks_run_with_root` is
read off. Core Lean only.
-/
import Pithos.Model.TxFs

namespace Pithos.TxFs

-- The closures of a transaction and the update of the file map: unfolded wherever a case is decided
-- by which cells are set. `Reg.id` is not among them: on a variable call it unfolds to a `match`.
attribute [local simp] preHook renameAway publish restoreBackup rollbackHook register applyAct Files.set

def FName.id : FName → Nat
  | .part id => id
  | .backup id _ => id
  | .temp id _ => id

@[simp] theorem set_same (fs : Files) (n : FName) (v : Option Bytes) : (fs.set n v) n = v := by
  simp

theorem set_other (fs : Files) (n m : FName) (v : Option Bytes) (h : m ≠ n) : (fs.set n v) m = fs m := by
  simp [h]

theorem preLoop_zero (rs : List Reg) (i : Nat) (fs : Files) :
    preLoop rs i 0 fs = (fs, rs.map (fun _ => ({} : Flags)), true) := by
  cases rs with
  | nil => rfl
  | cons r rs => simp [preLoop]

theorem preHook_other (r : Reg) (i : Nat) (fs : Files) (nm : FName)
    (h1 : nm ≠ .part r.id) (h2 : nm ≠ .backup r.id i) (h3 : nm ≠ .temp r.id i) :
    (preHook r i fs).1 nm = fs nm := by
  cases r with
  | del id =>
    simp only [Reg.id] at h1 h2 h3
    cases hp : fs (.part id) <;> simp [Reg.id, hp, h1, h2]
  | put id c =>
    simp only [Reg.id] at h1 h2 h3
    cases hp : fs (.part id) <;> cases ht : fs (.temp id i) <;>
      simp [Reg.id, hp, ht, h1, h2, h3]

theorem set_apply (fs : Files) (n m : FName) (v : Option Bytes) : (fs.set n v) m = if m = n then v else fs m := rfl

theorem preHook_set_temp (r : Reg) (i : Nat) (X : Files) (id j : Nat) (v : Option Bytes) (hj : i ≠ j) :
    preHook r i (X.set (.temp id j) v) = ((preHook r i X).1.set (.temp id j) v, (preHook r i X).2) := by
  have hj' := hj.symm
  refine Prod.ext (funext fun nm => ?_) ?_ <;>
  cases r with
  | del id' =>
    cases hp : X (.part id') <;> simp [Reg.id, hp] <;>
      by_cases h : nm = .temp id j <;> simp [h]
  | put id' c =>
    cases hp : X (.part id') <;> cases hq : X (.temp id' i) <;>
      simp [Reg.id, hp, hq, hj] <;>
      by_cases h : nm = .temp id j <;> simp [h, hj']

theorem preHook_registerAll (r : Reg) (i : Nat) (rs : List Reg) (j : Nat) (X : Files) (hij : i < j) :
    preHook r i (registerAll rs j X) = (registerAll rs j (preHook r i X).1, (preHook r i X).2) := by
  induction rs generalizing j X with
  | nil => rfl
  | cons r' rs ih =>
    simp only [registerAll]
    rw [ih (j + 1) _ (by omega)]
    cases r' with
    | del id => rfl
    | put id c => simp only [register, preHook_set_temp r i X id j _ (by omega)]

theorem Fresh.congr {rs : List Reg} {j : Nat} {X Y : Files}
    (h : ∀ id k, j ≤ k → Y (.backup id k) = X (.backup id k) ∧ Y (.temp id k) = X (.temp id k))
    (hX : Fresh rs j X) : Fresh rs j Y := by
  induction rs generalizing j with
  | nil => trivial
  | cons r rs ih =>
    obtain ⟨hb, ht, hr⟩ := hX
    obtain ⟨h1, h2⟩ := h r.id j (Nat.le_refl _)
    exact ⟨h1.trans hb, h2.trans ht, ih (fun id k hk => h id k (by omega)) hr⟩

theorem Fresh.register {rs : List Reg} {i j : Nat} {X : Files} (r : Reg) (hij : i < j) (h : Fresh rs j X) :
    Fresh rs j (register r i X) := by
  refine h.congr fun id k hk => ?_
  cases r with
  | del _ => exact ⟨rfl, rfl⟩
  | put id' c => exact ⟨set_other _ _ _ _ (by simp), set_other _ _ _ _ (by simp; omega)⟩

theorem Fresh.preHook {rs : List Reg} {i j : Nat} {X : Files} (r : Reg) (hij : i < j) (h : Fresh rs j X) :
    Fresh rs j (preHook r i X).1 :=
  h.congr fun id k hk =>
    ⟨preHook_other r i X _ (by simp) (by simp; omega) (by simp), preHook_other r i X _ (by simp) (by simp) (by simp; omega)⟩

/-- The heart of C03: a call whose backup and temp names are unused, its pre-commit closure and
then its rollback closure leave the directory as it was. Each of the (one or two) renames of the
pre-commit closure is taken back, the later one first. -/
theorem undo_one (r : Reg) (i : Nat) (fs : Files) (hb : fs (.backup r.id i) = none) (ht : fs (.temp r.id i) = none) :
    (preHook r i (register r i fs)).2.2 = true ∧
      rollbackHook r i (preHook r i (register r i fs)).2.1 (preHook r i (register r i fs)).1 = fs := by
  cases r with
  | del id =>
    simp only [Reg.id] at hb
    cases hp : fs (.part id) with
    | none => simp [Reg.id, hp]
    | some v =>
      refine ⟨by simp [Reg.id, hp], funext fun nm => ?_⟩
      by_cases h1 : nm = .part id
      · simp [Reg.id, hp, h1]
      · by_cases h2 : nm = .backup id i
        · simp [Reg.id, hp, hb, h2]
        · simp [Reg.id, hp, h1, h2]
  | put id c =>
    simp only [Reg.id] at hb ht
    cases hp : fs (.part id) <;>
      refine ⟨by simp [Reg.id, hp], funext fun nm => ?_⟩ <;>
      by_cases h1 : nm = .part id <;> by_cases h2 : nm = .backup id i <;> by_cases h3 : nm = .temp id i <;>
      simp [Reg.id, hp, hb, ht, h1, h2, h3]

/-- … and so does a call whose pre-commit closure never ran. -/
theorem undo_unrun (r : Reg) (i : Nat) (fs : Files) (ht : fs (.temp r.id i) = none) :
    rollbackHook r i {} (register r i fs) = fs := by
  cases r with
  | del id => rfl
  | put id c =>
    funext nm
    simp only [rollbackHook, register, set_apply, Bool.false_eq_true, if_false]
    by_cases e : nm = .temp id i
    · rw [if_pos e, e]; exact ht.symm
    · rw [if_neg e, if_neg e]

/-- The calls of a transaction nest: registration, pre-commit closure (of the first `k` calls) and
rollback closure of a call enclose those of all later calls. The registrations of the later calls
come first in time, but they commute with the earlier pre-commit closures (`preHook_registerAll`),
so the innermost bracket can be removed first. -/
theorem undo_all (rs : List Reg) (i k : Nat) (fs : Files) (h : Fresh rs i fs) :
    rollbackLoop true rs i (preLoop rs i k (registerAll rs i fs)).2.1 (preLoop rs i k (registerAll rs i fs)).1 = fs := by
  induction rs generalizing i k fs with
  | nil => rfl
  | cons r rs ih =>
    obtain ⟨hb, ht, hr⟩ := h
    have hr' := hr.register r (Nat.lt_succ_self i)
    cases k with
    | zero =>
      have := ih (i + 1) 0 _ hr'
      simp only [preLoop_zero] at this
      simp only [registerAll, preLoop, rollbackLoop, List.headD_cons, List.tail_cons, if_true, this]
      exact undo_unrun r i fs ht
    | succ k =>
      obtain ⟨hok, hundo⟩ := undo_one r i fs hb ht
      have hpre := preHook_registerAll r i rs (i + 1) (register r i fs) (Nat.lt_succ_self i)
      rw [show (preHook r i (register r i fs)).2 = ((preHook r i (register r i fs)).2.1, true) by rw [← hok]] at hpre
      simp only [registerAll, preLoop, hpre, rollbackLoop, List.headD_cons, List.tail_cons, if_true,
        ih (i + 1) k _ (hr'.preHook r (Nat.lt_succ_self i))]
      exact hundo

/-- `f` reads and writes only files of part `a` (its part file, its backups, its temp files). -/
structure LocalTo (a : Nat) (f : Files → Files) : Prop where
  outside : ∀ X nm, nm.id ≠ a → f X nm = X nm
  inside : ∀ X Y, (∀ nm, nm.id = a → X nm = Y nm) → ∀ nm, nm.id = a → f X nm = f Y nm

theorem LocalTo.comm {a b : Nat} {f g : Files → Files} (hf : LocalTo a f) (hg : LocalTo b g)
    (hab : a ≠ b) (X : Files) : f (g X) = g (f X) := by
  funext nm
  by_cases ha : nm.id = a
  · have hb : nm.id ≠ b := by rw [ha]; exact hab
    rw [hg.outside _ _ hb]
    exact hf.inside _ _ (fun m hm => hg.outside _ _ (by rw [hm]; exact hab)) nm ha
  · rw [hf.outside _ _ ha]
    by_cases hb : nm.id = b
    · exact (hg.inside _ _ (fun m hm => hf.outside _ _ (by rw [hm]; exact fun e => hab e.symm)) nm hb).symm
    · rw [hg.outside _ _ hb, hg.outside _ _ hb, hf.outside _ _ ha]

theorem ne_of_id_ne {nm m : FName} (h : nm.id ≠ m.id) : nm ≠ m := fun e => h (by rw [e])

theorem LocalTo.id (a : Nat) : LocalTo a fun X => X :=
  ⟨fun _ _ _ => rfl, fun _ _ hXY => hXY⟩

theorem LocalTo.set {a : Nat} (n : FName) (v : Option Bytes) (hn : n.id = a) : LocalTo a fun X => X.set n v := by
  constructor
  · intro X nm h
    exact set_other X n nm v (ne_of_id_ne (hn ▸ h))
  · intro X Y hXY nm hnm
    simp only [Files.set, hXY nm hnm]

theorem LocalTo.comp {a : Nat} {f g : Files → Files} (hf : LocalTo a f) (hg : LocalTo a g) :
    LocalTo a fun X => f (g X) :=
  ⟨fun X nm h => (hf.outside _ nm h).trans (hg.outside X nm h),
   fun X Y hXY => hf.inside _ _ (hg.inside X Y hXY)⟩

theorem restoreBackup_local (id i : Nat) : LocalTo id (restoreBackup id i) := by
  have hmove : ∀ v, LocalTo id fun X => (X.set (.backup id i) none).set (.part id) (some v) :=
    fun v => (LocalTo.set (.part id) (some v) rfl).comp (.set (.backup id i) none rfl)
  constructor
  · intro X nm h
    unfold restoreBackup
    cases X (.backup id i) with
    | none => rfl
    | some v => exact (hmove v).outside X nm h
  · intro X Y hXY nm hnm
    unfold restoreBackup
    rw [hXY (.backup id i) rfl]
    cases Y (.backup id i) with
    | none => exact hXY nm hnm
    | some v => exact (hmove v).inside X Y hXY nm hnm

theorem rollbackHook_local (r : Reg) (i : Nat) (fl : Flags) : LocalTo r.id (rollbackHook r i fl) := by
  obtain ⟨bc, pu⟩ := fl
  cases r with
  | del id =>
    cases bc with
    | false => exact .id id
    | true => exact restoreBackup_local id i
  | put id c =>
    cases pu with
    | false => exact .set (.temp id i) none rfl
    | true =>
      cases bc with
      | false => exact .set (.part id) none rfl
      | true => exact (restoreBackup_local id i).comp (.set (.part id) none rfl)

theorem rollbackLoop_rev_comm (H : Files → Files) (a : Nat) (hH : LocalTo a H) (rs : List Reg) (i : Nat)
    (fls : List Flags) (X : Files) (hne : ∀ r ∈ rs, r.id ≠ a) :
    H (rollbackLoop true rs i fls X) = rollbackLoop true rs i fls (H X) := by
  induction rs generalizing i fls with
  | nil => rfl
  | cons r rs ih =>
    simp only [rollbackLoop, if_true]
    rw [← ih (i + 1) fls.tail (fun r' hr' => hne r' (List.mem_cons_of_mem _ hr'))]
    exact hH.comm (rollbackHook_local r i _) (fun e => hne r (List.mem_cons_self ..) e.symm) _

theorem rollbackLoop_fwd_eq_rev (rs : List Reg) (i : Nat) (fls : List Flags) (X : Files)
    (hd : rs.Pairwise fun a b => a.id ≠ b.id) :
    rollbackLoop false rs i fls X = rollbackLoop true rs i fls X := by
  induction rs generalizing i fls X with
  | nil => rfl
  | cons r rs ih =>
    rw [List.pairwise_cons] at hd
    simp only [rollbackLoop, if_true, Bool.false_eq_true, if_false]
    rw [ih (i + 1) fls.tail _ hd.2]
    exact (rollbackLoop_rev_comm _ r.id (rollbackHook_local r i _) rs (i + 1) fls.tail X
      (fun r' hr' e => hd.1 r' hr' e.symm)).symm

/-- The part-store call an atomic step belongs to, and (`Act.slot`) that call's index in the
transaction, which its backup and temp names carry. -/
def Act.reg : Act → Reg
  | .createTemp r _ => r
  | .renameAway r _ => r
  | .publish r _ => r
  | .removeBackup r _ => r

def Act.slot : Act → Nat
  | .createTemp _ i => i
  | .renameAway _ i => i
  | .publish _ i => i
  | .removeBackup _ i => i

theorem applyAct_other (s : Live) (a : Act) (nm : FName) (h : nm.id ≠ a.reg.id) :
    (applyAct s a).files nm = s.files nm := by
  cases a with
  | createTemp r i =>
    cases r with
    | del id => rfl
    | put id c =>
      have : nm ≠ .temp id i := ne_of_id_ne h
      simp [this]
  | renameAway r i =>
    have h1 : nm ≠ .part r.id := ne_of_id_ne h
    have h2 : nm ≠ .backup r.id i := ne_of_id_ne h
    simp only [applyAct, renameAway]
    split <;> simp [h1, h2]
  | publish r i =>
    have h1 : nm ≠ .part r.id := ne_of_id_ne h
    have h3 : nm ≠ .temp r.id i := ne_of_id_ne h
    cases hq : s.files (.temp r.id i) <;> simp [hq, h1, h3]
  | removeBackup r i =>
    have h2 : nm ≠ .backup r.id i := ne_of_id_ne h
    simp only [applyAct]
    split <;> simp [h2]

theorem runActs_other (s : Live) (as : List Act) (nm : FName) (h : ∀ a ∈ as, nm.id ≠ a.reg.id) :
    (runActs s as).files nm = s.files nm :=
  List.foldlRecOn (motive := fun t => t.files nm = s.files nm) as _ rfl
    fun t ht a ha => (applyAct_other t a nm (h a ha)).trans ht

theorem applyAct_removeBackup_part (s : Live) (r : Reg) (i id : Nat) :
    (applyAct s (.removeBackup r i)).files (.part id) = s.files (.part id) := by
  simp only [applyAct]
  split <;> simp

theorem mem_bodyActs (rs : List Reg) (i : Nat) (a : Act) (h : a ∈ bodyActs rs i) :
    a.reg ∈ rs ∧ a.slot < i + rs.length ∧ a.reg.isPut = true := by
  induction rs generalizing i with
  | nil => simp [bodyActs] at h
  | cons r rs ih =>
    simp only [bodyActs, List.mem_append] at h
    rcases h with h | h
    · by_cases hp : r.isPut
      · simp [hp] at h
        subst h
        exact ⟨by simp [Act.reg], by simp [Act.slot], hp⟩
      · simp [hp] at h
    · obtain ⟨h1, h2, h3⟩ := ih (i + 1) h
      exact ⟨List.mem_cons_of_mem _ h1, by simp only [List.length_cons]; omega, h3⟩

/-- The only step a DeletePart takes before the commit is its rename-away. -/
theorem mem_preActs (rs : List Reg) (i : Nat) (a : Act) (h : a ∈ preActs rs i) :
    a.reg ∈ rs ∧ a.slot < i + rs.length ∧ (a.reg.isPut = true ∨ a = .renameAway a.reg a.slot) := by
  induction rs generalizing i with
  | nil => simp [preActs] at h
  | cons r rs ih =>
    simp only [preActs, List.mem_append, List.mem_cons] at h
    rcases h with (h | h) | h
    · subst h
      exact ⟨by simp [Act.reg], by simp [Act.slot], Or.inr rfl⟩
    · by_cases hp : r.isPut
      · simp [hp] at h
        subst h
        exact ⟨by simp [Act.reg], by simp [Act.slot], Or.inl hp⟩
      · simp [hp] at h
    · obtain ⟨h1, h2, h3⟩ := ih (i + 1) h
      exact ⟨List.mem_cons_of_mem _ h1, by simp only [List.length_cons]; omega, h3⟩

theorem mem_afterActs (rs : List Reg) (i : Nat) (a : Act) (h : a ∈ afterActs rs i) :
    ∃ r j, a = .removeBackup r j := by
  induction rs generalizing i with
  | nil => simp [afterActs] at h
  | cons r rs ih =>
    simp only [afterActs, List.mem_cons] at h
    rcases h with h | h
    · exact ⟨r, i, h⟩
    · exact ih (i + 1) h

theorem runActs_after_part (s : Live) (as : List Act) (id : Nat)
    (h : ∀ a ∈ as, ∃ r j, a = .removeBackup r j) :
    (runActs s as).files (.part id) = s.files (.part id) :=
  List.foldlRecOn (motive := fun t : Live => t.files (.part id) = s.files (.part id)) as _ rfl fun t ht a ha => by
    obtain ⟨r, j, rfl⟩ := h a ha
    exact (applyAct_removeBackup_part t r j id).trans ht

theorem crashAt_committed (regs : List Reg) (k : Nat) (fs0 : Files) (hk : ¬ k ≤ (beforeCommitActs regs).length) :
    (crashAt regs k fs0).committed = true ∧
      ∀ id, (crashAt regs k fs0).files (.part id) = (runActs { files := fs0 } (beforeCommitActs regs)).files (.part id) := by
  simp only [crashAt, hk, if_false]
  exact ⟨trivial, fun id => runActs_after_part _ _ id fun a ha => mem_afterActs regs 0 a (List.mem_of_mem_take ha)⟩

theorem mem_beforeCommitActs (regs : List Reg) (a : Act) (h : a ∈ beforeCommitActs regs) :
    a.reg ∈ regs ∧ a.slot < regs.length ∧ (a.reg.isPut = true ∨ a = .renameAway a.reg a.slot) := by
  simp only [beforeCommitActs, List.mem_append] at h
  rcases h with h | h
  · obtain ⟨h1, h2, h3⟩ := mem_bodyActs regs 0 a h
    exact ⟨h1, by omega, Or.inl h3⟩
  · obtain ⟨h1, h2, h3⟩ := mem_preActs regs 0 a h
    exact ⟨h1, by omega, h3⟩

theorem firstBackup_congr (n : Nat) (fs fs' : Files) (id : Nat)
    (h : ∀ i, fs (.backup id i) = fs' (.backup id i)) : firstBackup n fs id = firstBackup n fs' id := by
  induction n with
  | zero => rfl
  | succ n ih => simp only [firstBackup, ih, h n]

theorem firstBackup_none (n : Nat) (fs : Files) (id : Nat) (h : ∀ i, i < n → fs (.backup id i) = none) :
    firstBackup n fs id = none := by
  induction n with
  | zero => rfl
  | succ n ih =>
    simp only [firstBackup, ih (fun i hi => h i (by omega)), h n (by omega)]
    rfl

theorem firstBackup_single (n : Nat) (fs : Files) (id i : Nat) (v : Bytes) (hi : i < n)
    (hv : fs (.backup id i) = some v) (ho : ∀ j, j ≠ i → fs (.backup id j) = none) :
    firstBackup n fs id = some (i, v) := by
  induction n with
  | zero => omega
  | succ n ih =>
    by_cases hlt : i < n
    · simp only [firstBackup, ih hlt]
    · have hin : i = n := by omega
      subst hin
      simp only [firstBackup, firstBackup_none i fs id (fun j hj => ho j (by omega)), hv]
      rfl

/-- The database expects part `id` to hold `b`, and recovery will find it: either the part file
is in place (and no backup of it lies around), or it was renamed away and its backup is the one
recovery picks. -/
def Held (n : Nat) (fs : Files) (id : Nat) (b : Bytes) : Prop :=
  (fs (.part id) = some b ∧ ∀ i, fs (.backup id i) = none) ∨
  (fs (.part id) = none ∧ ∃ i, firstBackup n fs id = some (i, b))

theorem held_recover (n : Nat) (fs : Files) (id : Nat) (b : Bytes) (h : Held n fs id b) :
    recover n fs (.part id) = some b := by
  rcases h with ⟨hp, _⟩ | ⟨hp, i, hf⟩
  · simp [recover, hp]
  · simp [recover, hp, hf]

theorem held_congr (n : Nat) (fs fs' : Files) (id : Nat) (b : Bytes)
    (h : ∀ nm : FName, nm.id = id → fs' nm = fs nm) (hh : Held n fs id b) : Held n fs' id b := by
  have hb : ∀ i, fs' (.backup id i) = fs (.backup id i) := fun i => h _ rfl
  rcases hh with ⟨hp, hn⟩ | ⟨hp, i, hf⟩
  · exact Or.inl ⟨by rw [h _ rfl]; exact hp, fun i => by rw [hb]; exact hn i⟩
  · exact Or.inr ⟨by rw [h _ rfl]; exact hp, i, by rw [firstBackup_congr n fs' fs id hb]; exact hf⟩

theorem held_applyAct (n : Nat) (s : Live) (a : Act) (id : Nat) (b : Bytes)
    (ha : a.reg.id ≠ id ∨ ∃ i, i < n ∧ a = .renameAway (.del id) i)
    (hh : Held n s.files id b) : Held n (applyAct s a).files id b := by
  rcases ha with ha | ⟨i, hi, rfl⟩
  · exact held_congr n _ _ id b (fun nm hnm => applyAct_other s a nm (by rw [hnm]; exact fun e => ha e.symm)) hh
  · rcases hh with ⟨hp, hn⟩ | ⟨hp, j, hf⟩
    · refine Or.inr ⟨?_, i, ?_⟩
      · simp [Reg.id, hp]
      · apply firstBackup_single n _ id i b hi
        · simp [Reg.id, hp]
        · intro j hj
          simp [Reg.id, hp, hj, hn j]
    · refine Or.inr ⟨?_, j, ?_⟩
      · simp [Reg.id, hp]
      · simpa [Reg.id, hp] using hf

theorem held_runActs (n : Nat) (s : Live) (as : List Act) (id : Nat) (b : Bytes)
    (ha : ∀ a ∈ as, a.reg.id ≠ id ∨ ∃ i, i < n ∧ a = .renameAway (.del id) i)
    (hh : Held n s.files id b) : Held n (runActs s as).files id b :=
  List.foldlRecOn (motive := fun t => Held n t.files id b) as _ hh
    fun t ht a ha' => held_applyAct n t a id b (ha a ha') ht

theorem recover_part_of_some (n : Nat) (fs : Files) (id : Nat) (v : Bytes) (h : fs (.part id) = some v) :
    recover n fs (.part id) = some v := by
  simp [recover, h]

theorem consistentB_iff (fs : Files) (refs : Refs) : consistentB fs refs = true ↔ Consistent fs refs := by
  simp [consistentB, Consistent]

end Pithos.TxFs

namespace Pithos.C03
open Pithos.TxFs

theorem registerAll_code (c : Ctl) (calls : List (Handle × Reg)) (i : Nat) :
    Ctl.registerAll Routing.code c calls i =
      { pre := c.pre ++ closuresOf .pre (calls.map (·.2)) i,
        after := c.after ++ closuresOf .after (calls.map (·.2)) i,
        rollback := c.rollback ++ closuresOf .rollback (calls.map (·.2)) i } := by
  induction calls generalizing c i with
  | nil => simp [Ctl.registerAll, closuresOf]
  | cons hr rest ih =>
    obtain ⟨h, r⟩ := hr
    simp only [Ctl.registerAll, List.map_cons, closuresOf]
    rw [ih]
    simp [Ctl.registerCall, Ctl.add, Routing.code, List.append_assoc]

end Pithos.C03
