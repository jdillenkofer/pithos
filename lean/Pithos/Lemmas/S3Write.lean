/-
The write path `putRow` of the storage model in normal form: three refusal tests on the current row of
the key, then `install` into the bucket in which a conditional write has saved that row again
(`lockRow`). Nothing here needs an invariant; `Pithos.Lemmas.S3Rows` shows that with distinct row ids the
lock leaves no trace (`install_lockRow`). Also the lookups around it, named: `withB` (the bucket; the clock tick
every call starts with is invisible to it, `findBucket_tick`), `withU` (the upload), `unpack` (the answer made
of a `putRow` result), and the calls of `stepT` in these terms, one equation each (`stepT_put_eq`, …;
`appendFrom` and `resave` name the two branches with a shape of their own;
copy, setVer and listBuckets have none). A proof that has to know what a call is rewrites with its equation.
A case of `stepT` also reduces to these terms, so a lemma stated over them (`withB_ind`, `withU_ind`,
`found_of_ok`) applies to `stepT q s (.put …)` as it stands: so `stepT_eff` and `C11.copy_directives`.
-/
import Pithos.Model.S3
namespace Pithos.S3

/-- "the latest row is a live object" -/
def live : Option Row → Bool
  | some r => !r.dm
  | none => false

/-- the bucket after the conditional-write lock (re-save of the latest row) in `putRow` -/
def lockRow (q : Quirks) (now : Nat) (bk : Bucket) (k : String) (inm : Bool) (im : IfMatch) : Bucket :=
  match latestRow bk k with
  | some r => if inm || im != .none then replaceRow bk (touch q now r) else bk
  | none => bk

theorem putRow_eq (q : Quirks) (s : State) (bk : Bucket) (k : String) (n : NewObj) (inm : Bool) (im : IfMatch) :
    putRow q s bk k n inm im =
      if !ifMatchOk im (latestRow bk k) then .error .preconditionFailed
      else if inm && live (latestRow bk k) then .error .preconditionFailed
      else if inm && bk.ver != .enabled && (nullRow (lockRow q s.clock bk k inm im) k).any (·.latest) then
        .error .preconditionFailed
      else .ok (install q s (lockRow q s.clock bk k inm im) k n) := by
  unfold putRow live lockRow; rfl

theorem putRow_unconditional (q : Quirks) (s : State) (bk : Bucket) (k : String) (n : NewObj) :
    putRow q s bk k n false .none = .ok (install q s bk k n) := by
  unfold putRow
  cases latestRow bk k <;> simp [ifMatchOk]

theorem putRow_ok_install {q : Quirks} {s : State} {bk : Bucket} {k : String} {n : NewObj} {inm : Bool} {im : IfMatch}
    {x : State × Option Nat} (hok : putRow q s bk k n inm im = .ok x) :
    x = install q s (lockRow q s.clock bk k inm im) k n := by
  rw [putRow_eq] at hok
  split at hok
  · cases hok
  · split at hok
    · cases hok
    · split at hok
      · cases hok
      · exact (Except.ok.inj hok).symm

theorem putRow_ok_lock {q : Quirks} {s : State} {bk : Bucket} {k : String} {n : NewObj} {inm : Bool} {im : IfMatch}
    {x : State × Option Nat} (hok : putRow q s bk k n inm im = .ok x) :
    ∃ bk1, (bk1 = bk ∨ ∃ r, latestRow bk k = some r ∧ bk1 = replaceRow bk (touch q s.clock r)) ∧
      x = install q s bk1 k n := by
  refine ⟨_, ?_, putRow_ok_install hok⟩
  unfold lockRow
  cases latestRow bk k with
  | none => exact .inl rfl
  | some r =>
    dsimp only
    split
    · exact .inr ⟨r, rfl, rfl⟩
    · exact .inl rfl

/-- `stepT`'s bucket lookup (its local `withBucket`): a case of `stepT` unfolds to it, so a lemma about
`withB` applies to the case as it stands. -/
def withB (s : State) (b : String) (f : Bucket → State × Out) : State × Out :=
  match findBucket s b with
  | none => (s, .err .noSuchBucket)
  | some bk => f bk

theorem withB_ind {s : State} {b : String} {f : Bucket → State × Out} {P : State × Out → Prop}
    (hnone : P (s, .err .noSuchBucket)) (hf : ∀ bk, findBucket s b = some bk → P (f bk)) : P (withB s b f) := by
  unfold withB
  cases hfb : findBucket s b with
  | none => exact hnone
  | some bk => exact hf bk hfb

theorem withB_some {s : State} {b : String} {bk : Bucket} (h : findBucket s b = some bk) (f : Bucket → State × Out) :
    withB s b f = f bk := by
  rw [withB, h]

theorem findBucket_tick (s : State) (c : Nat) (b : String) : findBucket { s with clock := c } b = findBucket s b := rfl

/-- How `stepT` turns a `putRow` result into its answer. -/
def unpack (s : State) (f : Option Nat → Out) : Except Err (State × Option Nat) → State × Out
  | .error e => (s, .err e)
  | .ok (s', vid) => (s', f vid)

theorem unpack_ok (s : State) (f : Option Nat → Out) (p : State × Option Nat) : unpack s f (.ok p) = (p.1, f p.2) := rfl

/-- The upload lookup of the multipart calls. -/
def withU (s : State) (bk : Bucket) (uid : Nat) (k : String) (f : Upload → State × Out) : State × Out :=
  match bk.uploads.find? (fun u => u.uid == uid && u.key == k) with
  | none => (s, .err .noSuchKey)
  | some u => f u

theorem withU_ind {s : State} {bk : Bucket} {uid : Nat} {k : String} {f : Upload → State × Out} {P : State × Out → Prop}
    (hnone : P (s, .err .noSuchKey)) (hf : ∀ u ∈ bk.uploads, u.uid = uid → u.key = k → P (f u)) : P (withU s bk uid k f) := by
  unfold withU
  cases hu : bk.uploads.find? (fun u => u.uid == uid && u.key == k) with
  | none => exact hnone
  | some u =>
    have h := List.find?_some hu
    simp only [Bool.and_eq_true, beq_iff_eq] at h
    exact hf u (List.mem_of_find?_eq_some hu) h.1 h.2

/-- The row an append extends: the current row of the key unless that is a delete marker. -/
def liveCur (bk : Bucket) (k : String) : Option Row :=
  match latestRow bk k with
  | some r => if r.dm then none else some r
  | none => none

theorem liveCur_some {bk : Bucket} {k : String} {r : Row} (h : liveCur bk k = some r) : latestRow bk k = some r := by
  unfold liveCur at h
  cases hl : latestRow bk k with
  | none => rw [hl] at h; cases h
  | some r' =>
    rw [hl] at h
    by_cases hd : r'.dm = true <;> simp [hd] at h
    rw [h]

/-- The parts of the row an append extends. -/
def partsOf (ex : Option Row) : List Bytes :=
  match ex with
  | some r => r.parts
  | none => []

/-- The append branch of `stepT` as a function of the row `ex` it extends. -/
def appendFrom (q : Quirks) (s : State) (bk : Bucket) (k : String) (body : Bytes) (off : Option Nat) (ex : Option Row) :
    State × Out :=
  let offOk := match off with
    | none => true
    | some n => match ex with | none => n == 0 | some r => n == r.size
  if !offOk then (s, .err .invalidWriteOffset)
  else
    let parts := (match ex with | some r => r.parts | none => []) ++ [body]
    let keep : WriteOpts := match ex with
      | some r => { ct := r.ct, md := r.md, tags := r.tags, cls := r.cls }
      | none => {}
    let viaPut (o : WriteOpts) : State × Out :=
      match putRow q s bk k { parts := parts, etag := multiETag parts, o := o } false .none with
      | .error e => (s, .err e)
      | .ok (s', _) => (s', .appended (multiETag parts) parts.flatten.length)
    if bk.ver == .enabled then
      viaPut (match ex with
        | some r => if q.appendEnabledDropsMeta then { ct := r.ct }
                    else { ct := r.ct, md := r.md, tags := r.tags, cls := r.cls }
        | none => {})
    else
      match (if q.appendLatestInPlace then latestRow bk k else
          match ex with | some r => if r.vid.isNone then some r else none | none => none) with
      | some r =>
        if r.seqBase == 1 && !r.parts.isEmpty then (s, .err .other) else
        (setBucket s (replaceRow bk
            { r with dm := false, latest := true, updated := s.clock, wrote := s.clock, parts := parts,
                     etag := multiETag parts, seqBase := if r.parts.isEmpty then 0 else r.seqBase }),
          .appended (multiETag parts) parts.flatten.length)
      | none =>
        if q.appendLatestInPlace then
          ({ setBucket s (addRow bk
              { rowId := s.nextRow, key := k, vid := none, latest := true, created := s.clock, updated := s.clock,
                wrote := s.clock, parts := parts, etag := multiETag parts }) with nextRow := s.nextRow + 1 },
            .appended (multiETag parts) parts.flatten.length)
        else viaPut keep

/-- The branch of `stepT` shared by tagging and transitions: the row that a read of `(b, k, vid)`
resolves is saved again as `f` of it. -/
def resave (q : Quirks) (s : State) (b k : String) (vid : Option (Option Nat)) (g : Err → Err) (f : Row → Row) :
    State × Out :=
  withB s b fun bk =>
    match resolve bk k vid with
    | .error e => (s, .err (g e))
    | .ok r => (setBucket s (replaceRow bk (touch q s.clock (f r))), .unit)

theorem step_eq_stepT (q : Quirks) (s : State) (op : Op) : step q s op = stepT q { s with clock := s.clock + 1 } op := rfl

theorem stepT_transition (q : Quirks) (s : State) (b k cls : String) (vid : Option (Option Nat)) :
    stepT q s (.transition b k cls vid) =
      resave q s b k vid (fun _ => .noSuchKey) fun r => { r with cls := some cls, seqBase := 0 } := by
  simp only [stepT, resave, withB]
  cases findBucket s b with
  | none => rfl
  | some bk =>
    cases vid with
    | none | some v =>
      simp only [resolve]
      split
      · rfl
      · split <;> rfl

theorem stepT_mkb_eq (q : Quirks) (s : State) (b : String) :
    stepT q s (.mkb b) = if (findBucket s b).isSome then (s, .err .bucketAlreadyExists)
      else ({ s with buckets := s.buckets ++ [{ name := b }] }, .unit) := rfl

theorem stepT_rmb_eq (q : Quirks) (s : State) (b : String) :
    stepT q s (.rmb b) = withB s b fun bk =>
      if !bk.rows.isEmpty || !bk.uploads.isEmpty then (s, .err .bucketNotEmpty)
      else ({ s with buckets := s.buckets.filter (·.name != b) }, .unit) := rfl

theorem stepT_put_eq (q : Quirks) (s : State) (b k : String) (body : Bytes) (o : WriteOpts) (inm : Bool) (im : IfMatch) :
    stepT q s (.put b k body o inm im) = withB s b fun bk =>
      unpack s (fun vid => .wrote vid (singleETag body))
        (putRow q s bk k { parts := [body], etag := singleETag body, o := o } inm im) := rfl

theorem stepT_get_eq (q : Quirks) (s : State) (b k : String) (vid : Option (Option Nat)) :
    stepT q s (.get b k vid) = withB s b fun bk =>
      match resolve bk k vid with
      | .error e => (s, .err e)
      | .ok r => (s, .obj (viewOf r)) := rfl

theorem stepT_head_eq (q : Quirks) (s : State) (b k : String) (vid : Option (Option Nat)) :
    stepT q s (.head b k vid) = stepT q s (.get b k vid) := rfl

theorem stepT_getTags_eq (q : Quirks) (s : State) (b k : String) (vid : Option (Option Nat)) :
    stepT q s (.getTags b k vid) = withB s b fun bk =>
      match resolve bk k vid with
      | .error e => (s, .err e)
      | .ok r => (s, .tags r.tags) := rfl

theorem stepT_del_eq (q : Quirks) (s : State) (b k : String) (vid : Option (Option Nat)) (im : IfMatch) :
    stepT q s (.del b k vid im) = withB s b fun bk => deleteOp q s bk k vid im := rfl

theorem stepT_append_eq (q : Quirks) (s : State) (b k : String) (body : Bytes) (off : Option Nat) :
    stepT q s (.append b k body off) = withB s b fun bk => appendFrom q s bk k body off (liveCur bk k) := rfl

theorem stepT_mpu_eq (q : Quirks) (s : State) (b k : String) (o : WriteOpts) :
    stepT q s (.mpu b k o) = withB s b fun bk =>
      ({ setBucket s { bk with uploads := bk.uploads ++
            [{ uid := s.nextUid, key := k, created := s.clock, ct := o.ct, md := o.md, tags := o.tags, cls := o.cls }] }
          with nextUid := s.nextUid + 1 }, .upload s.nextUid) := rfl

theorem stepT_uploadPart_eq (q : Quirks) (s : State) (b k : String) (uid n : Nat) (body : Bytes) :
    stepT q s (.uploadPart b k uid n body) = withB s b fun bk =>
      withU s bk uid k fun u =>
        (setBucket s { bk with uploads := bk.uploads.map fun x =>
            if x.uid == uid then { u with parts := sortedInsert n body u.parts } else x },
          .part (singleETag body)) := rfl

theorem stepT_complete_eq (q : Quirks) (s : State) (b k : String) (uid : Nat) (declared : Option (List Nat))
    (inm : Bool) (im : IfMatch) :
    stepT q s (.complete b k uid declared inm im) = withB s b fun bk =>
      withU s bk uid k fun u =>
        if !contiguousFrom 1 u.parts then (s, .err .other)
        else
          match declaredErr u declared with
          | some e => (s, .err e)
          | none =>
            unpack s (fun vid => .wrote vid (multiETag (u.parts.map (·.2))))
              (putRow q s { bk with uploads := bk.uploads.filter (·.uid != uid) } k
                { parts := u.parts.map (·.2), etag := multiETag (u.parts.map (·.2)),
                  o := { ct := u.ct, md := u.md, tags := u.tags, cls := u.cls },
                  created := some u.created, seqBase := 1 } inm im) := rfl

theorem stepT_abort_eq (q : Quirks) (s : State) (b k : String) (uid : Nat) :
    stepT q s (.abort b k uid) = withB s b fun bk =>
      withU s bk uid k fun _ => (setBucket s { bk with uploads := bk.uploads.filter (·.uid != uid) }, .unit) := rfl

theorem stepT_putTags_eq (q : Quirks) (s : State) (b k : String) (vid : Option (Option Nat)) (t : Pairs) :
    stepT q s (.putTags b k vid t) = resave q s b k vid id fun r => { r with tags := t } := rfl

theorem stepT_delTags_eq (q : Quirks) (s : State) (b k : String) (vid : Option (Option Nat)) :
    stepT q s (.delTags b k vid) = resave q s b k vid id fun r => { r with tags := [] } := rfl

theorem stepT_list_eq (q : Quirks) (s : State) (b : String) :
    stepT q s (.list b) = withB s b fun bk =>
      (s, .listing ((sortBy (fun a b => a.key < b.key) (bk.rows.filter fun r => r.latest && !r.dm)).map
        fun r => (r.key, r.size, r.etag, r.cls))) := rfl

/-- The order of ListObjectVersions: key ascending, then version id descending with the null version last. -/
def verLt (a b : Row) : Bool :=
  a.key < b.key || (a.key == b.key && (match a.vid, b.vid with
    | some x, some y => x > y
    | some _, none => true
    | none, _ => false))

theorem stepT_listVersions_eq (q : Quirks) (s : State) (b : String) :
    stepT q s (.listVersions b) = withB s b fun bk =>
      (s, .versions ((sortBy verLt bk.rows).map fun r =>
        { key := r.key, vid := r.vid, latest := r.latest, dm := r.dm, size := r.size, updated := r.updated,
          rowId := r.rowId, cls := r.cls })) := rfl

theorem pair_ite {P : State → Out → Prop} {c : Prop} [Decidable c] {x y : State × Out} (hx : P x.1 x.2) (hy : P y.1 y.2) :
    P (if c then x else y).1 (if c then x else y).2 := by
  split <;> assumption

theorem pair_dite {P : State → Out → Prop} {c : Prop} [Decidable c] {x y : State × Out} (hx : c → P x.1 x.2)
    (hy : ¬c → P y.1 y.2) : P (if c then x else y).1 (if c then x else y).2 := by
  split
  · exact hx ‹_›
  · exact hy ‹_›

end Pithos.S3
