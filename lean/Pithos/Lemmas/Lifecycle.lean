/-
Helper lemmas for C25 (model `Pithos.Lifecycle`, spec `Pithos.LifecycleS3`): due-time arithmetic,
the rule matcher against the S3 filter semantics, what each per-object decision function returns,
the walk over one key's sorted versions, the store-level effect of guarded deletes. Core Lean only.
-/
import Pithos.Model.Lifecycle
import Pithos.Spec.LifecycleS3
import Pithos.Lemmas.ListFacts

namespace Pithos.Lifecycle
open Pithos.LifecycleS3

theorem nextMidnight_gt (t : Int) : t < nextMidnight t := by
  unfold nextMidnight dayNs; omega

theorem nextMidnight_le (t : Int) : nextMidnight t ≤ t + dayNs := by
  unfold nextMidnight dayNs; omega

theorem nextMidnight_mod (t : Int) : nextMidnight t % dayNs = 0 := by
  unfold nextMidnight dayNs; omega

theorem nextMidnight_mono {a b : Int} (h : a ≤ b) : nextMidnight a ≤ nextMidnight b := by
  unfold nextMidnight dayNs; omega

theorem dueDays_eq_s3Due (t n : Int) : dueDays t n = s3Due t n := by
  unfold dueDays nextMidnight s3Due dayNs; rfl

theorem s3Due_mono {a b : Int} (n : Int) (h : a ≤ b) : s3Due a n ≤ s3Due b n := by
  unfold s3Due; omega

theorem s3Due_le {t t' n now : Int} (h : dueDays t n ≤ now) (ht : t' ≤ t) : s3Due t' n ≤ now := by
  rw [dueDays_eq_s3Due] at h
  exact Int.le_trans (s3Due_mono n ht) h

theorem isDue_some {d now : Int} : isDue (some d) now = true ↔ d ≤ now := by
  simp [isDue]

theorem isDue_none {now : Int} : isDue none now = false := rfl

theorem hasTag_eq (tags : Tags) : hasTag tags = fun t => tagLookup tags t.1 == some t.2 := rfl

theorem dec_le_not_lt (a b : Int) : decide (a ≤ b) = !decide (b < a) := by
  rw [← decide_not]; exact decide_eq_decide.2 Int.not_lt.symm

theorem ruleMatches_eq_selects (r : Rule) (key : Bytes) (size : Int) (tags : Tags)
    (h : filterWellFormed r = true) : ruleMatches r key size tags = selects r key size tags := by
  rcases r with ⟨en, pfx, filter, ex, ab, tr, nce, nct⟩
  cases filter with
  | none =>
    cases pfx <;>
      simp [ruleMatches, selects, rulePrefix, prefixSelects, rulePrefixes, ruleGts, ruleLts, ruleTags]
  | some f =>
    rcases f with ⟨fp, ft, fg, fl, fa⟩
    cases pfx with
    | some p => simp [filterWellFormed] at h
    | none =>
      cases fa with
      | none =>
        cases fp <;> cases ft <;> cases fg <;> cases fl <;>
          simp [filterWellFormed, optCount] at h <;>
          simp [ruleMatches, selects, rulePrefix, prefixSelects, rulePrefixes, ruleGts, ruleLts, ruleTags,
            filterGt, filterLt, filterTags, hasTag_eq, dec_le_not_lt]
      | some a =>
        rcases a with ⟨ap, at_, ag, al⟩
        cases fp <;> cases ft <;> cases fg <;> cases fl <;>
          simp [filterWellFormed, optCount] at h
        cases ap <;> cases ag <;> cases al <;>
          simp [ruleMatches, selects, rulePrefix, prefixSelects, rulePrefixes, ruleGts, ruleLts, ruleTags,
            filterGt, filterLt, filterTags, hasTag_eq, dec_le_not_lt, Bool.and_assoc]

/-- every rule is shaped as the validator demands (filter part) -/
def WF (rules : List Rule) : Prop := ∀ r ∈ rules, filterWellFormed r = true

/-- How every "only when due" statement is closed: an enabled rule of a well-formed list that the
code's matcher accepts and that is due (`D`) justifies the call in S3's terms. -/
theorem any_selected {rules : List Rule} (hwf : WF rules) {r : Rule} (hr : r ∈ rules) (hen : r.enabled = true)
    {key : Bytes} {size : Int} {tags : Tags} (hm : ruleMatches r key size tags = true)
    (D : Rule → Bool) (hD : D r = true) :
    (rules.any fun r => r.enabled && selects r key size tags && D r) = true := by
  rw [List.any_eq_true]
  exact ⟨r, hr, by rw [← ruleMatches_eq_selects r _ _ _ (hwf r hr)]; simp [hen, hm, hD]⟩

/-- … and likewise where S3 only asks for the prefix (entries without size and tags). -/
theorem any_prefixSelected {rules : List Rule} (hwf : WF rules) {r : Rule} (hr : r ∈ rules) (hen : r.enabled = true)
    {key : Bytes} {size : Int} (hm : ruleMatches r key size [] = true) (D : Rule → Bool) (hD : D r = true) :
    (rules.any fun r => r.enabled && prefixSelects r key && D r) = true := by
  rw [List.any_eq_true]
  rw [ruleMatches_eq_selects r _ _ _ (hwf r hr)] at hm
  unfold selects at hm
  simp only [Bool.and_eq_true] at hm
  exact ⟨r, hr, by simp [hen, hm.1.1.1, hD]⟩

/-- Each class test of the model (`isExpirationRule`, `isTransitionRule`, `isAbortRule`,
`isNcExpirationRule`, `isNcTransitionRule`, `isDmRule`) is `r.enabled && …`. -/
theorem enabled_of_class {r : Rule} {b : Bool} (h : (r.enabled && b) = true) : r.enabled = true :=
  (Bool.and_eq_true_iff.1 h).1

/-- A day count due by the listed instant `t` is due, in S3's terms, for every true instant `t' ≤ t`. (The
`match`es are written as the S3 predicates write them, so that the lemmas below apply to each of them.) -/
theorem days_due {days : Option Int} {t t' now : Int} (h : isDue (days.map (dueDays t)) now = true) (ht : t' ≤ t) :
    (match (generalizing := false) days with | some n => decide (s3Due t' n ≤ now) | none => false) = true := by
  cases days with
  | none => cases h
  | some n => exact decide_eq_true (s3Due_le (isDue_some.1 h) ht)

theorem date_or_days_due {date days : Option Int} {t t' now : Int}
    (h : isDue (match (generalizing := false) date with | some d => some d | none => days.map (dueDays t)) now = true)
    (ht : t' ≤ t) :
    ((match (generalizing := false) date with | some d => decide (d ≤ now) | none => false) ||
      (match (generalizing := false) days with | some n => decide (s3Due t' n ≤ now) | none => false)) = true := by
  cases date with
  | some d => exact Bool.or_eq_true_iff.2 (.inl (decide_eq_true (isDue_some.1 h)))
  | none => exact Bool.or_eq_true_iff.2 (.inr (days_due h ht))

theorem expirationDueBy_of_isDue {r : Rule} {now lm created : Int} (hc : created ≤ lm)
    (h : isDue (expirationDue r lm) now = true) : expirationDueBy r now created = true := by
  unfold expirationDue at h
  unfold expirationDueBy
  cases he : r.expiration with
  | none => rw [he] at h; cases h
  | some e => rw [he] at h; exact date_or_days_due h hc

/-- The decision "the first rule of its class that fires issues the call". The hypothesis is the body
of `expireObj`, `abortUpl`, `ncExpireVer` and (behind its two guards) `dmKey` as the model writes it,
so `firstRule_some h` takes `h : expireObj … = some c` by unfolding alone, and stops doing so when one
of those bodies is written differently. -/
theorem firstRule_some {α : Type} {rules : List Rule} {cls fires : Rule → Bool} {a c : α}
    (h : (match (generalizing := false) (rules.filter cls).find? fires with
      | some _ => some a
      | none => none) = some c) :
    c = a ∧ ∃ r ∈ rules, cls r = true ∧ fires r = true := by
  split at h
  · rename_i r hr
    have hm := List.mem_filter.1 (List.mem_of_find?_eq_some hr)
    exact ⟨(Option.some.inj h).symm, r, hm.1, hm.2, List.find?_some hr⟩
  · cases h

theorem pickLatest_mem (acc : Option (Int × Bytes)) (l : List (Int × Bytes)) (x : Int × Bytes)
    (h : pickLatest acc l = some x) : x ∈ l ∨ acc = some x := by
  fun_induction pickLatest acc l
  case case1 => exact Or.inr h
  case case4 a c cs hlt ih => exact (ih h).imp_left (List.mem_cons_of_mem _)
  -- in the other two cases the head of the list becomes the accumulator
  all_goals
    rename_i ih
    rcases ih h with h1 | h1
    · exact Or.inl (List.mem_cons_of_mem _ h1)
    · cases h1
      exact Or.inl List.mem_cons_self

/-- The decision "among the transitions `ts r` of the matching rules of a class that have a due time
and pass the test `ok`, the one due latest names the target of the call": the body of `transitionObj`
and `ncTransitionVer`, met by unfolding like the hypothesis of `firstRule_some`. -/
theorem latest_some {T : Type} {rules : List Rule} {cls m : Rule → Bool} {ts : Rule → List T}
    {due : T → Option Int} {ok : T → Int → Bool} {tc : T → Bytes} {call : Bytes → Call} {c : Call}
    (h : (match (generalizing := false) pickLatest none ((rules.filter cls).flatMap fun r =>
          if m r then (ts r).filterMap fun t =>
            match (generalizing := false) due t with
            | some d => if ok t d then some (d, tc t) else none
            | none => none
          else []) with
        | some (_, target) => some (call target)
        | none => none) = some c) :
    ∃ r ∈ rules, cls r = true ∧ m r = true ∧
      ∃ t ∈ ts r, c = call (tc t) ∧ ∃ d, due t = some d ∧ ok t d = true := by
  split at h
  · rename_i d target hp
    rcases pickLatest_mem _ _ _ hp with hm | hm
    · obtain ⟨r, hr, hc⟩ := List.mem_flatMap.1 hm
      rw [List.mem_filter] at hr
      split at hc
      · rename_i hmr
        obtain ⟨t, ht, hg⟩ := List.mem_filterMap.1 hc
        refine ⟨r, hr.1, hr.2, hmr, t, ht, ?_⟩
        split at hg
        · rename_i d' hd'
          split at hg
          · rename_i hok
            cases hg
            exact ⟨(Option.some.inj h).symm, d, hd', hok⟩
          · cases hg
        · cases hg
      · cases hc
    · cases hm
  · cases h

theorem expireObj_some {rules : List Rule} {now : Int} {o : Obj} {c : Call}
    (h : expireObj rules now o = some c) :
    c = .del o.key none (some o.etag) ∧
    ∃ r ∈ rules, isExpirationRule r = true ∧ isDue (expirationDue r o.lm) now = true ∧
      ruleMatches r o.key o.size o.tags = true := by
  obtain ⟨hc, r, hr, hk, hp⟩ := firstRule_some h
  exact ⟨hc, r, hr, hk, Bool.and_eq_true_iff.1 hp⟩

theorem transitionDueBy_of_due {t : Transition} {now lm created : Int} (hc : created ≤ lm)
    (h : isDue (transitionDue t lm) now = true) : transitionDueBy t now created = true :=
  date_or_days_due h hc

theorem transitionObj_some {rules : List Rule} {now : Int} {o : Obj} {c : Call}
    (h : transitionObj rules now o = some c) :
    ∃ target, c = .trans o.key target none (some o.etag) ∧
    ∃ r ∈ rules, r.enabled = true ∧ ruleMatches r o.key o.size o.tags = true ∧
      ∃ t ∈ r.transitions, t.cls = target ∧ t.cls ≠ o.cls ∧ isDue (transitionDue t o.lm) now = true := by
  obtain ⟨r, hr, hk, hmatch, t, ht, hc, d, hd, hok⟩ := latest_some h
  simp only [Bool.and_eq_true, Bool.not_eq_true', decide_eq_false_iff_not, Int.not_lt, bne_iff_ne, ne_eq] at hok
  exact ⟨_, hc, r, hr, enabled_of_class hk, hmatch, t, ht, rfl, hok.2, hd ▸ isDue_some.2 hok.1⟩

theorem abortUpl_some {rules : List Rule} {now : Int} {u : Upl} {c : Call}
    (h : abortUpl rules now u = some c) :
    c = .abort u.key u.uploadId ∧
    ∃ r ∈ rules, r.enabled = true ∧ ruleMatches r u.key 0 [] = true ∧ isDue (abortDue r u.initiated) now = true := by
  obtain ⟨hc, r, hr, hk, hp⟩ := firstRule_some h
  exact ⟨hc, r, hr, enabled_of_class hk, Bool.and_eq_true_iff.1 hp⟩

/-- `c` is what `f` answers for an entry `v` of `l` that is neither latest nor a delete marker, given
the LastModified of the entry `u` directly before `v` and a counter that exceeds the number of entries
before `u` by at most `k`. -/
def WalkCall (f : Ver → Int → Nat → Option Call) (l : List Ver) (k : Nat) (c : Call) : Prop :=
  ∃ pre u v post cnt, l = pre ++ u :: v :: post ∧ v.latest = false ∧ v.dm = false ∧
    f v u.lm cnt = some c ∧ cnt ≤ k + pre.length

theorem WalkCall.cons {f : Ver → Int → Nat → Option Call} {l : List Ver} {k k' : Nat} {c : Call}
    (h : WalkCall f l k' c) (hk : k' ≤ k + 1) (u : Ver) : WalkCall f (u :: l) k c := by
  obtain ⟨pre, u', v, post, cnt, hl, hlat, hdm, hf, hcnt⟩ := h
  exact ⟨u :: pre, u', v, post, cnt, by rw [hl]; rfl, hlat, hdm, hf, by rw [List.length_cons]; omega⟩

theorem ncWalk_some (f : Ver → Int → Nat → Option Call) (rest : List Ver) (u : Ver) (cnt : Nat) :
    ∀ c ∈ ncWalk f (some u.lm) cnt rest, WalkCall f (u :: rest) cnt c := by
  induction rest generalizing u cnt with
  | nil => intro c hc; cases hc
  | cons v rest ih =>
    intro c hc
    unfold ncWalk at hc
    split at hc
    · exact (ih v cnt c hc).cons (Nat.le_succ _) u
    · rename_i hflags
      rw [Bool.or_eq_true, not_or, Bool.not_eq_true, Bool.not_eq_true] at hflags
      rcases List.mem_append.1 hc with hc | hc
      · exact ⟨[], u, v, rest, cnt, rfl, hflags.1, hflags.2, Option.mem_toList.1 hc, Nat.le_add_right _ _⟩
      · exact (ih v (cnt + 1) c hc).cons (Nat.le_refl _) u

theorem ncWalk_sound (f : Ver → Int → Nat → Option Call) (l : List Ver) :
    ∀ c ∈ ncWalk f none 0 l, WalkCall f l 0 c := by
  cases l with
  | nil => intro c hc; cases hc
  | cons v rest =>
    intro c hc
    refine ncWalk_some f rest v 0 c ?_
    unfold ncWalk at hc
    split at hc <;> exact hc

theorem isSort : InsertionSort (fun v w : Ver => ¬ v.lm < w.lm) insertByLm sortByLm :=
  ⟨fun _ => rfl, fun _ _ _ => by rw [ite_not]; rfl, rfl, fun _ _ => rfl⟩

theorem mem_sortByLm (x : Ver) (l : List Ver) : x ∈ sortByLm l ↔ x ∈ l := isSort.mem_sort

theorem mem_group {vs : List Ver} {k : Bytes} {x : Ver} (h : x ∈ group vs k) : x ∈ vs ∧ x.key = k := by
  unfold group at h
  rw [mem_sortByLm, List.mem_filter] at h
  exact ⟨h.1, by simpa using h.2⟩

/-- A noncurrent sweep (`ncExpirePhase`, `ncTransitionPhase`): every call comes from the walk over one
key's group, and the version acted on is a listed one. -/
theorem mem_ncSweep {f : Ver → Int → Nat → Option Call} {vs : List Ver} {c : Call}
    (hc : c ∈ (keysOf vs).flatMap fun k => ncWalk f none 0 (group vs k)) :
    ∃ k pre u v post cnt, group vs k = pre ++ u :: v :: post ∧ v ∈ vs ∧ v.latest = false ∧ v.dm = false ∧
      f v u.lm cnt = some c ∧ cnt ≤ pre.length := by
  obtain ⟨k, _, hw⟩ := List.mem_flatMap.1 hc
  obtain ⟨pre, u, v, post, cnt, hsplit, hl, hdm, hf, hcnt⟩ := ncWalk_sound f (group vs k) c hw
  have hv : v ∈ group vs k := by rw [hsplit]; simp
  exact ⟨k, pre, u, v, post, cnt, hsplit, (mem_group hv).1, hl, hdm, hf, by omega⟩

theorem lt_of_not_retained {k : Int} {cnt : Nat} (h : retained (some k) cnt = false) : k < cnt := by
  simpa [retained] using h

theorem ncExpireVer_some {g : Bool} {rules : List Rule} {now : Int} {v : Ver} {since : Int} {cnt : Nat} {c : Call}
    (h : ncExpireVer g rules now v since cnt = some c) :
    c = .del v.key (some v.vid) (if g then v.etag else none) ∧
    ∃ r ∈ rules, r.enabled = true ∧ ∃ e, r.ncExpiration = some e ∧
      isDue (ncExpirationDue r since) now = true ∧ retained e.newer cnt = false ∧
      ruleMatches r v.key v.size v.stags = true := by
  obtain ⟨hc, r, hr, hk, hp⟩ := firstRule_some h
  unfold ncExpireRuleFires at hp
  split at hp
  · cases hp
  · rename_i e he
    simp only [Bool.and_eq_true, Bool.not_eq_true'] at hp
    exact ⟨hc, r, hr, enabled_of_class hk, e, he, hp.1.1, hp.1.2, hp.2⟩

theorem newer_ok {newer : Option Int} {cnt n : Nat} (h : retained newer cnt = false) (hn : cnt ≤ n) :
    (match (generalizing := false) newer with | some k => decide (k ≤ (n : Int)) | none => true) = true := by
  cases newer with
  | none => rfl
  | some k => have := lt_of_not_retained h; exact decide_eq_true (by omega)

theorem ncExpirationDueBy_of {r : Rule} {e : NcExpiration} {now since since' : Int} {cnt newer : Nat}
    (he : r.ncExpiration = some e) (hd : isDue (ncExpirationDue r since) now = true)
    (hr : retained e.newer cnt = false) (hs : since' ≤ since) (hn : cnt ≤ newer) :
    ncExpirationDueBy r now since' newer = true := by
  unfold ncExpirationDueBy
  unfold ncExpirationDue at hd
  rw [he] at hd ⊢
  exact Bool.and_eq_true_iff.2 ⟨days_due hd hs, newer_ok hr hn⟩

theorem ncTransitionVer_some {rules : List Rule} {now : Int} {v : Ver} {since : Int} {cnt : Nat} {c : Call}
    (h : ncTransitionVer rules now v since cnt = some c) :
    ∃ target, c = .trans v.key target (some v.vid) v.etag ∧
    ∃ r ∈ rules, r.enabled = true ∧ ruleMatches r v.key v.size v.stags = true ∧
      ∃ t ∈ r.ncTransitions, t.cls = target ∧ t.cls ≠ v.cls ∧ retained t.newer cnt = false ∧
        isDue (ncTransitionDue t since) now = true := by
  obtain ⟨r, hr, hk, hmatch, t, ht, hc, d, hd, hok⟩ := latest_some h
  simp only [Bool.and_eq_true, Bool.not_eq_true', decide_eq_false_iff_not, Int.not_lt, bne_iff_ne, ne_eq] at hok
  exact ⟨_, hc, r, hr, enabled_of_class hk, hmatch, t, ht, rfl, hok.2, hok.1.2, hd ▸ isDue_some.2 hok.1.1⟩

theorem ncTransitionDueBy_of {t : NcTransition} {now since since' : Int} {cnt newer : Nat}
    (hd : isDue (ncTransitionDue t since) now = true)
    (hr : retained t.newer cnt = false) (hs : since' ≤ since) (hn : cnt ≤ newer) :
    ncTransitionDueBy t now since' newer = true :=
  Bool.and_eq_true_iff.2 ⟨days_due hd hs, newer_ok hr hn⟩

theorem isDmRule_spec {r : Rule} (h : isDmRule r = true) :
    r.enabled = true ∧ ∃ e, r.expiration = some e ∧ e.dm = some true := by
  unfold isDmRule at h
  cases he : r.expiration with
  | none => simp [he] at h
  | some e =>
    simp only [he, Bool.and_eq_true] at h
    exact ⟨h.1, e, rfl, by simpa using h.2⟩

theorem currentDm_some {vs : List Ver} {d : Ver} (h : currentDm vs = some d) :
    d ∈ vs ∧ d.latest = true ∧ d.dm = true := by
  unfold currentDm at h
  have hm := List.mem_of_find?_eq_some h
  have hp := List.find?_some h
  simp only [Bool.and_eq_true] at hp
  exact ⟨by simpa using hm, hp.1, hp.2⟩

theorem dmKey_some {s : Bool} {rules : List Rule} {vs : List Ver} {c : Call} (h : dmKey s rules vs = some c) :
    ∃ d ∈ vs, d.latest = true ∧ d.dm = true ∧ (∀ v ∈ vs, blocksDm s v = false) ∧
      c = .del d.key (some d.vid) none ∧
      ∃ r ∈ rules, isDmRule r = true ∧ ruleMatches r d.key d.size [] = true := by
  unfold dmKey at h
  split at h
  · simp at h
  · rename_i d hd
    obtain ⟨hmem, hl, hdm⟩ := currentDm_some hd
    split at h
    · simp at h
    · rename_i hany
      obtain ⟨hc, r, hr, hk, hp⟩ := firstRule_some h
      refine ⟨d, hmem, hl, hdm, fun v hv => ?_, hc, r, hr, hk, hp⟩
      exact Bool.eq_false_iff.2 fun hb => hany (List.any_eq_true.2 ⟨v, hv, hb⟩)

theorem foldl_applyCall_subset (cs : List Call) (objs : List Obj) :
    ∀ o ∈ cs.foldl applyCall objs, o ∈ objs := by
  induction cs generalizing objs with
  | nil => intro o h; simpa using h
  | cons c cs ih =>
    intro o h
    simp only [List.foldl_cons] at h
    have h1 := ih _ o h
    unfold applyCall at h1
    split at h1
    · exact (List.mem_filter.1 h1).1
    · exact h1

theorem foldl_applyCall_removed (cs : List Call) (objs : List Obj) (k e : Bytes)
    (hin : Call.del k none (some e) ∈ cs) :
    ∀ o ∈ cs.foldl applyCall objs, ¬ (o.key = k ∧ o.etag = e) := by
  induction cs generalizing objs with
  | nil => simp at hin
  | cons c cs ih =>
    intro o h
    simp only [List.foldl_cons] at h
    rcases List.mem_cons.1 hin with hc | hc
    · subst hc
      have h1 := foldl_applyCall_subset cs _ o h
      simp only [applyCall, List.mem_filter] at h1
      intro hk
      have := h1.2
      simp [hk.1, hk.2] at this
    · exact ih _ hc o h

end Pithos.Lifecycle
