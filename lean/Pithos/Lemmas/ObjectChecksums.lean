/-
Helper lemmas for C04: the digest-level code model (`Pithos.Model.ObjectChecksums`) refines the
byte-level specification (`Pithos.Spec.ObjectChecksums`). Core Lean only.
-/
import Pithos.Spec.ObjectChecksums
import Pithos.Lemmas.Checksum

namespace Pithos.ObjSums
open Pithos.Checksum

/-- The part row the code stores for a part with bytes `b`. -/
abbrev pm (H : Hashes) (b : Bytes) : PartMeta := (digestsOf H b).partMeta

theorem lookup_map {α β : Type} (f : α → β) (k : Nat) (l : List (Nat × α)) :
    lookup k (l.map fun p => (p.1, f p.2)) = (lookup k l).map f := by
  induction l with
  | nil => rfl
  | cons a t ih =>
    simp only [List.map_cons, lookup]
    split <;> simp [ih]

theorem remove_map {α β : Type} (f : α → β) (k : Nat) (l : List (Nat × α)) :
    remove k (l.map fun p => (p.1, f p.2)) = (remove k l).map fun p => (p.1, f p.2) := by
  simp [remove, List.filter_map, Function.comp_def]

theorem setKey_map {α β : Type} (f : α → β) (k : Nat) (v : α) (l : List (Nat × α)) :
    setKey k (f v) (l.map fun p => (p.1, f p.2)) = (setKey k v l).map fun p => (p.1, f p.2) := by
  simp [setKey, remove_map]

theorem insertPart_map (H : Hashes) (n : Nat) (b : Bytes) (l : List (Nat × Bytes)) :
    insertPart n (pm H b) (l.map fun p => (p.1, pm H p.2))
      = (insertBody n b l).map fun p => (p.1, pm H p.2) := by
  induction l with
  | nil => rfl
  | cons a t ih =>
    simp only [List.map_cons, insertPart, insertBody]
    split
    · rfl
    · split
      · rfl
      · simp [ih]

theorem contiguous_map (H : Hashes) (i : Nat) (l : List (Nat × Bytes)) :
    contiguousFrom i (l.map fun p => (p.1, pm H p.2)) = contiguousBodies i l := by
  induction l generalizing i with
  | nil => rfl
  | cons a t ih => simp [contiguousFrom, contiguousBodies, ih]

theorem sum_sizes (H : Hashes) (bs : List Bytes) :
    ((bs.map (pm H)).map (·.size)).sum = bs.flatten.length := by
  rw [List.length_flatten, List.map_map]; rfl

/-- A fold over part rows whose state is a function `st` of the bytes read so far. -/
theorem foldl_pm_acc (H : Hashes) {σ : Type} (g : σ → PartMeta → σ) (st : Bytes → σ)
    (hg : ∀ pre b, g (st pre) (pm H b) = st (pre ++ b)) (bs : List Bytes) (pre : Bytes) :
    (bs.map (pm H)).foldl g (st pre) = st (pre ++ bs.flatten) := by
  induction bs generalizing pre with
  | nil => simp
  | cons b t ih => rw [List.map_cons, List.foldl_cons, hg, ih, List.flatten_cons, List.append_assoc]

theorem foldl_combine_eq_crc_concat {n : Nat} (H : Hashes) (p : Params n)
    (comb : Bytes → Bytes → Nat → Bytes) (sel : PartMeta → Option Bytes)
    (hc : ∀ a b : Bytes, comb (sumBE p a) (sumBE p b) b.length = sumBE p (a ++ b))
    (hsel : ∀ b : Bytes, sel (pm H b) = some (sumBE p b))
    (bs : List Bytes) :
    foldFull comb sel (bs.map (pm H)) = if bs.isEmpty then none else some (sumBE p bs.flatten) := by
  unfold foldFull
  cases bs with
  | nil => rfl
  | cons b t =>
    -- from the first part on, the loop's state is `(some (crc of the bytes so far), false)`
    simp only [List.map_cons, List.foldl_cons, hsel]
    rw [foldl_pm_acc H _ (fun pre => (some (sumBE p pre), false))
      (fun pre b => by simp only [hsel]; rw [show (pm H b).size = b.length from rfl, hc]) t b]
    simp

theorem getD_combine {n : Nat} (p : Params n) {c : Bytes → Bytes → Nat → Option Bytes}
    (h : ∀ a b : Bytes, c (sumBE p a) (sumBE p b) b.length = some (sumBE p (a ++ b))) (a b : Bytes) :
    (c (sumBE p a) (sumBE p b) b.length).getD [] = sumBE p (a ++ b) := by
  rw [h]; rfl

theorem foldComposite_pm (H : Hashes) (hash : Bytes → Bytes) (sel : PartMeta → Option Bytes)
    (dig : Bytes → Bytes) (hsel : ∀ b : Bytes, sel (pm H b) = some (dig b)) (bs : List Bytes) :
    foldComposite hash sel (bs.map (pm H)) = some ⟨hash (bs.flatMap dig), some bs.length⟩ := by
  unfold foldComposite
  have hall : (bs.map (pm H)).all (fun p => (sel p).isSome) = true := by
    simp [List.all_eq_true, hsel]
  have hfm : ((bs.map (pm H)).flatMap fun p => (sel p).getD []) = bs.flatMap dig := by
    rw [List.flatMap_map]; simp only [hsel, Option.getD_some]
  simp [hall, hfm]

theorem flatMap_etag (H : Hashes) (bs : List Bytes) :
    (bs.map (pm H)).flatMap (·.etag) = bs.flatMap H.md5 :=
  List.flatMap_map ..

theorem calculateMultipart_pm (H : Hashes) (bs : List Bytes) (ct : CType) (ob : Bool) :
    calculateMultipart H (bs.map (pm H)) ct = specVals H ⟨bs, kindOf ct, ob⟩ := by
  cases ct with
  | composite =>
    simp only [calculateMultipart, specVals, kindOf, etagOfParts, flatMap_etag, List.length_map]
    rw [foldComposite_pm H _ (·.crc32) (sumBE crc32IEEE) (fun _ => rfl),
        foldComposite_pm H _ (·.crc32c) (sumBE crc32C) (fun _ => rfl),
        foldComposite_pm H _ (·.sha1) H.sha1 (fun _ => rfl),
        foldComposite_pm H _ (·.sha256) H.sha256 (fun _ => rfl)]
  | fullObject =>
    simp only [calculateMultipart, specVals, kindOf, etagOfParts, flatMap_etag, List.length_map]
    rw [foldl_combine_eq_crc_concat H crc32IEEE comb32 (·.crc32) (getD_combine _ combineCrc32_sumBE) (fun _ => rfl),
        foldl_combine_eq_crc_concat H crc32C comb32c (·.crc32c) (getD_combine _ combineCrc32c_sumBE) (fun _ => rfl),
        foldl_combine_eq_crc_concat H crc64NVME comb64 (·.crc64) (getD_combine _ combineCrc64Nvme_sumBE) (fun _ => rfl)]
    cases bs <;> simp [GObj.content]

/-- What `AppendObject` uses of a part row: ETag and size only. -/
def stripRow (p : PartMeta) : PartMeta :=
  { etag := p.etag, crc32 := none, crc32c := none, crc64 := none, sha1 := none, sha256 := none, size := p.size }

theorem append_etag (H : Hashes) (bs : List Bytes) :
    (calculateMultipart H ((bs.map (pm H)).map stripRow) .fullObject).etag = some (etagOfParts H bs) := by
  simp only [calculateMultipart, etagOfParts, List.length_map]
  rw [List.flatMap_map]
  simp only [stripRow, flatMap_etag]

theorem slice_mid (pre b post : Bytes) :
    slice (pre ++ (b ++ post)) pre.length (pre.length + b.length) = b := by
  simp [slice]

theorem findCovered_pm (H : Hashes) (bs : List Bytes) (start stop : Nat) (pre : Bytes) (p : PartMeta)
    (h : findCovered start stop pre.length (bs.map (pm H)) = some p) :
    p = pm H (slice (pre ++ bs.flatten) start stop) := by
  induction bs generalizing pre with
  | nil => simp [findCovered] at h
  | cons b t ih =>
    simp only [List.map_cons, findCovered, show (pm H b).size = b.length from rfl] at h
    split at h
    · next hc =>
      obtain ⟨rfl, rfl⟩ := hc
      rw [List.flatten_cons, slice_mid]
      exact (Option.some.inj h).symm
    · simpa [List.append_assoc] using ih (pre ++ b) (by simpa using h)

theorem lookup_objects (H : Hashes) (g : GState) (k : Nat) :
    lookup k (absState H g).objects = (lookup k g.objects).map (absObj H) := by
  simp only [absState]; exact lookup_map (absObj H) k g.objects

theorem lookup_uploads (H : Hashes) (g : GState) (k : Nat) :
    lookup k (absState H g).uploads = (lookup k g.uploads).map (absUpload H) := by
  simp only [absState]; exact lookup_map (absUpload H) k g.uploads

theorem abs_setObject (H : Hashes) (g : GState) (k : Nat) (o : GObj) :
    ({ absState H g with objects := setKey k (absObj H o) (absState H g).objects } : State)
      = absState H { g with objects := setKey k o g.objects } := by
  simp only [absState]; rw [setKey_map (absObj H)]

theorem abs_setUpload (H : Hashes) (g : GState) (k : Nat) (u : GUpload) :
    ({ absState H g with uploads := setKey k (absUpload H u) (absState H g).uploads } : State)
      = absState H { g with uploads := setKey k u g.uploads } := by
  simp only [absState]; rw [setKey_map (absUpload H)]

theorem single_vals (H : Hashes) (body : Bytes) :
    specVals H ⟨[body], .single, false⟩ = (digestsOf H body).values := by
  simp [specVals, GObj.content]

theorem absObj_single (H : Hashes) (body : Bytes) :
    absObj H ⟨[body], .single, false⟩ =
      { vals := (digestsOf H body).values, ctype := .fullObject, size := (digestsOf H body).size,
        parts := [(digestsOf H body).partMeta], oneBased := false } := by
  simp [absObj, single_vals, specCType, GObj.content, digestsOf]

theorem absUpload_insert (H : Hashes) (u : GUpload) (n : Nat) (b : Bytes) :
    ({ absUpload H u with parts := insertPart n (pm H b) (absUpload H u).parts } : Upload)
      = absUpload H { u with parts := insertBody n b u.parts } := by
  simp only [absUpload]; rw [← insertPart_map]

theorem specCType_kindOf (bs : List Bytes) (ct : CType) (ob : Bool) : specCType ⟨bs, kindOf ct, ob⟩ = ct := by
  cases ct <;> rfl

theorem absObj_completed (H : Hashes) (bs : List Bytes) (ct : CType) :
    absObj H ⟨bs, kindOf ct, true⟩ =
      { vals := specVals H ⟨bs, kindOf ct, true⟩, ctype := ct, size := ((bs.map (pm H)).map (·.size)).sum,
        parts := bs.map (pm H), oneBased := true } := by
  simp only [absObj, sum_sizes, specCType_kindOf, GObj.content]

/-- The object row `AppendObject` writes. -/
def appendedRow (H : Hashes) (oldParts : List Bytes) (body : Bytes) : Obj :=
  { vals := { etag := (calculateMultipart H
      (List.map stripRow (oldParts.map (pm H) ++ [(digestsOf H body).partMeta])) CType.fullObject).etag },
    ctype := CType.fullObject,
    size := oldParts.flatten.length + (digestsOf H body).size,
    parts := oldParts.map (pm H) ++ [(digestsOf H body).partMeta] }

theorem appendedRow_eq (H : Hashes) (oldParts : List Bytes) (body : Bytes) :
    appendedRow H oldParts body = absObj H ⟨oldParts ++ [body], .appended, false⟩ := by
  have hall : oldParts.map (pm H) ++ [(digestsOf H body).partMeta] = (oldParts ++ [body]).map (pm H) := by
    simp
  have hsz : oldParts.flatten.length + (digestsOf H body).size = (oldParts ++ [body]).flatten.length := by
    simp [digestsOf]
  simp only [appendedRow, hall, hsz, append_etag]
  simp [absObj, specVals, specCType, GObj.content]

theorem append_core (H : Hashes) (g : GState) (key : Nat) (body : Bytes) (oldParts : List Bytes) :
    (({ absState H g with objects := setKey key (appendedRow H oldParts body) (absState H g).objects } : State),
      Out.ok { etag := (appendedRow H oldParts body).vals.etag } none (some (appendedRow H oldParts body).size))
    = (absState H { g with objects := setKey key (GObj.mk (oldParts ++ [body]) .appended false) g.objects },
       Out.ok { etag := (specVals H ⟨oldParts ++ [body], .appended, false⟩).etag } none
        (some (GObj.content ⟨oldParts ++ [body], .appended, false⟩).length)) := by
  rw [appendedRow_eq, abs_setObject]
  rfl

theorem appendCollides_abs (H : Hashes) (v : Bool) (o : Option GObj) :
    appendCollides v (o.map (absObj H)) = gAppendCollides v o := by
  cases o <;> simp [appendCollides, gAppendCollides, absObj]

theorem covered_or_streamed (H : Hashes) (so : GObj) (start stop : Nat) :
    chooseCopiedRow (findCovered start stop 0 (absObj H so).parts)
      (digestsOf H (slice so.content start stop)).partMeta
    = pm H (slice so.content start stop) := by
  unfold chooseCopiedRow
  cases hf : findCovered start stop 0 (absObj H so).parts with
  | none => rfl
  | some p =>
    have := findCovered_pm H so.parts start stop [] p (by simpa [absObj] using hf)
    simp only [List.nil_append] at this
    subst this
    rfl

theorem step_refines (H : Hashes) (strict : Bool) (g : GState) (bop : BOp) :
    step H strict (absState H g) (lower H g bop)
      = (absState H (gstep H strict g bop).1, (gstep H strict g bop).2) := by
  cases bop <;> simp only [step, gstep, lower, lookup_objects, lookup_uploads]
  case put key body input =>
    rw [single_vals]
    split
    · rfl
    · rw [← absObj_single, abs_setObject]
  case create uid key ct =>
    exact congrArg (·, _) (abs_setUpload H g uid ⟨key, ct, []⟩)
  case uploadPart uid n body input =>
    cases lookup uid g.uploads with
    | none => rfl
    | some u =>
      simp only [Option.map_some]
      split
      · rfl
      · rw [absUpload_insert, abs_setUpload]
  case uploadPartCopy uid n src start stop =>
    cases lookup src g.objects with
    | none => rfl
    | some so =>
      simp only [Option.map_some]
      rw [show (absObj H so).size = so.content.length from rfl]
      split
      · rfl
      · cases lookup uid g.uploads with
        | none => rfl
        | some u =>
          simp only [Option.map_some]
          rw [covered_or_streamed, absUpload_insert, abs_setUpload]
          rfl
  case complete uid input =>
    cases lookup uid g.uploads with
    | none => rfl
    | some u =>
      have hparts : (absUpload H u).parts.map (·.2) = (u.parts.map (·.2)).map (pm H) := by
        simp [absUpload, List.map_map, Function.comp_def]
      simp only [Option.map_some]
      rw [hparts, show contiguousFrom 1 (absUpload H u).parts = _ from contiguous_map H 1 u.parts,
        show (absUpload H u).ctype = u.ctype from rfl, show (absUpload H u).key = u.key from rfl,
        calculateMultipart_pm H _ _ true]
      split
      · rfl
      · split
        · rfl
        · rw [← absObj_completed]
          simp only [absState]
          rw [setKey_map (absObj H), remove_map (absUpload H)]
  case append key body input =>
    split
    · rfl
    · rw [show (absState H g).versioned = g.versioned from rfl, appendCollides_abs]
      split
      · rfl
      · cases lookup key g.objects with
        | none => exact append_core H g key body []
        | some o => exact append_core H g key body o.parts
  case copy src dst =>
    cases lookup src g.objects with
    | none => rfl
    | some so =>
      exact congrArg (·, _) (abs_setObject H g dst { so with oneBased := false })
  case copyRange src dst start stop =>
    cases lookup src g.objects with
    | none => rfl
    | some so =>
      simp only [Option.map_some]
      rw [← absObj_single, abs_setObject, single_vals]
  case head key =>
    cases lookup key g.objects <;> rfl
  case delete key =>
    simp only [absState]
    rw [remove_map (absObj H)]

theorem run_refines (H : Hashes) (strict : Bool) (g : GState) (ops : List BOp) :
    ∀ p ∈ runBoth H strict (absState H g, g) ops, p.1 = p.2 := by
  induction ops generalizing g with
  | nil => intro p hp; cases hp
  | cons bop rest ih =>
    intro p hp
    simp only [runBoth, List.mem_cons] at hp
    rcases hp with hp | hp
    · rw [hp, step_refines]
    · rw [step_refines] at hp
      exact ih _ p hp

theorem final_abs (H : Hashes) (strict : Bool) (g : GState) (ops : List BOp) :
    ∃ g', finalBoth H strict (absState H g, g) ops = (absState H g', g') := by
  induction ops generalizing g with
  | nil => exact ⟨g, rfl⟩
  | cons bop rest ih =>
    simp only [finalBoth]
    rw [step_refines]
    exact ih _

/-- Some supplied value differs from what was computed (or nothing was computed for it). -/
def Disagrees (i : Input) (cv : Values) : Prop :=
  (∃ x, i.etag = some x ∧ cv.etag ≠ some x) ∨ (∃ x, i.crc32 = some x ∧ cv.crc32 ≠ some x) ∨
  (∃ x, i.crc32c = some x ∧ cv.crc32c ≠ some x) ∨ (∃ x, i.crc64 = some x ∧ cv.crc64 ≠ some x) ∨
  (∃ x, i.sha1 = some x ∧ cv.sha1 ≠ some x) ∨ (∃ x, i.sha256 = some x ∧ cv.sha256 ≠ some x)

/-- Some supplied value differs from a value that WAS computed. -/
def DisagreesComputed (i : Input) (cv : Values) : Prop :=
  (∃ x y, i.etag = some x ∧ cv.etag = some y ∧ x ≠ y) ∨ (∃ x y, i.crc32 = some x ∧ cv.crc32 = some y ∧ x ≠ y) ∨
  (∃ x y, i.crc32c = some x ∧ cv.crc32c = some y ∧ x ≠ y) ∨ (∃ x y, i.crc64 = some x ∧ cv.crc64 = some y ∧ x ≠ y) ∨
  (∃ x y, i.sha1 = some x ∧ cv.sha1 = some y ∧ x ≠ y) ∨ (∃ x y, i.sha256 = some x ∧ cv.sha256 = some y ∧ x ≠ y)

theorem fieldBad_strict {i c : Option Sum} : fieldBad true i c = true ↔ ∃ x, i = some x ∧ c ≠ some x := by
  cases i <;> cases c <;> simp [fieldBad, ne_comm]

theorem fieldBad_asIs {i c : Option Sum} :
    fieldBad false i c = true ↔ ∃ x y, i = some x ∧ c = some y ∧ x ≠ y := by
  cases i <;> cases c <;> simp [fieldBad]

theorem badDigest_iff (strict : Bool) (i : Input) (cv : Values) :
    badDigest strict (some i) cv = true ↔
      fieldBad strict i.etag cv.etag = true ∨ fieldBad strict i.crc32 cv.crc32 = true ∨
      fieldBad strict i.crc32c cv.crc32c = true ∨ fieldBad strict i.crc64 cv.crc64 = true ∨
      fieldBad strict i.sha1 cv.sha1 = true ∨ fieldBad strict i.sha256 cv.sha256 = true := by
  simp only [badDigest, Bool.or_eq_true, or_assoc]

theorem badDigest_strict (i : Input) (cv : Values) : badDigest true (some i) cv = true ↔ Disagrees i cv := by
  simp only [badDigest_iff, fieldBad_strict, Disagrees]

theorem badDigest_asIs (i : Input) (cv : Values) :
    badDigest false (some i) cv = true ↔ DisagreesComputed i cv := by
  simp only [badDigest_iff, fieldBad_asIs, DisagreesComputed]

theorem fieldBad_some (strict : Bool) (i : Option Sum) (c : Sum) :
    fieldBad strict i (some c) = fieldBad true i (some c) := by
  cases i <;> rfl

/-- For a streamed body every value is computed, so the two validations coincide. -/
theorem badDigest_streamed (strict : Bool) (i : Option Input) (d : Digests) :
    badDigest strict i d.values = badDigest true i d.values := by
  cases i with
  | none => rfl
  | some i => simp only [badDigest, Digests.values, fieldBad_some strict]

end Pithos.ObjSums
