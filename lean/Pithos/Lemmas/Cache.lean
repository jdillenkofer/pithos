/-
Helper lemmas for C19: Go's container/heap operations (as modelled in `Pithos.Model.Cache`) only
permute the heap array; Pop/Remove take out exactly the element they are documented to take out.
None of this needs the heap *order* – the no-panic and uniqueness invariants are about membership,
so everything after this file sees a heap through its key list `hkeys` and through `removeKey`.
-/
import Pithos.Model.Cache

namespace Pithos.Cache

theorem swap_perm (h : Heap) (i j : Nat) : (swap h i j).Perm h := by
  unfold swap
  split
  · next hh => exact List.set_set_perm hh.1 hh.2
  · exact List.Perm.refl _

theorem swap_length (h : Heap) (i j : Nat) : (swap h i j).length = h.length :=
  (swap_perm h i j).length_eq

theorem swap_getElem?_other (h : Heap) (i j m : Nat) (h1 : m ≠ i) (h2 : m ≠ j) :
    (swap h i j)[m]? = h[m]? := by
  unfold swap
  split
  · rw [List.getElem?_set_ne (Ne.symm h2), List.getElem?_set_ne (Ne.symm h1)]
  · rfl

theorem swap_getElem?_right (h : Heap) (i j : Nat) (hi : i < h.length) (hj : j < h.length) :
    (swap h i j)[j]? = h[i]? := by
  unfold swap
  simp only [hi, hj, and_self, dite_true]
  rw [List.getElem?_set_self (by simpa using hj)]
  exact (List.getElem?_eq_getElem hi).symm

theorem up_perm : ∀ {f : Nat} {h : Heap} {j : Nat}, (up f h j).Perm h
  | 0, h, _ => List.Perm.refl h
  | f + 1, h, j => by
    simp only [up]
    split
    · exact List.Perm.refl _
    · exact up_perm.trans (swap_perm _ _ _)

theorem child_lt (h : Heap) (j1 n : Nat) (hj : j1 < n) : child h j1 n < n := by
  unfold child; split
  · next hc => simp at hc; exact hc.1
  · exact hj

theorem child_ge (h : Heap) (j1 n : Nat) : j1 ≤ child h j1 n := by
  unfold child; split <;> omega

theorem down_perm : ∀ {f : Nat} {h : Heap} {i n : Nat}, (down f h i n).1.Perm h
  | 0, h, _, _ => List.Perm.refl h
  | f + 1, h, i, n => by
    simp only [down]
    split
    · exact List.Perm.refl _
    · split
      · exact List.Perm.refl _
      · exact down_perm.trans (swap_perm _ _ _)

theorem up_getElem?_gt : ∀ (f : Nat) (h : Heap) (j m : Nat), j < m → (up f h j)[m]? = h[m]?
  | 0, _, _, _, _ => rfl
  | f + 1, h, j, m, hm => by
    simp only [up]
    split
    · rfl
    · have hp : (j - 1) / 2 ≤ j := Nat.le_trans (Nat.div_le_self _ _) (Nat.sub_le _ _)
      rw [up_getElem?_gt f _ _ m (by omega)]
      exact swap_getElem?_other h _ _ m (by omega) (by omega)

theorem down_getElem?_ge : ∀ (f : Nat) (h : Heap) (i n m : Nat), n ≤ m → (down f h i n).1[m]? = h[m]?
  | 0, _, _, _, _, _ => rfl
  | f + 1, h, i, n, m, hm => by
    simp only [down]
    split
    · rfl
    · next hj1 =>
      split
      · rfl
      · rw [down_getElem?_ge f _ _ n m hm]
        have := child_lt h (2 * i + 1) n (by omega)
        exact swap_getElem?_other h _ _ m (by omega) (by omega)

theorem push_perm (h : Heap) (e : Entry) : (push h e).Perm (e :: h) :=
  up_perm.trans (List.perm_append_singleton e h)

theorem pop_none (h : Heap) : pop h = none ↔ h = [] := by
  cases h <;> simp [pop]

theorem getLast_dropLast_perm (l : Heap) (hne : l ≠ []) : (l.getLast hne :: l.dropLast).Perm l :=
  (List.perm_append_singleton _ _).symm.trans (.of_eq (List.dropLast_concat_getLast hne))

theorem pop_perm (h : Heap) (e : Entry) (h' : Heap) (hp : pop h = some (e, h')) : (e :: h').Perm h := by
  cases h with
  | nil => simp [pop] at hp
  | cons e0 t =>
    simp only [pop, Option.some.injEq, Prod.mk.injEq] at hp
    obtain ⟨he, hh⟩ := hp
    generalize hh2 : (down (e0 :: t).length (swap (e0 :: t) 0 ((e0 :: t).length - 1)) 0 ((e0 :: t).length - 1)).1 = h2 at he hh
    have hperm : h2.Perm (e0 :: t) := hh2 ▸ down_perm.trans (swap_perm _ _ _)
    have hne : h2 ≠ [] := by
      intro h0; rw [h0] at hperm; exact absurd hperm.length_eq (by simp)
    have hlast : h2.getLastD e0 = h2.getLast hne := by
      rw [List.getLastD_eq_getLast?, List.getLast?_eq_some_getLast hne]; rfl
    subst he hh
    rw [hlast]
    exact (getLast_dropLast_perm h2 hne).trans hperm

theorem dropLast_getElem? (l : Heap) (e : Entry) (hl : l[l.length - 1]? = some e) :
    (e :: l.dropLast).Perm l := by
  have hne : l ≠ [] := by
    intro h0; subst h0; simp at hl
  have h1 : l.getLast hne = e := by
    have := List.getLast?_eq_getElem? (l := l)
    rw [hl, List.getLast?_eq_some_getLast hne] at this
    exact Option.some.inj this
  exact h1 ▸ getLast_dropLast_perm l hne

theorem remove_perm (h : Heap) (i : Nat) (e : Entry) (hi : h[i]? = some e) : (e :: remove h i).Perm h := by
  have hlt : i < h.length := by
    rcases Nat.lt_or_ge i h.length with hl | hl
    · exact hl
    · rw [List.getElem?_eq_none hl] at hi; cases hi
  unfold remove
  simp only []
  split
  · next hn => exact dropLast_getElem? h e (hn ▸ hi)
  · next hn =>
    have hnlt : h.length - 1 < h.length := by omega
    generalize hr : down h.length (swap h i (h.length - 1)) i (h.length - 1) = r
    -- the array after the sift operations: a permutation of `h` with `e` at the last position
    have key : ∀ h3 : Heap, h3.Perm (swap h i (h.length - 1)) → h3[h.length - 1]? = (swap h i (h.length - 1))[h.length - 1]? →
        (e :: h3.dropLast).Perm h := by
      intro h3 hp hl
      rw [swap_getElem?_right h i _ hlt hnlt, hi] at hl
      have hlen : h3.length = h.length := by rw [hp.length_eq, swap_length]
      have := dropLast_getElem? h3 e (by rw [hlen]; exact hl)
      exact this.trans (hp.trans (swap_perm _ _ _))
    have hd : r.1.Perm (swap h i (h.length - 1)) := hr ▸ down_perm
    have hdl : r.1[h.length - 1]? = (swap h i (h.length - 1))[h.length - 1]? :=
      hr ▸ down_getElem?_ge _ _ _ _ _ (Nat.le_refl _)
    split
    · exact key r.1 hd hdl
    · refine key _ (up_perm.trans hd) ?_
      rw [up_getElem?_gt _ _ _ _ (by omega)]
      exact hdl

theorem fix_perm (h : Heap) (i : Nat) : (fix h i).Perm h := by
  unfold fix
  simp only []
  split
  · exact down_perm
  · exact up_perm.trans down_perm

theorem findKey_some (h : Heap) (k : Key) (i : Nat) (hf : findKey h k = some i) :
    ∃ e, h[i]? = some e ∧ e.key = k := by
  unfold findKey at hf
  simp only [] at hf
  split at hf
  · next hlt =>
    cases hf
    refine ⟨h[h.findIdx (fun e => e.key == k)], List.getElem?_eq_getElem hlt, ?_⟩
    have := List.findIdx_getElem (w := hlt)
    simpa using this
  · cases hf

theorem findKey_none (h : Heap) (k : Key) (hf : findKey h k = none) : ∀ e ∈ h, e.key ≠ k := by
  unfold findKey at hf
  simp only [] at hf
  split at hf
  · cases hf
  · next hge =>
    have hle := List.findIdx_le_length (p := fun e => e.key == k) (xs := h)
    have heq : h.findIdx (fun e => e.key == k) = h.length := by omega
    have := List.findIdx_eq_length.1 heq
    intro e he hk
    have := this e he
    simp [hk] at this

def hkeys (h : Heap) : List Key := h.map (·.key)

theorem hkeys_perm {a b : Heap} (p : a.Perm b) : (hkeys a).Perm (hkeys b) := p.map _

theorem hkeys_pop (h h' : Heap) (e : Entry) (hp : pop h = some (e, h')) :
    (e.key :: hkeys h').Perm (hkeys h) := hkeys_perm (pop_perm h e h' hp)

theorem hkeys_set_same : ∀ (h : Heap) (i : Nat) (e e' : Entry), h[i]? = some e → e'.key = e.key →
    hkeys (h.set i e') = hkeys h
  | [], _, _, _, hi, _ => by simp at hi
  | a :: t, 0, e, e', hi, hk => by
    simp only [List.getElem?_cons_zero, Option.some.injEq] at hi
    subst hi
    simp [hkeys, hk]
  | a :: t, i + 1, e, e', hi, hk => by
    simp only [List.getElem?_cons_succ] at hi
    have := hkeys_set_same t i e e' hi hk
    simp only [hkeys, List.set_cons_succ, List.map_cons] at this ⊢
    rw [this]

/-- What `TrackRemove`, and a `TrackSet…` that removes the previous entry first, do to the heap: the first
entry of `k`, if there is one, goes. -/
def removeKey (h : Heap) (k : Key) : Heap :=
  match findKey h k with
  | some i => remove h i
  | none => h

theorem removeKey_cases (h : Heap) (k : Key) :
    (removeKey h k = h ∧ k ∉ hkeys h) ∨ (k :: hkeys (removeKey h k)).Perm (hkeys h) := by
  unfold removeKey
  cases hf : findKey h k with
  | none =>
    refine Or.inl ⟨rfl, fun hm => ?_⟩
    obtain ⟨e, he, hek⟩ := List.mem_map.1 hm
    exact findKey_none h k hf e he hek
  | some i =>
    obtain ⟨e, he, rfl⟩ := findKey_some h k i hf
    exact Or.inr (hkeys_perm (remove_perm h i e he))

theorem mem_hkeys_removeKey {h : Heap} {k' : Key} (k : Key) (hk' : k' ∈ hkeys h) :
    k' = k ∨ k' ∈ hkeys (removeKey h k) := by
  rcases removeKey_cases h k with ⟨e, _⟩ | hp
  · exact Or.inr (e.symm ▸ hk')
  · exact List.mem_cons.1 (hp.mem_iff.2 hk')

theorem nodup_hkeys_removeKey {h : Heap} (k : Key) (hu : (hkeys h).Nodup) :
    (hkeys (removeKey h k)).Nodup ∧ k ∉ hkeys (removeKey h k) := by
  rcases removeKey_cases h k with ⟨e, hk⟩ | hp
  · rw [e]; exact ⟨hu, hk⟩
  · exact (List.nodup_cons.1 (hp.nodup_iff.2 hu)).symm

end Pithos.Cache
