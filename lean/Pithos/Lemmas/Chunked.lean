/-
Lemmas for C30 (core Lean only). An aws-chunked body is text in lines, and both the reader and the
frame-level validation work in two sections. Chunks: the reader's step on a rendered chunk header
(`decodeLoop_header`) is a step of `checkChunks` along the chain of chunk signatures, whose last
element is the zero-length chunk. Trailer: `finish` is `checkTrailer` of what `readTrailerSection`
finds, and `readTrailerSection` finds what was rendered. `check` is the one after the other
(`check_eq`), `decode` of a rendered frame as well (`decode_render`); the mutation theorems are read
off `check_ok`; the encoder's frame passes (`check_frameOf`) and is well formed (`frameOf_WF`).
-/
import Pithos.Lemmas.Bytes
import Pithos.Lemmas.Except
import Pithos.Model.Http.Chunked

namespace Pithos.Chunked
open Pithos.SigV4

theorem readLine_append (a r : Bytes) (h : (10 : UInt8) ∉ a) : readLine (a ++ 10 :: r) = some (a ++ [10], r) := by
  induction a with
  | nil => simp [readLine]
  | cons c t ih =>
    obtain ⟨hc, ht⟩ := not_or.1 (mt List.mem_cons.2 h)
    simp [readLine, Ne.symm hc, ih ht]

theorem readLine_line (x rest : Bytes) (h : (10 : UInt8) ∉ x) :
    readLine (x ++ crlf ++ rest) = some (x ++ crlf, rest) := by
  have := readLine_append (x ++ [13]) rest (by simp [h])
  simpa [crlf] using this

/-- no carriage return or line feed -/
def noCRLF (x : Bytes) : Prop := ∀ b ∈ x, isCRLF b = false

theorem noCRLF_not10 (x : Bytes) (h : noCRLF x) : (10 : UInt8) ∉ x :=
  fun hm => absurd (h 10 hm) (by decide)

theorem noCRLF_of_nospace (x : Bytes) (h : ∀ b ∈ x, isSpaceByte b = false) : noCRLF x := by
  intro b hb
  cases hc : isCRLF b with
  | false => rfl
  | true =>
    have : b = 13 ∨ b = 10 := by simpa [isCRLF] using hc
    rcases this with rfl | rfl <;> exact absurd (h _ hb) (by decide)

theorem trimCRLF_line (x : Bytes) (h : noCRLF x) : trimCRLF (x ++ crlf) = x :=
  trim_append isCRLF x crlf (by decide) (fun c hc => h c (List.mem_of_head? hc))
    fun c hc => h c (List.mem_of_getLast? hc)

theorem trimSpace_line (x : Bytes) (h1 : headOK x = true) (h2 : lastOK x = true) : trimSpace (x ++ crlf) = x :=
  trim_append isSpaceByte x crlf (by decide) ((headOK_iff x).1 h1) ((lastOK_iff x).1 h2)

theorem cutColon_append (a b : Bytes) (h : (58 : UInt8) ∉ a) : cutColon (a ++ 58 :: b) = some (a, b) := by
  induction a with
  | nil => simp [cutColon]
  | cons c t ih =>
    obtain ⟨hc, ht⟩ := not_or.1 (mt List.mem_cons.2 h)
    simp [cutColon, Ne.symm hc, ih ht]

theorem splitAtSub_found (c : UInt8) (s pre post : Bytes) (h : c ∉ pre) :
    splitAtSub (c :: s) (pre ++ (c :: s ++ post)) = some (pre, post) := by
  induction pre with
  | nil =>
    rw [List.nil_append, List.cons_append, splitAtSub, ← List.cons_append, if_pos (hasPrefix_append _ _),
      List.drop_left]
  | cons d t ih =>
    obtain ⟨hd, ht⟩ := not_or.1 (mt List.mem_cons.2 h)
    simp only [List.cons_append, splitAtSub, hasPrefix_cons_ne _ _ (Ne.symm hd), Bool.false_eq_true, if_false]
    rw [← List.cons_append, ih ht]

theorem splitAtSub_none (c : UInt8) (s t : Bytes) (h : c ∉ t) : splitAtSub (c :: s) t = none := by
  induction t with
  | nil => rfl
  | cons d t ih =>
    obtain ⟨hd, ht⟩ := not_or.1 (mt List.mem_cons.2 h)
    simp only [splitAtSub, hasPrefix_cons_ne _ _ (Ne.symm hd), Bool.false_eq_true, if_false, ih ht]

theorem hexDigitL_facts : ∀ k : Fin 16, hexDigitVal (hexDigitL k.val) = k.val ∧
    isHexChar (hexDigitL k.val) = true ∧ hexDigitL k.val ≠ 59 ∧ isCRLF (hexDigitL k.val) = false := by
  decide

theorem toHexNat_zero : toHexNat 0 = [48] := by
  rw [toHexNat]; rfl

theorem toHexNat_ne_nil (n : Nat) : toHexNat n ≠ [] := by
  rw [toHexNat]; split <;> simp

theorem toHexNat_all (n : Nat) : ∀ b ∈ toHexNat n, isHexChar b = true ∧ b ≠ 59 ∧ isCRLF b = false := by
  fun_induction toHexNat n with
  | case1 n h =>
    rw [List.forall_mem_singleton]
    exact (hexDigitL_facts ⟨n, h⟩).2
  | case2 n h ih =>
    rw [List.forall_mem_append, List.forall_mem_singleton]
    exact ⟨ih, (hexDigitL_facts ⟨n % 16, Nat.mod_lt _ (by decide)⟩).2⟩

theorem toHexNat_value (n : Nat) : (toHexNat n).foldl (fun a d => a * 16 + hexDigitVal d) 0 = n := by
  fun_induction toHexNat n with
  | case1 n h => simp [(hexDigitL_facts ⟨n, h⟩).1]
  | case2 n h ih =>
    rw [List.foldl_append, ih, List.foldl_cons, List.foldl_nil,
      (hexDigitL_facts ⟨n % 16, Nat.mod_lt _ (by decide)⟩).1]
    exact Nat.div_add_mod' n 16

theorem parseHex64_toHexNat (n : Nat) (h : n < 18446744073709551616) : parseHex64 (toHexNat n) = some n := by
  unfold parseHex64
  have hne : (toHexNat n).isEmpty = false := by simpa using toHexNat_ne_nil n
  have hall : (toHexNat n).all isHexChar = true := List.all_eq_true.2 fun b hb => (toHexNat_all n b hb).1
  simp only [hne, hall, Bool.not_true, Bool.or_self, Bool.false_eq_true, if_false, toHexNat_value, h, if_true]

/-- the header line of a chunk: hex length, optionally `;chunk-signature=<sig>` -/
def chunkHeader (sg : Bool) (n : Nat) (s : Bytes) : Bytes := toHexNat n ++ (if sg then sigSep ++ s else [])

theorem chunkHeader_noCRLF (sg : Bool) (n : Nat) (s : Bytes) (hs : noCRLF s) : noCRLF (chunkHeader sg n s) := by
  have hn : noCRLF (toHexNat n) := fun b hb => (toHexNat_all n b hb).2.2
  unfold chunkHeader
  cases sg with
  | false => rwa [if_neg Bool.false_ne_true, List.append_nil]
  | true => exact List.forall_mem_append.2 ⟨hn, List.forall_mem_append.2 ⟨by decide, hs⟩⟩

theorem splitAtSub_chunkHeader (sg : Bool) (n : Nat) (s : Bytes) :
    splitAtSub sigSep (chunkHeader sg n s) = if sg then some (toHexNat n, s) else none := by
  have h59 : (59 : UInt8) ∉ toHexNat n := fun hm => (toHexNat_all n 59 hm).2.1 rfl
  cases sg with
  | true => exact splitAtSub_found 59 _ _ s h59
  | false =>
    rw [chunkHeader, if_neg Bool.false_ne_true, List.append_nil]
    exact splitAtSub_none 59 _ _ h59

theorem renderChunk_eq (sg : Bool) (d s : Bytes) :
    renderChunk sg (d, s) = chunkHeader sg d.length s ++ crlf ++ (d ++ crlf) := by
  simp [renderChunk, chunkHeader, List.append_assoc]

/-- a chunk header line read by `decodeLoop`; the only place where the signed and the unsigned
header are told apart -/
theorem decodeLoop_header (P : Params) (sg : Bool) (fuel n : Nat) (prev acc s rest : Bytes)
    (hn : n < 18446744073709551616) (hs : noCRLF s) (hmode : sg = true ∨ P.skipValidation = true) :
    decodeLoop P (fuel + 1) prev acc (chunkHeader sg n s ++ crlf ++ rest) =
      if n == 0 then
        if !P.skipValidation && s != chunkSig P prev [] then .error .sigMismatch
        else finish P (if P.skipValidation then prev else s) acc rest
      else if n ≥ 9223372036854775808 then .error .hugeChunk
      else if rest.isEmpty then .ok acc
      else if rest.length < n then .error .shortBody
      else if (rest.drop n).length < 2 then .error .unmodelled
      else if !P.skipValidation && s != chunkSig P prev (rest.take n) then .error .sigMismatch
      else decodeLoop P fuel (if P.skipValidation then prev else s) (acc ++ rest.take n) ((rest.drop n).drop 2) := by
  have hc := chunkHeader_noCRLF sg n s hs
  rw [decodeLoop, readLine_line _ _ (noCRLF_not10 _ hc)]
  simp only [trimCRLF_line _ hc, splitAtSub_chunkHeader]
  cases sg with
  | true =>
    simp only [if_true, Option.isNone_some, Bool.false_and, Bool.false_eq_true, if_false,
      parseHex64_toHexNat n hn, Option.getD_some]
  | false =>
    have hsk : P.skipValidation = true := hmode.resolve_left Bool.false_ne_true
    have hch : chunkHeader false n s = toHexNat n := by simp [chunkHeader]
    simp only [hch, Bool.false_eq_true, if_false, Option.isNone_none, hsk, Bool.not_true, Bool.and_false,
      Bool.false_and, parseHex64_toHexNat n hn, Option.getD_none, if_true]

theorem decodeLoop_chunk (P : Params) (sg : Bool) (fuel : Nat) (prev acc d s rest : Bytes)
    (hd : d ≠ []) (hlen : d.length < 9223372036854775808) (hs : noCRLF s)
    (hmode : sg = true ∨ P.skipValidation = true) :
    decodeLoop P (fuel + 1) prev acc (renderChunk sg (d, s) ++ rest) =
      if !P.skipValidation && s != chunkSig P prev d then .error .sigMismatch
      else decodeLoop P fuel (if P.skipValidation then prev else s) (acc ++ d) rest := by
  rw [renderChunk_eq, List.append_assoc _ _ rest, List.append_assoc d,
    decodeLoop_header P sg fuel d.length prev acc s _ (by omega) hs hmode, List.take_left, List.drop_left]
  have hn0 : (d.length == 0) = false := by simpa using hd
  have hnotbig : ¬ (d.length ≥ 9223372036854775808) := by omega
  have hrest : (d ++ (crlf ++ rest)).isEmpty = false := by simpa using fun e => absurd e hd
  have hlen2 : ¬ ((d ++ (crlf ++ rest)).length < d.length) := by simp
  have h2' : ¬ ((crlf ++ rest).length < 2) := by simp [crlf]
  have hdrop2 : (crlf ++ rest).drop 2 = rest := rfl
  simp only [hn0, hnotbig, hrest, hlen2, h2', hdrop2, Bool.false_eq_true, if_false]

theorem checkChunks_append (P : Params) (prev acc : Bytes) (l1 l2 : List (Bytes × Bytes)) :
    checkChunks P prev acc (l1 ++ l2) =
      checkChunks P prev acc l1 >>= fun r => checkChunks P r.1 r.2 l2 := by
  induction l1 generalizing prev acc with
  | nil => rfl
  | cons c t ih =>
    obtain ⟨d, s⟩ := c
    simp only [List.cons_append, checkChunks]
    split
    · rfl
    · exact ih _ _

theorem checkChunks_acc {P : Params} {prev acc : Bytes} {l : List (Bytes × Bytes)} {r : Bytes × Bytes}
    (h : checkChunks P prev acc l = .ok r) : r.2 = acc ++ (l.map (·.1)).flatten := by
  induction l generalizing prev acc with
  | nil => simp only [checkChunks] at h; injection h with h; subst h; simp
  | cons c t ih =>
    obtain ⟨d, s⟩ := c
    simp only [checkChunks] at h
    rw [ih (check_ok_iff.1 h).2]
    simp

theorem checkChunks_skip (P : Params) (hs : P.skipValidation = true) (prev acc : Bytes) (l : List (Bytes × Bytes)) :
    checkChunks P prev acc l = .ok (prev, acc ++ (l.map (·.1)).flatten) := by
  induction l generalizing acc with
  | nil => simp [checkChunks]
  | cons c t ih =>
    obtain ⟨d, s⟩ := c
    simp only [checkChunks, hs, Bool.not_true, Bool.false_and, Bool.false_eq_true, if_false, if_true]
    rw [ih]; simp

theorem checkChunks_signChain (P : Params) (hs : P.skipValidation = false) (prev acc : Bytes) (ds : List Bytes) :
    checkChunks P prev acc ((signChain P prev ds).1 ++ [([], chunkSig P (signChain P prev ds).2 [])]) =
      .ok (chunkSig P (signChain P prev ds).2 [], acc ++ ds.flatten) := by
  induction ds generalizing prev acc with
  | nil => simp [signChain, checkChunks, hs]
  | cons d t ih =>
    simp only [signChain, List.cons_append, checkChunks, hs, Bool.not_false, Bool.true_and, bne_self_eq_false,
      Bool.false_eq_true, if_false, List.flatten_cons]
    rw [ih]
    simp

/-- Signed chunks: an element of a passing chain replaced by one that does not fit its place. -/
theorem checkChunks_mutated (P : Params) (hs : P.skipValidation = false) (prev acc : Bytes)
    (l1 l2 : List (Bytes × Bytes)) (d s d' s' : Bytes) {r : Bytes × Bytes}
    (h : checkChunks P prev acc (l1 ++ (d, s) :: l2) = .ok r)
    (hne : ∀ pv, s = chunkSig P pv d → s' ≠ chunkSig P pv d') :
    checkChunks P prev acc (l1 ++ (d', s') :: l2) = .error .sigMismatch := by
  rw [checkChunks_append] at h ⊢
  obtain ⟨r1, h1, h2⟩ := ok_of_bind h
  rw [h1]
  simp only [checkChunks, hs, Bool.not_false, Bool.true_and] at h2
  show checkChunks P r1.1 r1.2 ((d', s') :: l2) = _
  simp only [checkChunks, hs, Bool.not_false, Bool.true_and]
  rw [if_pos]
  simpa using hne r1.1 (by simpa using (check_ok_iff.1 h2).1)

/-- the checksum trailer line a conforming client writes passes `validateTrailerChecksum` -/
structure TrailerOK (P : Params) : Prop where
  /-- the declared name is what `strings.ToLower(strings.TrimSpace(·))` left, and has no colon -/
  name : lower (trimSpace P.trailerName) = P.trailerName ∧ (58 : UInt8) ∉ P.trailerName
  /-- the checksum text (base64) has no surrounding white space -/
  value : ∀ f, P.cksum = some f → ∀ p, trimSpace (f p) = f p
  /-- no unsupported `x-amz-checksum-*` algorithm is declared -/
  supported : P.cksum = none → hasPrefix (b! "x-amz-checksum-") P.trailerName = false
  /-- a signed trailer only comes with signed chunks (the four real modes) -/
  modes : P.skipValidation = true → P.trailerSigned = false

theorem validate_line (P : Params) {g : Bytes → Bytes} (hg : P.cksum = some g) (p n v : Bytes)
    (hn : (58 : UInt8) ∉ n) :
    validateTrailerChecksum P p (n ++ 58 :: v) =
      if lower (trimSpace n) != P.trailerName then .error .malformedTrailer
      else if trimSpace v != g p then .error .badDigest else .ok () := by
  unfold validateTrailerChecksum
  rw [hg]
  simp only
  rw [cutColon_append _ _ hn]

theorem validate_own_line (P : Params) (ok : TrailerOK P) (payload : Bytes) (hh : P.hasTrailer = true) :
    validateTrailerChecksum P payload (checksumLine P payload) = .ok () := by
  unfold checksumLine
  cases hc : P.cksum with
  | none => simp [validateTrailerChecksum, hc, ok.supported hc]
  | some f =>
    simp only [hh, if_true]
    rw [validate_line P hc _ _ _ ok.name.2]
    simp [ok.name.1, ok.value f hc payload]

/-- the trailer part of `check`, and of `finish` once the trailer section is read -/
def checkTrailer (P : Params) (prev acc line tsig : Bytes) : Except Err Bytes :=
  if P.hasTrailer then
    if P.trailerSigned && tsig != trailerSig P prev line then .error .sigMismatch
    else match validateTrailerChecksum P acc line with
      | .error e => .error e
      | .ok () => .ok acc
  else .ok acc

theorem checkTrailer_ok {P : Params} {prev acc line tsig p : Bytes} (h : checkTrailer P prev acc line tsig = .ok p) :
    p = acc ∧ (P.hasTrailer = true → (P.trailerSigned = true → tsig = trailerSig P prev line) ∧
      validateTrailerChecksum P acc line = .ok ()) := by
  unfold checkTrailer at h
  split at h
  · obtain ⟨hsig, h⟩ := check_ok_iff.1 h
    cases hv : validateTrailerChecksum P acc line with
    | error e => rw [hv] at h; contradiction
    | ok u =>
      rw [hv] at h
      injection h with h
      exact ⟨h.symm, fun _ => ⟨fun hts => by simpa [hts] using hsig, rfl⟩⟩
  · injection h with h
    exact ⟨h.symm, fun ht => absurd ht ‹_›⟩

theorem checkTrailer_sig_error {P : Params} {prev line tsig : Bytes} (acc : Bytes) (ht : P.hasTrailer = true)
    (hts : P.trailerSigned = true) (hne : tsig ≠ trailerSig P prev line) :
    checkTrailer P prev acc line tsig = .error .sigMismatch := by
  unfold checkTrailer
  rw [if_pos ht, hts, if_pos]
  simpa using hne

theorem checkTrailer_framingOnly {P : Params} {prev prev' acc line tsig p : Bytes}
    (h : checkTrailer P prev acc line tsig = .ok p) : checkTrailer (framingOnly P) prev' acc line tsig = .ok p := by
  unfold checkTrailer at h ⊢
  split at h
  · exact (if_pos ‹_›).trans (check_ok_iff.1 h).2
  · exact (if_neg ‹_›).trans h

theorem check_eq (P : Params) (f : Frame) :
    check P f =
      checkChunks P P.seed [] (f.chunks ++ [([], f.finalSig)]) >>= fun r =>
        checkTrailer P r.1 r.2 f.trailerLine f.trailerSignature := by
  unfold check
  rw [checkChunks_append]
  cases checkChunks P P.seed [] f.chunks with
  | error e => rfl
  | ok r =>
    simp only [bind, Except.bind, checkChunks, List.append_nil]
    split <;> rfl

theorem check_chain_error (P : Params) (f : Frame) {e : Err}
    (h : checkChunks P P.seed [] (f.chunks ++ [([], f.finalSig)]) = .error e) : check P f = .error e := by
  rw [check_eq, h]
  rfl

theorem check_of_chain (P : Params) (f : Frame) {r : Bytes × Bytes}
    (h : checkChunks P P.seed [] (f.chunks ++ [([], f.finalSig)]) = .ok r) :
    check P f = checkTrailer P r.1 r.2 f.trailerLine f.trailerSignature := by
  rw [check_eq, h]
  rfl

/-- what an accepted frame satisfies; every mutation theorem starts here -/
theorem check_ok {P : Params} {f : Frame} {p : Bytes} (h : check P f = .ok p) :
    ∃ pv, checkChunks P P.seed [] (f.chunks ++ [([], f.finalSig)]) = .ok (pv, p) ∧
      p = (f.chunks.map (·.1)).flatten ∧
      (P.hasTrailer = true → (P.trailerSigned = true → f.trailerSignature = trailerSig P pv f.trailerLine) ∧
        validateTrailerChecksum P p f.trailerLine = .ok ()) := by
  rw [check_eq] at h
  obtain ⟨r, hc, ht⟩ := ok_of_bind h
  obtain ⟨rfl, htr⟩ := checkTrailer_ok ht
  exact ⟨r.1, hc, by simpa using checkChunks_acc hc, htr⟩

theorem check_framingOnly {P : Params} {f : Frame} {p : Bytes} (h : check P f = .ok p) :
    check (framingOnly P) f = .ok p := by
  rw [check_eq] at h
  obtain ⟨r, hc, ht⟩ := ok_of_bind h
  rw [check_of_chain (framingOnly P) f (checkChunks_skip (framingOnly P) rfl _ _ _), ← checkChunks_acc hc]
  exact checkTrailer_framingOnly ht

theorem chunkSig_binds_data (P : Params) (hcf : CollisionFree P.c.sha256hex) (hunf : Unforgeable P.c.hmac)
    (prev d d' : Bytes) (h : chunkSig P prev d = chunkSig P prev d') : d = d' := by
  have := (signature_inj hunf h).2
  unfold chunkStringToSign at this
  exact hcf _ _ (List.append_cancel_left this)

theorem trailerSig_binds_line (P : Params) (hcf : CollisionFree P.c.sha256hex) (hunf : Unforgeable P.c.hmac)
    (prev l l' : Bytes) (h : trailerSig P prev l = trailerSig P prev l') : l = l' := by
  have := (signature_inj hunf h).2
  unfold trailerStringToSign at this
  have := hcf _ _ (List.append_cancel_left this)
  exact List.append_cancel_right this

/-- Signed chunks: a chunk of an accepted frame replaced, data or signature or both, by one whose
signature does not fit its place in the chain. -/
theorem replaced_chunk_rejected (P : Params) (hs : P.skipValidation = false) (f : Frame) (p : Bytes)
    (hok : check P f = .ok p) (l1 l2 : List (Bytes × Bytes)) (d s d' s' : Bytes)
    (hf : f.chunks = l1 ++ (d, s) :: l2) (hne : ∀ prev, s = chunkSig P prev d → s' ≠ chunkSig P prev d') :
    check P { f with chunks := l1 ++ (d', s') :: l2 } = .error .sigMismatch := by
  obtain ⟨_, hc, _⟩ := check_ok hok
  rw [hf, List.append_assoc] at hc
  apply check_chain_error
  show checkChunks P P.seed [] (l1 ++ (d', s') :: l2 ++ [([], f.finalSig)]) = _
  rw [List.append_assoc]
  exact checkChunks_mutated P hs _ _ l1 _ d s d' s' hc hne

theorem mutated_chunk_signature_rejected (P : Params) (hs : P.skipValidation = false) (f : Frame) (p : Bytes)
    (hok : check P f = .ok p) (l1 l2 : List (Bytes × Bytes)) (d s s' : Bytes)
    (hf : f.chunks = l1 ++ (d, s) :: l2) (hd : s' ≠ s) :
    check P { f with chunks := l1 ++ (d, s') :: l2 } = .error .sigMismatch :=
  replaced_chunk_rejected P hs f p hok l1 l2 d s d s' hf fun _ e e' => hd (e'.trans e.symm)

theorem mutated_trailer_signature_rejected (P : Params) (ht : P.hasTrailer = true) (hts : P.trailerSigned = true)
    (f : Frame) (p : Bytes) (hok : check P f = .ok p) (s' : Bytes) (hd : s' ≠ f.trailerSignature) :
    check P { f with trailerSignature := s' } = .error .sigMismatch := by
  obtain ⟨_, hc, _, htr⟩ := check_ok hok
  rw [check_of_chain P { f with trailerSignature := s' } hc]
  exact checkTrailer_sig_error _ ht hts ((htr ht).1 hts ▸ hd)

/-- Whatever the signatures say, a trailer whose checksum value is not the
checksum of the received payload is refused (`BadDigest`) unless an earlier check already failed. -/
theorem wrong_trailer_checksum_rejected (P : Params) (ht : P.hasTrailer = true) (g : Bytes → Bytes)
    (hg : P.cksum = some g) (f : Frame) (n v' : Bytes) (hl : f.trailerLine = n ++ 58 :: v')
    (hn : (58 : UInt8) ∉ n) (hname : lower (trimSpace n) = P.trailerName)
    (hv : trimSpace v' ≠ g ((f.chunks.map (·.1)).flatten)) :
    ∃ e, check P f = .error e := by
  cases h : check P f with
  | error e => exact ⟨e, rfl⟩
  | ok p =>
    obtain ⟨_, _, rfl, htr⟩ := check_ok h
    have := (htr ht).2
    rw [hl, validate_line P hg _ _ _ hn] at this
    simp [hname, hv] at this

def tsPrefix : Bytes := b! "x-amz-trailer-signature:"

theorem trailerLoop_line (fuel i : Nat) (x rest ck sg : Bytes) (hne : x ≠ []) (hx : (10 : UInt8) ∉ x)
    (hh : headOK x = true) (hl : lastOK x = true) :
    readTrailerLoop (fuel + 1) i (x ++ crlf ++ rest) ck sg =
      match cutPrefix tsPrefix x with
      | some v => readTrailerLoop fuel (i + 1) rest ck (trimSpace v)
      | none => readTrailerLoop fuel (i + 1) rest (if ck.isEmpty then x else ck) sg := by
  have hie : x.isEmpty = false := by simpa using hne
  rw [readTrailerLoop, readLine_line x rest hx]
  simp only [trimSpace_line x hh hl, hie, Bool.false_eq_true, if_false]
  cases hc : cutPrefix (b! "x-amz-trailer-signature:") x with
  | none => simp [tsPrefix, hc]
  | some v => simp [tsPrefix, hc]

theorem readTrailerLoop_end (fuel i : Nat) (ck sg : Bytes) (hi : i ≠ 0) :
    readTrailerLoop (fuel + 1) i crlf ck sg = (ck, sg) := by
  rw [readTrailerLoop, show readLine crlf = some (crlf, []) from rfl]
  simp [show trimSpace crlf = [] from by decide, hi]

/-- the checksum line of a frame: absent, or a line without line break and outer white space that
is not itself a trailer-signature line -/
def LineOK (line : Bytes) : Prop :=
  line = [] ∨ ((10 : UInt8) ∉ line ∧ headOK line = true ∧ lastOK line = true ∧ cutPrefix tsPrefix line = none)

/-- a signature as written into the body: no line break, no outer white space -/
def SigOK (s : Bytes) : Prop := noCRLF s ∧ headOK s = true ∧ lastOK s = true

/-- the trailer section as rendered -/
def trailerTail (sg : Bool) (line tsig : Bytes) : Bytes :=
  (if line.isEmpty then [] else line ++ crlf) ++ ((if sg then tsPrefix ++ tsig ++ crlf else []) ++ crlf)

theorem trailerLoop_ck (fuel i : Nat) (line rest s0 : Bytes) (hne : line ≠ []) (h10 : (10 : UInt8) ∉ line)
    (hh : headOK line = true) (hl : lastOK line = true) (hp : cutPrefix tsPrefix line = none) :
    readTrailerLoop (fuel + 1) i (line ++ crlf ++ rest) [] s0 = readTrailerLoop fuel (i + 1) rest line s0 := by
  rw [trailerLoop_line fuel i line rest [] s0 hne h10 hh hl, hp]
  rfl

theorem trailerLoop_sig (fuel i : Nat) (tsig rest ck s0 : Bytes) (ht : SigOK tsig) :
    readTrailerLoop (fuel + 1) i (tsPrefix ++ tsig ++ crlf ++ rest) ck s0 =
      readTrailerLoop fuel (i + 1) rest ck tsig := by
  have hx : (10 : UInt8) ∉ tsPrefix ++ tsig := by
    rw [List.mem_append, not_or]
    exact ⟨by decide, noCRLF_not10 _ ht.1⟩
  have h2 : lastOK (tsPrefix ++ tsig) = true := by
    rw [lastOK_append]
    split
    · rfl
    · exact ht.2.2
  rw [trailerLoop_line fuel i _ rest ck s0 (by simp [tsPrefix]) hx (by rw [headOK_append]; rfl) h2, cutPrefix_append]
  exact congrArg _ (trimSpace_of_OK _ ht.2.1 ht.2.2)

theorem readTrailerSection_tail (sg : Bool) (line tsig : Bytes) (hl : LineOK line) (ht : SigOK tsig) :
    readTrailerSection (trailerTail sg line tsig) = (line, if sg then tsig else []) := by
  unfold readTrailerSection trailerTail
  by_cases hne : line = []
  · subst hne
    cases sg with
    | true => exact (trailerLoop_sig 7 0 tsig crlf [] [] ht).trans (readTrailerLoop_end 6 1 _ _ (by decide))
    | false =>
      show readTrailerLoop 8 0 crlf [] [] = ([], [])
      decide
  · obtain ⟨h10, hh, hll, hp⟩ := hl.resolve_left hne
    have hie : line.isEmpty = false := by simpa using hne
    simp only [hie, Bool.false_eq_true, if_false]
    rw [trailerLoop_ck 7 0 line _ [] hne h10 hh hll hp]
    cases sg with
    | true => exact (trailerLoop_sig 6 1 tsig crlf line [] ht).trans (readTrailerLoop_end 5 2 _ _ (by decide))
    | false => exact readTrailerLoop_end 6 1 _ _ (by decide)

theorem finish_eq (P : Params) (pv acc rest : Bytes) :
    finish P pv acc rest = checkTrailer P pv acc (readTrailerSection rest).1 (readTrailerSection rest).2 :=
  rfl

theorem finish_tail (P : Params) (sg : Bool) (hts : P.trailerSigned = true → sg = true) (pv acc : Bytes)
    (line tsig : Bytes) (hl : LineOK line) (ht : SigOK tsig) :
    finish P pv acc (if P.hasTrailer then trailerTail sg line tsig else crlf) = checkTrailer P pv acc line tsig := by
  rw [finish_eq]
  unfold checkTrailer
  cases hh : P.hasTrailer with
  | false => rfl
  | true =>
    simp only [if_true, readTrailerSection_tail sg line tsig hl ht]
    cases hs : P.trailerSigned with
    | false => rfl
    | true => rw [hts hs, if_pos rfl]

/-- a frame whose parts can be written on lines: non-empty chunks below 2^63 bytes, signatures
without line breaks, a checksum line / trailer signature without outer white space -/
structure FrameWF (f : Frame) : Prop where
  chunks : ∀ c ∈ f.chunks, c.1 ≠ [] ∧ c.1.length < 9223372036854775808 ∧ noCRLF c.2
  final : noCRLF f.finalSig
  line : LineOK f.trailerLine
  tsig : SigOK f.trailerSignature

theorem render_eq (sg ht : Bool) (f : Frame) :
    render sg ht f = f.chunks.flatMap (renderChunk sg) ++
      (chunkHeader sg 0 f.finalSig ++ crlf ++
        (if ht then trailerTail sg f.trailerLine f.trailerSignature else crlf)) := by
  unfold render chunkHeader trailerTail tsPrefix
  rw [toHexNat_zero]
  cases ht <;> simp [List.append_assoc]

theorem decodeLoop_chain (P : Params) (sg : Bool) (hmode : sg = true ∨ P.skipValidation = true)
    (chunks : List (Bytes × Bytes))
    (wf : ∀ c ∈ chunks, c.1 ≠ [] ∧ c.1.length < 9223372036854775808 ∧ noCRLF c.2)
    (fs : Bytes) (hfs : noCRLF fs) (k : Nat) (prev acc tail : Bytes) :
    decodeLoop P (chunks.length + (k + 1)) prev acc
        (chunks.flatMap (renderChunk sg) ++ (chunkHeader sg 0 fs ++ crlf ++ tail)) =
      checkChunks P prev acc (chunks ++ [([], fs)]) >>= fun r => finish P r.1 r.2 tail := by
  induction chunks generalizing prev acc with
  | nil =>
    rw [List.length_nil, Nat.zero_add, List.flatMap_nil, List.nil_append, List.nil_append,
      decodeLoop_header P sg k 0 prev acc fs tail (by decide) hfs hmode]
    simp only [checkChunks, List.append_nil, beq_self_eq_true, if_true]
    split <;> rfl
  | cons c t ih =>
    obtain ⟨d, s⟩ := c
    obtain ⟨h1, h2, h3⟩ := wf (d, s) (by simp)
    rw [List.length_cons, Nat.add_right_comm, List.flatMap_cons, List.append_assoc,
      decodeLoop_chunk P sg _ prev acc d s _ h1 h2 h3 hmode]
    simp only [List.cons_append, checkChunks]
    split
    · rfl
    · exact ih (fun c hc => wf c (by simp [hc])) _ _

/-- a rendered chunk is longer than its data: there is a unit of fuel for every chunk, and the
framed body is longer than the payload -/
theorem flatMap_renderChunk_length (sg : Bool) (l : List (Bytes × Bytes)) :
    l.length + ((l.map (·.1)).flatten).length ≤ (l.flatMap (renderChunk sg)).length := by
  induction l with
  | nil => simp
  | cons c t ih =>
    simp only [List.map_cons, List.flatten_cons, List.flatMap_cons, List.length_append, List.length_cons]
    have : c.1.length + 1 ≤ (renderChunk sg c).length := by simp [renderChunk, crlf]; omega
    omega

theorem decode_render (P : Params) (sg : Bool) (f : Frame) (wf : FrameWF f)
    (hmode : sg = true ∨ P.skipValidation = true) (hts : P.trailerSigned = true → sg = true) :
    decode P (render sg P.hasTrailer f) = check P f := by
  unfold decode
  rw [render_eq, check_eq]
  -- the fuel is one unit per chunk and at least one more for the final chunk
  obtain ⟨k, hk⟩ : ∃ k, (f.chunks.flatMap (renderChunk sg) ++ (chunkHeader sg 0 f.finalSig ++ crlf ++
      (if P.hasTrailer then trailerTail sg f.trailerLine f.trailerSignature else crlf))).length + 1 =
      f.chunks.length + (k + 1) := by
    have := flatMap_renderChunk_length sg f.chunks
    exact ⟨_, by rw [List.length_append, ← Nat.add_assoc, Nat.add_right_cancel_iff]; exact (Nat.add_sub_cancel' (by omega)).symm⟩
  rw [hk, decodeLoop_chain P sg hmode f.chunks wf.chunks f.finalSig wf.final]
  exact congrArg _ (funext fun r => finish_tail P sg hts _ _ _ _ wf.line wf.tsig)

theorem flatten_splitSizes (sizes : List Nat) (p : Bytes) : (splitSizes sizes p).flatten = p := by
  fun_induction splitSizes sizes p with
  | case1 p h => exact (List.isEmpty_iff.1 h).symm
  | case2 p h => exact List.append_nil p
  | case3 n ns p h ih => exact ih
  | case4 n ns p h ih => rw [List.flatten_cons, ih, List.take_append_drop]

theorem splitSizes_nonempty (sizes : List Nat) (p : Bytes) : ∀ d ∈ splitSizes sizes p, d ≠ [] := by
  fun_induction splitSizes sizes p with
  | case1 p h => exact fun _ hd => nomatch hd
  | case2 p h => simpa using h
  | case3 n ns p h ih => exact ih
  | case4 n ns p h ih =>
    refine List.forall_mem_cons.2 ⟨?_, ih⟩
    simpa [List.take_eq_nil_iff] using h

theorem splitSizes_length_le (sizes : List Nat) (p : Bytes) : ∀ d ∈ splitSizes sizes p, d.length ≤ p.length := by
  intro d hd
  have := (List.infix_of_mem_flatten hd).length_le
  rwa [flatten_splitSizes] at this

theorem hexL_SigOK (s : Bytes) : SigOK (hexL s) :=
  ⟨noCRLF_of_nospace _ (hexL_nospace s), headOK_of_nospace _ (hexL_nospace s), lastOK_of_nospace _ (hexL_nospace s)⟩

theorem SigOK_nil : SigOK [] := ⟨fun _ h => by simp at h, rfl, rfl⟩

theorem signChain_spec (P : Params) (prev : Bytes) (ds : List Bytes) :
    (signChain P prev ds).1.map (·.1) = ds ∧ ∀ c ∈ (signChain P prev ds).1, SigOK c.2 := by
  induction ds generalizing prev with
  | nil => simp [signChain]
  | cons d t ih =>
    simp only [signChain, List.map_cons, List.mem_cons]
    refine ⟨by rw [(ih _).1], ?_⟩
    intro c hc
    rcases hc with rfl | hc
    · exact hexL_SigOK _
    · exact (ih _).2 c hc

theorem frameOf_datas (P : Params) (payload : Bytes) (sizes : List Nat) :
    ((frameOf P payload sizes).chunks.map (·.1)).flatten = payload := by
  unfold frameOf
  cases hs : P.skipValidation with
  | true => simp [List.map_map, Function.comp_def, flatten_splitSizes]
  | false =>
    simp only [Bool.false_eq_true, if_false]
    rw [(signChain_spec P P.seed _).1, flatten_splitSizes]

theorem check_frameOf (P : Params) (ok : TrailerOK P) (payload : Bytes) (sizes : List Nat) :
    check P (frameOf P payload sizes) = .ok payload := by
  have htr : ∀ pv, checkTrailer P pv payload (checksumLine P payload)
      (if P.hasTrailer && P.trailerSigned then trailerSig P pv (checksumLine P payload) else []) = .ok payload := by
    intro pv
    unfold checkTrailer
    cases hh : P.hasTrailer with
    | false => rfl
    | true => cases ht : P.trailerSigned <;> simp [validate_own_line P ok payload hh]
  unfold frameOf
  cases hs : P.skipValidation with
  | true =>
    rw [if_pos rfl, check_of_chain P _ (checkChunks_skip P hs _ _ _)]
    have := htr P.seed
    rw [ok.modes hs, Bool.and_false] at this
    simpa [List.map_map, Function.comp_def, flatten_splitSizes] using this
  | false =>
    rw [if_neg Bool.false_ne_true, check_of_chain P _ (checkChunks_signChain P hs _ _ _), List.nil_append,
      flatten_splitSizes]
    exact htr _

/-- what the encoder needs from the parameters so that its output is line-structured -/
structure EncodeOK (P : Params) : Prop where
  trailer : TrailerOK P
  nameHead : headOK P.trailerName = true
  name10 : (10 : UInt8) ∉ P.trailerName
  notSigLine : ∀ v, cutPrefix tsPrefix (P.trailerName ++ 58 :: v) = none
  cksumText : ∀ f, P.cksum = some f → ∀ p, (10 : UInt8) ∉ f p ∧ lastOK (f p) = true

theorem checksumLine_OK (P : Params) (ok : EncodeOK P) (payload : Bytes) : LineOK (checksumLine P payload) := by
  unfold checksumLine
  cases hc : P.cksum with
  | none => exact Or.inl rfl
  | some f =>
    simp only
    split
    · right
      obtain ⟨h10, hl⟩ := ok.cksumText f hc payload
      refine ⟨?_, ?_, ?_, ok.notSigLine _⟩
      · rw [List.mem_append, List.mem_cons, not_or, not_or]
        exact ⟨ok.name10, by decide, h10⟩
      · rw [headOK_append]
        split
        · rfl
        · exact ok.nameHead
      · rw [lastOK_append]
        simp only [List.isEmpty_cons, Bool.false_eq_true, if_false]
        have : (58 : UInt8) :: f payload = [58] ++ f payload := rfl
        rw [this, lastOK_append]
        split
        · decide
        · exact hl
    · exact Or.inl rfl

theorem frameOf_WF (P : Params) (ok : EncodeOK P) (payload : Bytes) (hlen : payload.length < 9223372036854775808)
    (sizes : List Nat) : FrameWF (frameOf P payload sizes) := by
  have hdata : ∀ d ∈ splitSizes sizes payload, d ≠ [] ∧ d.length < 9223372036854775808 := by
    intro d hd
    exact ⟨splitSizes_nonempty sizes payload d hd, Nat.lt_of_le_of_lt (splitSizes_length_le sizes payload d hd) hlen⟩
  unfold frameOf
  cases hs : P.skipValidation with
  | true =>
    simp only [if_true]
    refine ⟨?_, SigOK_nil.1, checksumLine_OK P ok payload, SigOK_nil⟩
    intro c hc
    obtain ⟨d, hd, rfl⟩ := List.mem_map.1 hc
    exact ⟨(hdata d hd).1, (hdata d hd).2, SigOK_nil.1⟩
  | false =>
    simp only [Bool.false_eq_true, if_false]
    obtain ⟨hm, hsig⟩ := signChain_spec P P.seed (splitSizes sizes payload)
    refine ⟨?_, (hexL_SigOK _).1, checksumLine_OK P ok payload, ?_⟩
    · intro c hc
      have hd : c.1 ∈ splitSizes sizes payload := by
        rw [← hm]; exact List.mem_map.2 ⟨c, hc, rfl⟩
      exact ⟨(hdata _ hd).1, (hdata _ hd).2, (hsig c hc).1⟩
    · split
      · exact hexL_SigOK _
      · exact SigOK_nil

theorem decode_encode (P : Params) (ok : EncodeOK P) (payload : Bytes)
    (hlen : payload.length < 9223372036854775808) (sizes : List Nat) :
    decode P (encode P payload sizes) = .ok payload := by
  unfold encode
  rw [decode_render P (!P.skipValidation) _ (frameOf_WF P ok payload hlen sizes)]
  · exact check_frameOf P ok.trailer payload sizes
  · cases P.skipValidation <;> simp
  · intro ht
    cases hs : P.skipValidation with
    | false => rfl
    | true => rw [ok.trailer.modes hs] at ht; contradiction

/-- **A framing-only decoder recovers the payload of every conforming upload**, signed or not —
this is what the configuration without credentials needs (and has as of /repo c8f3b44). -/
theorem framingOnly_decode_encode (P : Params) (ok : EncodeOK P) (payload : Bytes)
    (hlen : payload.length < 9223372036854775808) (sizes : List Nat) :
    decode (framingOnly P) (encode P payload sizes) = .ok payload :=
  (decode_render (framingOnly P) (!P.skipValidation) _ (frameOf_WF P ok payload hlen sizes) (Or.inr rfl)
    (fun h => nomatch h)).trans (check_framingOnly (check_frameOf P ok.trailer payload sizes))

/-- the parameters of the reader a carrier gets (current tree): the request's own with a key,
the framing-only ones without -/
def readerOf : Carrier → Params → Params
  | .header, P | .presigned, P => P
  | .anonymous, P | .authOff, P => framingOnly P

theorem handlerBody_eq (carrier : Carrier) (P : Params) (wire : Bytes) :
    handlerBody true carrier P wire = decode (readerOf carrier P) wire := by
  cases carrier <;> rfl

theorem storedBody_eq (authOn u : Bool) (P : Params) (wire : Bytes) :
    storedBody authOn u P wire = handlerBody u (if authOn then .header else .authOff) P wire := by
  cases authOn <;> rfl

theorem decode_readerOf_encode (carrier : Carrier) (P : Params) (ok : EncodeOK P) (payload : Bytes)
    (hlen : payload.length < 9223372036854775808) (sizes : List Nat) :
    decode (readerOf carrier P) (encode P payload sizes) = .ok payload := by
  have hd := decode_encode P ok payload hlen sizes
  have hf := framingOnly_decode_encode P ok payload hlen sizes
  cases carrier
  · exact hd
  · exact hd
  · exact hf
  · exact hf

theorem encode_longer (P : Params) (payload : Bytes) (sizes : List Nat) :
    payload.length < (encode P payload sizes).length := by
  unfold encode
  rw [render_eq]
  have hdatas := frameOf_datas P payload sizes
  have := flatMap_renderChunk_length (!P.skipValidation) (frameOf P payload sizes).chunks
  rw [hdatas] at this
  simp only [List.length_append, crlf, List.length_cons, List.length_nil] at this ⊢
  omega

end Pithos.Chunked
