/-
Which concrete kinds of shard damage leave a shard *honest* in the sense of
`Pithos.Lemmas.ErasureCodingFaults` (helpers for C17): a missing shard; any honest shard truncated at
ANY byte position (`ShardHonest.take`); true frames followed by anything the frame reader rejects at that
stripe (`honest_frames_then`): a frame whose body does not begin with the true payload (barring a hash
collision), fewer than a frame header of trailing bytes. Also: the big-endian decoding is injective on
fields of one width (`fromBE_inj`). The closing `Pithos.C17` block holds the two facts
`C17.missing_or_truncated_tolerated` is read off: a missing shard and the cut stream of `PutPart` are honest.
-/
import Pithos.Lemmas.ErasureCodingHeal

namespace Pithos.EC
open Pithos.Codec

/-- The hash does not collide on this particular pair of inputs. (A function with 32-byte values
cannot be injective on all byte strings, so "collision-free" is assumed per pair: the damaged payload
at hand must not be a SHA-256 collision of the true payload.) -/
def NoCollision (H : Bytes → Bytes) (a b : Bytes) : Prop := H a = H b → a = b

section
variable {c : Cfg} {code : Code} {H : Bytes → Bytes}

theorem fromBE_inj (a b : Bytes) (hl : a.length = b.length) (h : fromBE a = fromBE b) : a = b := by
  rw [← beN_fromBE a, ← beN_fromBE b, hl, h]

theorem readFrame_header_then (hH : ∀ x, (H x).length = 32) (j : Nat) {m : Nat} {p body : Bytes}
    (cf : NoCollision H (body.take p.length) p)
    (ok : FrameOK m p) (hne : body.take p.length ≠ p) :
    readFrame H j (frameHeader H j m p ++ body) = .bad := by
  rw [readFrame_header hH j body ok]
  split
  · rfl
  · rw [if_pos fun h => hne (cf h)]

/-- A shard stream cut at any byte position is as honest as the whole: inside the shard header it does
not open, behind it the reader is a prefix of the whole reader (`HonestFrom.prefix`). -/
theorem ShardHonest.take {b : Bytes} {k : Nat} {s : Bytes}
    (h : ShardHonest c code H b k (some s)) (m : Nat) : ShardHonest c code H b k (some (s.take m)) := by
  unfold ShardHonest at h ⊢
  rcases openShard_take c k s m with h1 | ⟨r, h1, h2⟩
  · rw [h1]; trivial
  · rw [h1] at h
    rw [h2]
    exact HonestFrom.prefix (r.drop (m - shardHeaderSize)) ((List.take_append_drop _ r).symm ▸ h)

/-- The frame of some stripe replaced by the true header followed
by a body that does not begin with the true payload (a flipped payload byte, a shortened payload, …):
honest, unless the damaged payload is a hash collision of the true one. (Damage to the hash field or
to the stripe-index field is rejected even without that assumption; see `readFrame_fields`.) -/
theorem honest_payload_damage (c : Cfg) (code : Code) (H : Bytes → Bytes) (wf : WF c code H)
    (k : Nat) (hk : k < c.n) (xs1 : List Bytes) (x : Bytes) (xs2 : List Bytes) (j : Nat) (body : Bytes)
    (cf : NoCollision H (body.take (truePayload c code x k).length) (truePayload c code x k))
    (hs : StripesOK c (xs1 ++ x :: xs2))
    (hne : body.take (truePayload c code x k).length ≠ truePayload c code x k) :
    HonestFrom c code H k j (xs1 ++ x :: xs2)
      (framesFrom c code H k j xs1 ++ (frameHeader H (j + xs1.length) x.length (truePayload c code x k) ++ body)) := by
  have hs1 : StripesOK c xs1 := fun y hy => hs y (List.mem_append_left _ hy)
  have hx := hs x (List.mem_append_right _ List.mem_cons_self)
  refine honest_frames_then wf hk (x :: xs2) _ xs1 j hs1 ?_
  simp only [HonestFrom, readFrame_header_then wf.hash_len _ cf (truePayload_bounds wf hk hx) hne]

/-- Trailing bytes shorter than a frame header after the last true frame are harmless. -/
theorem honest_short_trailer (c : Cfg) (code : Code) (H : Bytes → Bytes) (wf : WF c code H) (k : Nat) (hk : k < c.n) (g : Bytes)
    (hg : g.length < frameHeaderSize) :
    ∀ (xs : List Bytes) (j : Nat), StripesOK c xs → HonestFrom c code H k j xs (framesFrom c code H k j xs ++ g) := by
  intro xs j hs
  have := honest_frames_then wf hk [] g xs j hs ((readFrame_eof_iff H _ g).2 hg)
  rw [List.append_nil] at this
  exact this

end

end Pithos.EC

namespace Pithos.C17
open Pithos.Codec Pithos.EC

theorem missing_shard_honest (c : Cfg) (code : Code) (H : Bytes → Bytes) (b : Bytes) (k : Nat) :
    ShardHonest c code H b k none := trivial

attribute [local irreducible] ShardHonest in
theorem truncated_shard_honest {c : Cfg} {code : Code} {H : Bytes → Bytes} (wf : WF c code H) (b : Bytes) {k : Nat}
    (hk : k < c.n) (m : Nat) : ShardHonest c code H b k (some ((shardStream c code H k b).take m)) :=
  (ShardHonest.intact wf b hk).take m

end Pithos.C17
