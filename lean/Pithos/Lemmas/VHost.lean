/-
Facts about `Pithos.VHost` for all inputs (C33). The URL codec: `esc` leaves plain text alone, `unesc`
undoes it on byte strings and passes over a plain prefix; `stripPort` and `trimSuffix` on the hosts
met. Under `Pithos.C33`, the names the addressing theorems speak of (`bucketChar`, `ValidNames`) and the two facts they rest
on: on a virtual-hosted request the rewrite reaches its last step with the bucket named by the host
(`rewrite_vhost`), and parsing commutes with prefixing by plain text (`parseTarget_append_plain`),
the path-style target being the virtual-hosted one prefixed with `/<bucket>` (`parseTarget_pathObj`).
Core Lean only.
-/
import Pithos.Model.VHost

namespace Pithos.VHost
open Pithos.Ascii

theorem hexVal_hexd : ∀ n, n < 16 → hexVal? (hexd n) = some n := by decide +kernel

theorem keep_ne_pct (c : Char) (h : keepPath c = true) : c ≠ '%' := by
  intro e; subst e; revert h; decide +kernel

theorem esc_append (a b : List Char) : esc (a ++ b) = esc a ++ esc b := by
  simp [esc]

theorem esc_cons (c : Char) (s : List Char) : esc (c :: s) = escChar c ++ esc s := by
  simp [esc]

theorem esc_keep (s : List Char) (h : ∀ c ∈ s, keepPath c = true) : esc s = s := by
  induction s with
  | nil => rfl
  | cons c s ih =>
    have hc := h c List.mem_cons_self
    rw [esc_cons, ih (fun d hd => h d (List.mem_cons_of_mem _ hd))]
    simp [escChar, hc]

theorem unescGo_normal_cons (c : Char) (r : List Char) (h : c ≠ '%') :
    unescGo .normal (c :: r) = (unescGo .normal r).map (c :: ·) := by
  have hb : (c == '%') = false := by simpa using h
  simp [unescGo, hb]

theorem unescGo_pct (x y : Nat) (hx : x < 16) (hy : y < 16) (r : List Char) :
    unescGo .normal ('%' :: hexd x :: hexd y :: r)
      = (unescGo .normal r).map (Char.ofNat (16 * x + y) :: ·) := by
  simp [unescGo, hexVal_hexd x hx, hexVal_hexd y hy]

theorem unesc_append_plain (a b : List Char) (h : ∀ c ∈ a, c ≠ '%') :
    unesc (a ++ b) = (unesc b).map (a ++ ·) := by
  induction a with
  | nil => simp [unesc]
  | cons c a ih =>
    have hc := h c List.mem_cons_self
    have ih' := ih (fun d hd => h d (List.mem_cons_of_mem _ hd))
    simp only [unesc] at ih' ⊢
    rw [List.cons_append, unescGo_normal_cons c _ hc, ih']
    cases unescGo .normal b <;> simp

theorem unesc_esc (p : List Char) (hb : ∀ c ∈ p, c.toNat < 256) : unesc (esc p) = some p := by
  induction p with
  | nil => rfl
  | cons c p ih =>
    have ih' := ih (fun d hd => hb d (List.mem_cons_of_mem _ hd))
    have hc := hb c List.mem_cons_self
    simp only [unesc] at ih' ⊢
    rw [esc_cons]
    by_cases hk : keepPath c = true
    · simp only [escChar, hk, if_true, List.singleton_append]
      rw [unescGo_normal_cons c _ (keep_ne_pct c hk), ih']; rfl
    · have hk' : keepPath c = false := by simpa using hk
      simp only [escChar, hk', Bool.false_eq_true, if_false, List.cons_append, List.nil_append]
      rw [unescGo_pct _ _ (by omega) (Nat.mod_lt _ (by omega)), ih', Nat.div_add_mod, Char.ofNat_toNat]; rfl

/-- Only the empty text decodes to the empty text: every character and every complete escape yields a character. -/
theorem unescGo_nil {st : USt} {r : List Char} (h : unescGo st r = some []) : st = .normal ∧ r = [] := by
  fun_induction unescGo st r with
  | case1 => exact ⟨rfl, rfl⟩
  | case2 | case3 | case7 | case9 => cases h
  | case4 c r hc ih => exact nomatch (ih h).1
  | case6 a r x hx ih => exact nomatch (ih h).1
  | case5 c r hc ih => cases hr : unescGo .normal r <;> simp [hr] at h
  | case8 x b r y hy ih => cases hr : unescGo .normal r <;> simp [hr] at h

theorem lastIdx_none_of_not_mem (c : Char) (s : List Char) (h : c ∉ s) : lastIdx c s = none := by
  simp only [lastIdx, Option.map_eq_none_iff, List.findIdx?_eq_none_iff, List.mem_reverse]
  intro x hx
  have : x ≠ c := fun e => h (e ▸ hx)
  simpa using this

theorem stripPort_of_no_colon (h : List Char) (hc : ':' ∉ h) : stripPort h = h := by
  simp [stripPort, lastIdx_none_of_not_mem ':' h hc]

theorem trimSuffix_append (a s : List Char) : trimSuffix (a ++ s) s = a := by
  have h : s.isSuffixOf (a ++ s) = true := by
    rw [List.isSuffixOf_iff_suffix]; exact List.suffix_append a s
  simp [trimSuffix, h]

theorem trimSuffix_of_not_suffix (a s : List Char) (h : s.isSuffixOf a = false) :
    trimSuffix a s = a := by
  simp [trimSuffix, h]

end Pithos.VHost

namespace Pithos.C33
open Pithos.Ascii Pithos.VHost

/-- The characters of a valid bucket name: lower-case letters, digits, '.', '-'. -/
def bucketChar (c : Char) : Bool :=
  (c.toNat ≥ 97 && c.toNat ≤ 122) || (c.toNat ≥ 48 && c.toNat ≤ 57) || c == '.' || c == '-'

/-- What the theorems assume about names: a non-empty bucket name of bucket characters and an API
endpoint that is a plain domain name (no ':' — the setting holds a domain, the port is separate). -/
structure ValidNames (apiEp b : List Char) : Prop where
  nonempty : b ≠ []
  chars : ∀ c ∈ b, bucketChar c = true
  endpoint : ':' ∉ apiEp

theorem bucketChar_keep (c : Char) (h : bucketChar c = true) : keepPath c = true := by
  simp only [bucketChar, Bool.or_eq_true, Bool.and_eq_true, decide_eq_true_eq, beq_iff_eq] at h
  rcases h with ((h | h) | h) | h
  · simp only [keepPath, isAlnum, ge_iff_le, h.1, h.2, decide_true, Bool.and_self, Bool.or_true, Bool.true_or]
  · simp only [keepPath, isAlnum, ge_iff_le, h.1, h.2, decide_true, Bool.and_self, Bool.true_or]
  · subst h; decide +kernel
  · subst h; decide +kernel

theorem bucketChar_ne_colon (c : Char) (h : bucketChar c = true) : c ≠ ':' := by
  intro e; subst e; revert h; decide +kernel

theorem keep_slash : keepPath '/' = true := by decide +kernel

theorem rewrite_path_style (r : Bool) (apiEp : List Char) (h : ':' ∉ apiEp) (u : Url) :
    rewrite r apiEp apiEp u = u := by
  simp [rewrite, stripPort_of_no_colon apiEp h]

theorem vhost_host_parts (apiEp b : List Char) (hv : ValidNames apiEp b) :
    stripPort (vhostHost b apiEp) = b ++ dotted apiEp ∧
    (b ++ dotted apiEp != apiEp) = true ∧
    (dotted apiEp).isSuffixOf (b ++ dotted apiEp) = true ∧
    trimSuffix (b ++ dotted apiEp) (dotted apiEp) = b := by
  refine ⟨?_, ?_, ?_, trimSuffix_append b _⟩
  · apply stripPort_of_no_colon
    simp only [vhostHost, dotted, List.mem_append, List.mem_cons, not_or]
    exact ⟨fun hm => bucketChar_ne_colon _ (hv.chars _ hm) rfl, by decide, hv.endpoint⟩
  · have : (b ++ dotted apiEp).length ≠ apiEp.length := by
      have := List.length_pos_iff.2 hv.nonempty
      simp [dotted]; omega
    have hne : b ++ dotted apiEp ≠ apiEp := fun e => this (by rw [e])
    simpa using hne
  · rw [List.isSuffixOf_iff_suffix]; exact List.suffix_append b _

theorem rewrite_vhost (r : Bool) (apiEp b : List Char) (hv : ValidNames apiEp b) (u : Url) :
    rewrite r apiEp (vhostHost b apiEp) u =
      if r then
        if u.path == ['/'] || u.path.isEmpty then { path := '/' :: b, rawPath := [] }
        else { path := '/' :: b ++ u.path, rawPath := if u.rawPath.isEmpty then [] else '/' :: b ++ u.rawPath }
      else { u with path := trimSuffix ('/' :: b ++ u.path) ['/'] } := by
  obtain ⟨h1, h2, h3, h4⟩ := vhost_host_parts apiEp b hv
  have hbe : b.isEmpty = false := by simpa using hv.nonempty
  simp [rewrite, h1, h2, h3, h4, hbe]

/-- What prefixing the request-target with plain text does to the parsed URL — and what the repaired
rewrite does with `/<bucket>`. -/
def prefixed (pre : List Char) (u : Url) : Url :=
  { path := pre ++ u.path, rawPath := if u.rawPath.isEmpty then [] else pre ++ u.rawPath }

theorem parseTarget_append_plain (pre raw : List Char) (h : ∀ c ∈ pre, keepPath c = true) :
    parseTarget (pre ++ raw) = (parseTarget raw).map (prefixed pre) := by
  unfold parseTarget
  rw [unesc_append_plain pre raw fun c hc => keep_ne_pct c (h c hc)]
  cases hk : unesc raw with
  | none => rfl
  | some p =>
    have hr : raw = [] → p = [] := by rintro rfl; cases hk; rfl
    by_cases he : raw = esc p
    · simp [prefixed, he, esc_append, esc_keep pre h]
    · have : raw ≠ [] := fun e => he (by rw [e, hr e]; rfl)
      simp [prefixed, he, this, esc_append, esc_keep pre h]

theorem bucket_keep (b : List Char) (hb : ∀ c ∈ b, bucketChar c = true) : ∀ c ∈ '/' :: b, keepPath c = true :=
  List.forall_mem_cons.2 ⟨keep_slash, fun c hc => bucketChar_keep c (hb c hc)⟩

theorem parseTarget_pathObj (b ek : List Char) (hb : ∀ c ∈ b, bucketChar c = true) :
    parseTarget (pathObjTarget b ek) = (parseTarget (vhostObjTarget ek)).map (prefixed ('/' :: b)) :=
  parseTarget_append_plain ('/' :: b) (vhostObjTarget ek) (bucket_keep b hb)

theorem parseTarget_esc (k : List Char) (hb : ∀ c ∈ k, c.toNat < 256) :
    parseTarget (esc k) = some { path := k, rawPath := [] } := by
  simp [parseTarget, unesc_esc k hb]

end Pithos.C33
