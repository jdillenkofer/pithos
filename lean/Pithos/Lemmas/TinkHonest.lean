/-
The seekable reader on an untampered stream (helper for C16): every segment slice the reader cuts out
is exactly the sealed segment, so reading from any plaintext offset delivers the plaintext suffix.
Rests on the geometry of `TinkSeek` alone; the tamper path (`TinkTamper`, `TinkReader`) does not use it.
-/
import Pithos.Lemmas.TinkSeek

namespace Pithos.Tink
open Pithos.Codec

/-- What the reader needs from the segment cipher on untampered data. -/
structure AeadOK (A : AEAD) : Prop where
  roundtrip : ∀ k n m, A.openSeg k n (A.sealSeg k n m) = some m
  seal_len : ∀ k n m, (A.sealSeg k n m).length = m.length + tagLen

/-- the sealed segments, one list element per segment -/
def sealedList (A : AEAD) (key : Nat) (pre : Bytes) (segs : List Bytes) : List Bytes :=
  segs.mapIdx fun i s => A.sealSeg key ⟨pre, i, decide (i + 1 = segs.length)⟩ s

theorem sealAll_eq (A : AEAD) (key : Nat) (pre : Bytes) (segs : List Bytes) :
    sealAll A key pre 0 segs = (sealedList A key pre segs).flatten := by
  -- segment `i` of a tail that starts at index `j` is sealed under index `j + i`
  have h : ∀ (segs : List Bytes) (j : Nat), sealAll A key pre j segs =
      (segs.mapIdx fun i s => A.sealSeg key ⟨pre, j + i, decide (i + 1 = segs.length)⟩ s).flatten := by
    intro segs
    induction segs with
    | nil => intro j; rfl
    | cons s t ih =>
      intro j
      cases t with
      | nil => simp [sealAll]
      | cons t1 t2 => simp [sealAll, List.mapIdx_cons, ih (j + 1), Nat.add_assoc, Nat.add_comm 1]
  simpa [sealedList] using h segs 0

theorem sealedList_length (A : AEAD) (key : Nat) (pre : Bytes) (segs : List Bytes) :
    (sealedList A key pre segs).length = segs.length := List.length_mapIdx

theorem sealedList_getD (A : AEAD) (key : Nat) (pre : Bytes) (segs : List Bytes) (i : Nat) (hi : i < segs.length) :
    (sealedList A key pre segs).getD i [] = A.sealSeg key ⟨pre, i, decide (i + 1 = segs.length)⟩ (segs.getD i []) := by
  simp [sealedList, List.getD_eq_getElem?_getD, List.getElem?_eq_getElem hi]

/-- an untampered stream and the reader's view of it -/
structure Honest (A : AEAD) (css key : Nat) (salt pre : Bytes) (keyOf : Bytes → Nat) (segs : List Bytes) : Prop where
  aead : AeadOK A
  css_gt : 56 < css
  lay : SegLayout css segs
  count_lt : segs.length < 4294967296
  salt_len : salt.length = 32
  pre_len : pre.length = 7
  key_ok : keyOf salt = key

/-- `tinkStream` for any list of segments: `tinkStream A key salt pre css pt` unfolds to
`streamOf A key salt pre (segments css pt)`. -/
def streamOf (A : AEAD) (key : Nat) (salt pre : Bytes) (segs : List Bytes) : Bytes :=
  [40] ++ salt ++ pre ++ sealAll A key pre 0 segs

section
variable {A : AEAD} {css key : Nat} {salt pre : Bytes} {keyOf : Bytes → Nat} {segs : List Bytes}

theorem streamOf_eq : streamOf A key salt pre segs = ([40] ++ salt ++ pre) ++ (sealedList A key pre segs).flatten := by
  simp [streamOf, sealAll_eq]

theorem hdr_len (h : Honest A css key salt pre keyOf segs) : ([40] ++ salt ++ pre : Bytes).length = hdrLen := by
  simp [h.salt_len, h.pre_len, hdrLen]

theorem sealed_len (h : Honest A css key salt pre keyOf segs) (i : Nat) (hi : i < segs.length) :
    ((sealedList A key pre segs).getD i []).length = (segs.getD i []).length + tagLen := by
  rw [sealedList_getD A key pre segs i hi, h.aead.seal_len]

theorem sealed_take_length (h : Honest A css key salt pre keyOf segs) : ∀ j, j ≤ segs.length →
    ((sealedList A key pre segs).take j).flatten.length = (segs.take j).flatten.length + tagLen * j
  | 0, _ => by simp
  | j + 1, hj => by
    rw [take_succ_flatten _ j (by rw [sealedList_length]; omega), take_succ_flatten segs j (by omega), List.length_append,
      List.length_append, sealed_take_length h j (by omega), sealed_len h j (by omega), Nat.mul_succ]
    omega

theorem stream_length (h : Honest A css key salt pre keyOf segs) :
    (streamOf A key salt pre segs).length = ctLenOf css segs.length (segs.getD (segs.length - 1) []).length := by
  have hs := sealed_take_length h segs.length (Nat.le_refl _)
  rw [List.take_of_length_le (by rw [sealedList_length]; exact Nat.le_refl _), List.take_length] at hs
  rw [streamOf_eq, List.length_append, hdr_len h, hs, ctLenOf_eq css _ _ h.css_gt h.lay.length_pos, ← h.lay.flatten_length]
  omega

theorem honest_geometry (h : Honest A css key salt pre keyOf segs) :
    numSegR css (streamOf A key salt pre segs).length = segs.length ∧
    ptLenR css (streamOf A key salt pre segs).length = segs.flatten.length := by
  rw [stream_length h, h.lay.flatten_length]
  exact ctLenOf_inverse css segs.length _ h.css_gt h.lay.length_pos h.lay.last_le

theorem honest_slice (h : Honest A css key salt pre keyOf segs) (j : Nat) (hj : j < segs.length) :
    ((streamOf A key salt pre segs).drop (ctOff css j)).take (ctLen css (streamOf A key salt pre segs).length j)
      = (sealedList A key pre segs).getD j [] ∧
    ctLen css (streamOf A key salt pre segs).length j = ((sealedList A key pre segs).getD j []).length := by
  have hl : j < (sealedList A key pre segs).length := by rw [sealedList_length]; exact hj
  have hctlen : ctLen css (streamOf A key salt pre segs).length j = ((sealedList A key pre segs).getD j []).length := by
    rw [sealed_len h j hj, stream_length h, ctLen_ctLenOf css _ _ j h.css_gt hj h.lay.last_le]
    by_cases hlast : j + 1 = segs.length
    · rw [if_pos hlast, show segs.length - 1 = j by omega]
    · rw [if_neg hlast, h.lay.full j (by omega)]
  refine ⟨?_, hctlen⟩
  have hoff : ctOff css j = ([40] ++ salt ++ pre : Bytes).length + (((sealedList A key pre segs).take j).flatten.length + 0) := by
    rw [ctOff_eq css j h.css_gt, hdr_len h, sealed_take_length h j (by omega), h.lay.take_flatten_length j hj]
    omega
  rw [hctlen, streamOf_eq, hoff, ← List.drop_drop, List.drop_left, drop_flatten_split _ j 0 hl, List.drop_zero, List.take_left']
  rfl

theorem stream_header (h : Honest A css key salt pre keyOf segs) :
    (streamOf A key salt pre segs).headD 0 = 40 ∧ ((streamOf A key salt pre segs).drop 1).take 32 = salt ∧
    ((streamOf A key salt pre segs).drop 33).take 7 = pre := by
  have e : streamOf A key salt pre segs = [40] ++ (salt ++ (pre ++ sealAll A key pre 0 segs)) := by
    simp [streamOf, List.append_assoc]
  rw [e]
  refine ⟨rfl, ?_, ?_⟩
  · simp only [List.cons_append, List.nil_append, List.drop_succ_cons, List.drop_zero]
    rw [← h.salt_len, List.take_left]
  · have : ([40] ++ (salt ++ (pre ++ sealAll A key pre 0 segs)) : Bytes).drop 33 = pre ++ sealAll A key pre 0 segs := by
      simp only [List.cons_append, List.nil_append, List.drop_succ_cons]
      rw [← h.salt_len, List.drop_left]
    rw [this, ← h.pre_len, List.take_left]

theorem honest_load (h : Honest A css key salt pre keyOf segs) (j : Nat) (hj : j < segs.length) :
    loadSeg A keyOf css (streamOf A key salt pre segs) j = some (segs.getD j []) := by
  obtain ⟨hsl, hcl⟩ := honest_slice h j hj
  obtain ⟨_, hsalt, hpre⟩ := stream_header h
  have hslen := sealed_len h j hj
  unfold loadSeg
  simp only
  rw [if_neg (by omega), if_neg (by have := h.count_lt; omega), hsl, if_neg (by omega), hsalt, hpre, h.key_ok,
    (honest_geometry h).1, sealedList_getD A key pre segs j hj]
  have hflag : (j == segs.length - 1) = decide (j + 1 = segs.length) := by
    have := h.lay.length_pos
    rw [Bool.eq_iff_iff, beq_iff_eq, decide_eq_true_iff]; omega
  rw [hflag]
  exact h.aead.roundtrip _ _ _

theorem honest_openable (h : Honest A css key salt pre keyOf segs) : openable css (streamOf A key salt pre segs) = true := by
  have hlen := stream_length h
  rw [ctLenOf_eq css _ _ h.css_gt h.lay.length_pos] at hlen
  have hcss := h.css_gt
  have hk := h.lay.length_pos
  unfold openable
  rw [(honest_geometry h).1, (stream_header h).1]
  simp only [hdrLen, tagLen] at hlen ⊢
  simp only [Bool.and_eq_true, beq_self_eq_true, and_true]
  exact ⟨⟨decide_eq_true (by omega), decide_eq_true (by omega)⟩, decide_eq_true (by omega)⟩

end

/-- With every true segment loading and the true plaintext length, the loop started anywhere delivers the
rest of the plaintext; each round hands out at least one byte, so `fuel` above what is left suffices. -/
theorem readLoop_all_load {css : Nat} {segs : List Bytes} (lay : SegLayout css segs) (h56 : 56 < css)
    (load : Nat → Option Bytes) (fix : Bool) (hload : ∀ j, j < segs.length → load j = some (segs.getD j [])) :
    ∀ (fuel pos : Nat) (acc : Bytes), segs.flatten.length - pos < fuel →
      readLoop load segs.flatten.length (segs.length - 1) (segFor css) (ptStart css) fix fuel pos acc
        = .ok (acc ++ segs.flatten.drop pos) := by
  intro fuel
  induction fuel with
  | zero => intro pos acc h; omega
  | succ fuel ih =>
    intro pos acc hf
    rw [readLoop]
    by_cases hend : pos ≥ segs.flatten.length
    · rw [if_pos hend, List.drop_eq_nil_iff.2 hend, List.append_nil, hload _ (by have := lay.length_pos; omega)]
      cases fix <;> rfl
    · rw [if_neg hend]
      obtain ⟨hj, hd⟩ := lay.segFor_lt h56 pos (by omega)
      rw [hload _ hj]
      simp only
      have hne : ¬ ((segs.getD (segFor css pos) []).drop (pos - ptStart css (segFor css pos))).isEmpty = true := by
        rw [List.isEmpty_iff_length_eq_zero, List.length_drop]; omega
      rw [if_neg hne, ih _ _ (by rw [List.length_drop]; omega), List.append_assoc, ← lay.drop_flatten h56 pos hj]

theorem seekRead_honest {A : AEAD} {css key : Nat} {salt pre : Bytes} {keyOf : Bytes → Nat} {segs : List Bytes}
    (h : Honest A css key salt pre keyOf segs) (fix : Bool) (off : Nat) :
    seekRead A keyOf fix css (streamOf A key salt pre segs) off = .ok (segs.flatten.drop off) := by
  obtain ⟨hnum, hpt⟩ := honest_geometry h
  have hlen := stream_length h
  rw [ctLenOf_eq css _ _ h.css_gt h.lay.length_pos, ← h.lay.flatten_length] at hlen
  unfold seekRead readFrom
  rw [honest_openable h, hnum, hpt]
  exact readLoop_all_load h.lay h.css_gt _ fix (honest_load h) _ off [] (by omega)

end Pithos.Tink
