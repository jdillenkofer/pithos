/-
The LFU policy and GenericCache run sequentially (C19). The bookkeeping invariant `LInv` (checker consistent,
every tracked key has a heap entry) is kept by all three policy calls in every variant (`trackSet_linv`,
`trackGet_linv`, `trackRemove_linv`): `trackSet_inv` carries a loop predicate through the eviction loop, and with
`LoopP` an empty heap under `ShouldEvict` means that the only tracked key is the one being set, which fits
(`lfu_no_panic_asis_partial`). `seq_step_pol` takes a property of the LFU state to the policy of the cache and
along `Seq.step`; `seq_step_store` says where a stored pair comes from, `seq_step_get` what a Get answers.
Props/C19 states its sequential theorems with `opFits` and `PUnique`.
-/
import Pithos.Lemmas.CacheInv

namespace Pithos.C19
open Pithos.Cache

/-- Bookkeeping invariant, true of the code as it is and of the repaired variants. -/
structure LInv (s : Lfu) : Prop where
  ok  : s.chk.Ok
  sub : ∀ k ∈ s.chk.keys, k ∈ hkeys s.heap

theorem linv_init (l : Limit) : LInv (Lfu.init l) :=
  ⟨Checker.ok_init l, by intro k hk; simp [Lfu.init, Checker.init, Checker.keys] at hk⟩

/-- A new item fits the cache on its own. -/
def fits (l : Limit) (sz : Nat) : Prop :=
  match l with
  | .size m => sz ≤ m
  | .keys m => 1 ≤ m

/-- The heap the eviction loop starts from. -/
def startHeap (d : Bool) (s : Lfu) (k : Key) : Heap := if d then removeKey s.heap k else s.heap

theorem trackSet_unfold (g d : Bool) (s : Lfu) (k : Key) (sz : Nat) :
    s.trackSet g d k sz =
      match evictLoop g ((startHeap d s k).length + 1) (s.chk.trackSet k sz) (startHeap d s k) [] with
      | none => none
      | some (c, h, ev) => some (⟨c, push h ⟨k, 0, s.clock⟩, s.clock + 1⟩, ev) := rfl

theorem trackSet_isSome (g d : Bool) (s : Lfu) (k : Key) (sz : Nat) : (s.trackSet g d k sz).isSome =
    (evictLoop g ((startHeap d s k).length + 1) (s.chk.trackSet k sz) (startHeap d s k) []).isSome := by
  rw [trackSet_unfold]
  split
  · next h => rw [h]; rfl
  · next h => rw [h]; rfl

theorem trackSet_inv (P : Checker → Heap → Prop)
    (hstep : ∀ c h e h', P c h → c.shouldEvict = true → pop h = some (e, h') → P (c.trackRemove e.key) h')
    (g d : Bool) (s : Lfu) (k : Key) (sz : Nat) (h0 : P (s.chk.trackSet k sz) (startHeap d s k))
    (r : Lfu × List Key) (h : s.trackSet g d k sz = some r) :
    ∃ hh, P r.1.chk hh ∧ (hkeys r.1.heap).Perm (k :: hkeys hh) := by
  rw [trackSet_unfold] at h
  split at h
  · cases h
  · next c hh ev hloop =>
    cases h
    exact ⟨hh, evictLoop_inv g P hstep _ _ _ _ _ h0 hloop, hkeys_perm (push_perm hh ⟨k, 0, s.clock⟩)⟩

theorem trackGet_hkeys (s : Lfu) (k : Key) :
    (s.trackGet k).chk = s.chk ∧ (hkeys (s.trackGet k).heap).Perm (hkeys s.heap) := by
  unfold Lfu.trackGet
  cases hf : findKey s.heap k with
  | none => exact ⟨rfl, .refl _⟩
  | some i =>
    simp only []
    cases he : s.heap[i]? with
    | none => exact ⟨rfl, .refl _⟩
    | some e =>
      refine ⟨rfl, (hkeys_perm (fix_perm _ i)).trans (.of_eq ?_)⟩
      exact hkeys_set_same s.heap i e { e with freq := e.freq + 1, ts := s.clock } he rfl

theorem trackRemove_eq (s : Lfu) (k : Key) :
    s.trackRemove k = { s with chk := s.chk.trackRemove k, heap := removeKey s.heap k } := by
  unfold Lfu.trackRemove removeKey
  cases findKey s.heap k <;> rfl

/-- Loop predicate: checker consistent, every tracked key other than the one being set still has a
heap entry, the entry of the key being set records `sz`. -/
def LoopP (L : Limit) (k : Key) (sz : Nat) (c : Checker) (h : Heap) : Prop :=
  c.Ok ∧ c.limit = L ∧ (∀ k' ∈ c.keys, k' = k ∨ k' ∈ hkeys h) ∧
  (∀ m, c.limit = .size m → ∀ p ∈ c.tracked, p.1 = k → p.2 = sz)

theorem loopP_step (L : Limit) (k : Key) (sz : Nat) (c : Checker) (h : Heap) (e : Entry) (h' : Heap)
    (hp : LoopP L k sz c h) (_hs : c.shouldEvict = true) (hpop : pop h = some (e, h')) :
    LoopP L k sz (c.trackRemove e.key) h' := by
  obtain ⟨hok, hl, hsub, hsz⟩ := hp
  refine ⟨Checker.ok_trackRemove c _ hok, hl, ?_, ?_⟩
  · intro k' hk'
    obtain ⟨h1, h2⟩ := (Checker.mem_keys_trackRemove c e.key k').1 hk'
    refine (hsub k' h1).imp_right (fun h3 => ?_)
    exact (List.mem_cons.1 ((hkeys_pop h h' e hpop).mem_iff.2 h3)).resolve_left h2
  · intro m hm p hp' hk
    exact Checker.size_trackRemove c k e.key sz (hsz m hm) p hp' hk

theorem loopP_start (d : Bool) (s : Lfu) (k : Key) (sz : Nat) (hs : LInv s) :
    LoopP s.chk.limit k sz (s.chk.trackSet k sz) (startHeap d s k) := by
  refine ⟨Checker.ok_trackSet _ _ _ hs.ok, Checker.limit_trackSet _ _ _, ?_, ?_⟩
  · intro k' hk'
    rcases (Checker.mem_keys_trackSet s.chk k k' sz).1 hk' with h1 | h1
    · exact Or.inl h1
    · cases d
      · exact Or.inr (hs.sub k' h1)
      · exact mem_hkeys_removeKey k (hs.sub k' h1)
  · intro m hm
    rw [Checker.limit_trackSet] at hm
    exact Checker.size_trackSet s.chk k sz m hm

theorem trackSet_linv (l : Limit) (g d : Bool) (s : Lfu) (k : Key) (sz : Nat) (hs : LInv s ∧ s.chk.limit = l)
    (r : Lfu × List Key) (h : s.trackSet g d k sz = some r) : LInv r.1 ∧ r.1.chk.limit = l := by
  obtain ⟨hh, ⟨hok, hl, hsub, _⟩, hp⟩ :=
    trackSet_inv (LoopP s.chk.limit k sz) (loopP_step _ _ _) g d s k sz (loopP_start d s k sz hs.1) r h
  exact ⟨⟨hok, fun k' hk' => hp.mem_iff.2 (List.mem_cons.2 (hsub k' hk'))⟩, hl.trans hs.2⟩

/-- **lfu_no_panic_guarded.** With the loop condition `ShouldEvict() && Len() > 0` the policy never pops
an empty heap — for every state, key and size. -/
theorem lfu_no_panic_guarded (d : Bool) (s : Lfu) (k : Key) (sz : Nat) : (s.trackSet true d k sz).isSome = true := by
  rw [trackSet_isSome]
  exact evictLoop_some true (fun _ _ => True) (fun _ _ _ _ _ _ _ => trivial) (Or.inl rfl) _ _ _ _ trivial

/-- **lfu_no_panic_asis_partial.** The loop as it is (`for ShouldEvict() { Pop }`) cannot pop an empty heap
as long as the item being set fits the cache on its own. -/
theorem lfu_no_panic_asis_partial (d : Bool) (s : Lfu) (k : Key) (sz : Nat) (hs : LInv s)
    (hfit : fits s.chk.limit sz) : (s.trackSet false d k sz).isSome = true := by
  rw [trackSet_isSome]
  refine evictLoop_some false (LoopP s.chk.limit k sz) (loopP_step _ _ _) (Or.inr ?_) _ _ _ [] (loopP_start d s k sz hs)
  -- with an empty heap only `k` itself is tracked, and that fits
  rintro c h ⟨hok, hl, hsub, hsz⟩ hsE rfl
  have honly : ∀ k' ∈ c.keys, k' = k := fun k' hk' => (hsub k' hk').resolve_right (by simp [hkeys])
  rw [Checker.no_evict_of_only c k sz hok honly hsz (by rw [hl]; exact hfit)] at hsE
  cases hsE

theorem trackGet_linv (l : Limit) (s : Lfu) (k : Key) (hs : LInv s ∧ s.chk.limit = l) :
    LInv (s.trackGet k) ∧ (s.trackGet k).chk.limit = l := by
  obtain ⟨hc, hp⟩ := trackGet_hkeys s k
  exact ⟨⟨hc ▸ hs.1.ok, fun k' hk' => hp.mem_iff.2 (hs.1.sub k' (hc ▸ hk'))⟩, hc ▸ hs.2⟩

theorem trackRemove_linv (l : Limit) (s : Lfu) (k : Key) (hs : LInv s ∧ s.chk.limit = l) :
    LInv (s.trackRemove k) ∧ (s.trackRemove k).chk.limit = l := by
  rw [trackRemove_eq]
  refine ⟨⟨Checker.ok_trackRemove s.chk k hs.1.ok, fun k' hk' => ?_⟩, hs.2⟩
  obtain ⟨h1, h2⟩ := (Checker.mem_keys_trackRemove s.chk k k').1 hk'
  exact (mem_hkeys_removeKey k (hs.1.sub k' h1)).resolve_left h2

theorem trackSet_unique (g : Bool) (s : Lfu) (k : Key) (sz : Nat) (hu : (hkeys s.heap).Nodup)
    (r : Lfu × List Key) (h : s.trackSet g true k sz = some r) : (hkeys r.1.heap).Nodup := by
  have hstep : ∀ (c : Checker) (h : Heap) (e : Entry) (h' : Heap), (hkeys h).Nodup ∧ k ∉ hkeys h →
      c.shouldEvict = true → pop h = some (e, h') → (hkeys h').Nodup ∧ k ∉ hkeys h' := by
    intro c h e h' hp _ hpop
    have hperm := hkeys_pop h h' e hpop
    exact ⟨(List.nodup_cons.1 (hperm.nodup_iff.2 hp.1)).2,
      fun hm => hp.2 (hperm.mem_iff.1 (List.mem_cons_of_mem _ hm))⟩
  obtain ⟨hh, ⟨hn, hk⟩, hp⟩ := trackSet_inv _ hstep g true s k sz (nodup_hkeys_removeKey k hu) r h
  exact hp.nodup_iff.2 (List.nodup_cons.2 ⟨hk, hn⟩)

theorem trackGet_unique (s : Lfu) (k : Key) (hu : (hkeys s.heap).Nodup) : (hkeys (s.trackGet k).heap).Nodup :=
  (trackGet_hkeys s k).2.nodup_iff.2 hu

theorem trackRemove_unique (s : Lfu) (k : Key) (hu : (hkeys s.heap).Nodup) : (hkeys (s.trackRemove k).heap).Nodup := by
  rw [trackRemove_eq]
  exact (nodup_hkeys_removeKey k hu).1

/-- A property of the LFU state as a property of the policy (evictnothing has no state). -/
def PAll (Q : Lfu → Prop) : Policy → Prop
  | .nothing => True
  | .lfu s => Q s

/-- Policy-level invariant of a cache state with checker limit `l`. -/
def PInv (l : Limit) : Policy → Prop := PAll fun s => LInv s ∧ s.chk.limit = l

def PUnique : Policy → Prop
  | .nothing => True
  | .lfu s => (hkeys s.heap).Nodup

theorem policy_trackSet_some (l : Limit) (g d : Bool) (p : Policy) (k : Key) (sz : Nat) (h : PInv l p)
    (hfit : g = true ∨ fits l sz) : (p.trackSet g d k sz).isSome = true := by
  cases p with
  | nothing => rfl
  | lfu s =>
    simp only [Policy.trackSet, Option.isSome_map]
    cases g with
    | true => exact lfu_no_panic_guarded d s k sz
    | false =>
      rcases hfit with h0 | h0
      · cases h0
      · exact lfu_no_panic_asis_partial d s k sz h.1 (h.2 ▸ h0)

/-- A Set that reaches `TrackSet…` offers an item that fits the cache on its own (a streamed Set whose
reader fails does not reach it). -/
def opFits (l : Limit) : Seq.Op → Prop
  | .set _ _ sz _ => fits l sz
  | .setFail _ sz true => fits l sz
  | _ => True

theorem seq_step_pol (Q : Lfu → Prop) (g d : Bool)
    (hset : ∀ s k sz, Q s → ∀ r, s.trackSet g d k sz = some r → Q r.1)
    (hget : ∀ s k, Q s → Q (s.trackGet k)) (hrem : ∀ s k, Q s → Q (s.trackRemove k))
    (s : Seq.St) (op : Seq.Op) (h : PAll Q s.pol) : PAll Q (Seq.step g d s op).1.pol := by
  have hset : ∀ p k sz r, PAll Q p → p.trackSet g d k sz = some r → PAll Q r.1 := by
    intro p k sz r hp hr
    cases p with
    | nothing => simp only [Policy.trackSet, Option.some.injEq] at hr; subst hr; trivial
    | lfu st =>
      simp only [Policy.trackSet, Option.map_eq_some_iff] at hr
      obtain ⟨r', hr', rfl⟩ := hr
      exact hset st k sz hp r' hr'
  have hget : ∀ p k, PAll Q p → PAll Q (p.trackGet k) := by
    intro p k hp
    cases p with
    | nothing => trivial
    | lfu st => exact hget st k hp
  have hrem : ∀ p k, PAll Q p → PAll Q (p.trackRemove k) := by
    intro p k hp
    cases p with
    | nothing => trivial
    | lfu st => exact hrem st k hp
  unfold Seq.step
  by_cases hpo : s.poisoned = true
  · simp only [hpo, if_true]; exact h
  · simp only [hpo]
    cases op with
    | set k v sz known =>
      cases hts : s.pol.trackSet g d k sz with
      | none => cases known <;> simp only [hts, if_true] <;> exact h
      | some r => cases known <;> simp only [hts, if_true] <;> exact hset _ k sz r h hts
    | setFail k sz known =>
      cases known with
      | false => exact hrem _ k h
      | true =>
        cases hts : s.pol.trackSet g d k sz with
        | none => simp only [hts, if_true]; exact h
        | some r => simp only [hts, if_true]; exact hrem _ k (hset _ k sz r h hts)
    | get k => exact hget _ k h
    | remove k => exact hrem _ k h

theorem seq_step_inv (l : Limit) (g d : Bool) (s : Seq.St) (op : Seq.Op) (hp : PInv l s.pol)
    (hfit : g = true ∨ opFits l op) :
    PInv l (Seq.step g d s op).1.pol ∧ (Seq.step g d s op).2 ≠ .panic := by
  refine ⟨seq_step_pol _ g d (trackSet_linv l g d) (trackGet_linv l) (trackRemove_linv l) s op hp, ?_⟩
  -- only a `TrackSet…` that pops the empty heap panics, and there is none
  unfold Seq.step
  by_cases hpo : s.poisoned = true
  · simp only [hpo, if_true]; intro h; cases h
  · simp only [hpo]
    cases op with
    | set k v sz known =>
      have hsome := policy_trackSet_some l g d s.pol k sz hp hfit
      cases hts : s.pol.trackSet g d k sz with
      | none => rw [hts] at hsome; cases hsome
      | some r => cases known <;> simp only [hts, if_true] <;> (intro h; cases h)
    | setFail k sz known =>
      cases known with
      | false => intro h; cases h
      | true =>
        have hsome := policy_trackSet_some l g d s.pol k sz hp hfit
        cases hts : s.pol.trackSet g d k sz with
        | none => rw [hts] at hsome; cases hsome
        | some r => simp only [hts, if_true]; intro h; cases h
    | get k =>
      show (match Seq.lookup s.store k with | some v => Seq.Out.hit v | none => Seq.Out.miss) ≠ Seq.Out.panic
      split <;> (intro h; cases h)
    | remove k => intro h; cases h

theorem seq_run_no_panic (l : Limit) (g d : Bool) (ops : List Seq.Op) (s : Seq.St) (hp : PInv l s.pol)
    (hfit : ∀ op ∈ ops, g = true ∨ opFits l op) : Seq.Out.panic ∉ (Seq.run g d s ops).2 := by
  induction ops generalizing s with
  | nil => simp [Seq.run]
  | cons op ops ih =>
    simp only [Seq.run, List.mem_cons, not_or]
    have h1 := seq_step_inv l g d s op hp (hfit op List.mem_cons_self)
    exact ⟨fun h => h1.2 h.symm, ih _ h1.1 fun o ho => hfit o (List.mem_cons_of_mem _ ho)⟩

theorem mem_foldl_erase {ev : List Key} {st : List (Key × Nat)} {p : Key × Nat}
    (h : p ∈ ev.foldl Seq.erase st) : p ∈ st := by
  induction ev generalizing st with
  | nil => exact h
  | cons e es ih => exact mem_erase (ih h)

theorem seq_step_store (g d : Bool) (s : Seq.St) (op : Seq.Op) (q : Key × Nat)
    (hq : q ∈ (Seq.step g d s op).1.store) : q ∈ s.store ∨ ∃ sz kn, op = .set q.1 q.2 sz kn := by
  unfold Seq.step at hq
  by_cases hpo : s.poisoned = true
  · simp only [hpo, if_true] at hq; exact Or.inl hq
  · simp only [hpo] at hq
    cases op with
    | set k' v' sz known =>
      have hins : ∀ (st : List (Key × Nat)), q ∈ Seq.insert st k' v' →
          q ∈ st ∨ ∃ sz' kn, Seq.Op.set k' v' sz known = .set q.1 q.2 sz' kn := by
        intro st hm
        rcases mem_insert hm with h0 | h0
        · exact Or.inr ⟨sz, known, by rw [h0]⟩
        · exact Or.inl h0
      cases known with
      | false =>
        cases hts : s.pol.trackSet g d k' sz with
        | none => simp only [hts] at hq; exact hins _ hq
        | some r => simp only [hts] at hq; exact hins _ (mem_foldl_erase hq)
      | true =>
        cases hts : s.pol.trackSet g d k' sz with
        | none => simp only [hts, if_true] at hq; exact Or.inl hq
        | some r =>
          simp only [hts, if_true] at hq
          exact (hins _ hq).imp_left mem_foldl_erase
    | setFail k' sz known =>
      cases known with
      | false => exact Or.inl (mem_erase hq)
      | true =>
        cases hts : s.pol.trackSet g d k' sz with
        | none => simp only [hts, if_true] at hq; exact Or.inl hq
        | some r =>
          simp only [hts, if_true] at hq
          exact Or.inl (mem_foldl_erase (mem_erase hq))
    | get k' => exact Or.inl hq
    | remove k' => exact Or.inl (mem_erase hq)

theorem seq_run_store (g d : Bool) (ops : List Seq.Op) (s : Seq.St) (q : Key × Nat)
    (hq : q ∈ (Seq.run g d s ops).1.store) : q ∈ s.store ∨ ∃ sz kn, Seq.Op.set q.1 q.2 sz kn ∈ ops := by
  induction ops generalizing s with
  | nil => exact Or.inl hq
  | cons op ops ih =>
    rcases ih (Seq.step g d s op).1 hq with h | ⟨sz, kn, h⟩
    · rcases seq_step_store g d s op q h with h' | ⟨sz, kn, rfl⟩
      · exact Or.inl h'
      · exact Or.inr ⟨sz, kn, List.mem_cons_self⟩
    · exact Or.inr ⟨sz, kn, List.mem_cons_of_mem _ h⟩

theorem seq_step_get (g d : Bool) (s : Seq.St) (k : Key) (v : Nat) :
    (Seq.step g d s (.get k)).2 = .hit v ↔ s.poisoned = false ∧ Seq.lookup s.store k = some v := by
  unfold Seq.step
  cases s.poisoned with
  | true => exact ⟨nofun, nofun⟩
  | false =>
    simp only [Bool.false_eq_true, if_false, true_and]
    cases Seq.lookup s.store k with
    | none => exact ⟨nofun, nofun⟩
    | some v' => exact ⟨fun h => by cases h; rfl, fun h => by cases h; rfl⟩

end Pithos.C19
