/-
General facts about lists: a statement that mentions no definition of a model lives here, whether one
model uses it or several. Core Lean only. By subject:
* windows and concatenations: the window `[s, e)` of a concatenation, part by part (`window_append`, for both
  models of `createRangeReader`: `Pithos.Range.planParts`, `Pithos.LazyReader.planFrom`); a concatenation
  `L.flatten` cut at its `j`-th member (`flatten_split` and what follows from it); a list is cut at the first
  occurrence of a separator in one way (`split_first`, `split_unique`);
* a predicate on all members after one of them is replaced or one is appended (`forall_mem_set`, `forall_mem_snoc`);
* searching: `find?` under tests that agree on the members, after a map that replaces what a test selects
  (`find?_update`), where one member alone passes the test (`find?_of_unique`), in a filtered list; core's
  `List.lookup` finds a member and ignores the removal of another key; members are told apart by a function
  whose values are distinct (`eq_of_map_eq`); "at most one member passes `p`" as `countP p ≤ 1`, in both
  directions (`eq_of_countP_le_one`, `countP_le_one`);
* indexing with a default: `getD` of a member, of `(List.range n).map f`, and a list as the `getD`s (or the
  `[i]?`s) of its indices (`range_map_getD`, `eq_of_getD`, `map_zip_range_getD`, `filterMap_getElem?_range`);
* a member of a list of numbers is at most their sum;
* a list does not end in an element other than its last; `filterMap` of functions that agree on the members,
  and how many `filterMap id` keeps;
* duplicate-free lists: disjointness under a duplicate-free concatenation and the converse
  (`nodup_flatMap_disjoint`, `nodup_flatMap_of`), renaming one member to a fresh one;
* a fold in which a later element that sets a value wins; trimming a class of elements off both ends;
* `InsertionSort`, the recursion equations that the insertion sorts of the models share, with what follows
  from them (a permutation, commutes with a map that respects the test).
-/
namespace Pithos

theorem window_append {α : Type} (p F : List α) (s e : Nat) :
    ((p ++ F).drop s).take (e - s) =
      (p.drop s).take (e - s) ++ (F.drop (s - p.length)).take ((e - p.length) - (s - p.length)) := by
  rw [List.drop_append, List.take_append, List.length_drop]
  congr 2
  omega

theorem take_drop_of_length_le {α : Type} (l : List α) {s e : Nat} (h : l.length ≤ e) :
    (l.drop s).take (e - s) = l.drop s :=
  List.take_of_length_le (by rw [List.length_drop]; omega)

theorem drop_flatten_cons {α : Type} (L : List (List α)) (j : Nat) (hj : j < L.length) :
    (L.drop j).flatten = L.getD j [] ++ (L.drop (j + 1)).flatten := by
  rw [List.drop_eq_getElem_cons hj, List.flatten_cons, List.getD_eq_getElem?_getD, List.getElem?_eq_getElem hj,
    Option.getD_some]

theorem flatten_split {α : Type} (L : List (List α)) (j : Nat) (hj : j < L.length) :
    L.flatten = (L.take j).flatten ++ (L.getD j [] ++ (L.drop (j + 1)).flatten) := by
  rw [← drop_flatten_cons L j hj, ← List.flatten_append, List.take_append_drop]

theorem take_succ_flatten {α : Type} (L : List (List α)) (j : Nat) (hj : j < L.length) :
    (L.take (j + 1)).flatten = (L.take j).flatten ++ L.getD j [] := by
  rw [List.take_add_one, List.flatten_append]
  simp [List.getD_eq_getElem?_getD, List.getElem?_eq_getElem hj]

theorem drop_flatten_split {α : Type} (L : List (List α)) (j d : Nat) (hj : j < L.length) :
    L.flatten.drop ((L.take j).flatten.length + d) = (L.getD j [] ++ (L.drop (j + 1)).flatten).drop d := by
  conv => lhs; rw [flatten_split L j hj]
  rw [← List.drop_drop, List.drop_left]

theorem split_first {α : Type} {x y : α} {a a' b b' : List α} (hx : x ∉ a') (hy : y ∉ a)
    (h : a ++ x :: b = a' ++ y :: b') : a = a' ∧ x = y ∧ b = b' := by
  induction a generalizing a' with
  | nil =>
    cases a' with
    | nil => simpa using h
    | cons c t => exact absurd (List.mem_cons.2 (Or.inl (List.cons.inj h).1)) hx
  | cons c t ih =>
    cases a' with
    | nil => exact absurd (List.mem_cons.2 (Or.inl (List.cons.inj h).1.symm)) hy
    | cons c' t' =>
      obtain ⟨hc, ht⟩ := List.cons.inj h
      obtain ⟨e, r⟩ := ih (fun m => hx (List.mem_cons_of_mem _ m)) (fun m => hy (List.mem_cons_of_mem _ m)) ht
      exact ⟨by rw [hc, e], r⟩

theorem split_unique {α : Type} (sep : α) {a a' b b' : List α} (ha : sep ∉ a) (ha' : sep ∉ a')
    (h : a ++ sep :: b = a' ++ sep :: b') : a = a' ∧ b = b' :=
  (split_first ha' ha h).imp id And.right

/-- One member is replaced while the predicate weakens from `P` to `Q`. The concurrent models use it for a step
of thread `i`: `P` is a thread's invariant over the old ghost state, `Q` the same over the grown one, `t'` the
continuation of thread `i`. -/
theorem forall_mem_set {τ} {P Q : τ → Prop} {ts : List τ} (h : ∀ t ∈ ts, P t) (mono : ∀ t, P t → Q t)
    (i : Nat) {t' : τ} (ht' : Q t') : ∀ t ∈ ts.set i t', Q t := by
  intro t ht
  rcases List.mem_or_eq_of_mem_set ht with hm | rfl
  · exact mono t (h t hm)
  · exact ht'

theorem forall_mem_snoc {α : Type} {l : List α} {x : α} {p : α → Prop} (hl : ∀ e ∈ l, p e) (hx : p x) :
    ∀ e ∈ l ++ [x], p e :=
  List.forall_mem_append.2 ⟨hl, fun _ he => List.mem_singleton.1 he ▸ hx⟩

theorem find?_congr {α : Type} {p p' : α → Bool} : ∀ {l : List α}, (∀ x ∈ l, p x = p' x) → l.find? p = l.find? p'
  | [], _ => rfl
  | a :: t, h => by
    rw [List.find?_cons, List.find?_cons, h a (List.mem_cons_self ..), find?_congr fun x hx => h x (List.mem_cons_of_mem _ hx)]

theorem find?_update {α : Type} (c p : α → Bool) (y : α) (l : List α) (h : ∀ x ∈ l, c x = true → p y = p x) :
    (l.map fun x => if c x then y else x).find? p = (l.find? p).map fun x => if c x then y else x := by
  rw [List.find?_map]
  exact congrArg _ (find?_congr fun x hx => by
    by_cases hc : c x = true
    · simp only [Function.comp, hc, if_true, h x hx hc]
    · simp only [Function.comp, hc, if_false, Bool.false_eq_true])

theorem find?_of_unique {α : Type} {p : α → Bool} {l : List α} {r : α} (hr : r ∈ l) (hp : p r = true)
    (hu : ∀ x ∈ l, p x = true → x = r) : l.find? p = some r := by
  cases hf : l.find? p with
  | none => exact absurd hp (by simpa using List.find?_eq_none.1 hf r hr)
  | some x => rw [hu x (List.mem_of_find?_eq_some hf) (List.find?_some hf)]

theorem find?_filter_of_imp {α} {l : List α} {p q : α → Bool} (h : ∀ a ∈ l, q a = true → p a = true) :
    (l.filter p).find? q = l.find? q := by
  induction l with
  | nil => rfl
  | cons a t ih =>
    have ih := ih fun x hx => h x (List.mem_cons_of_mem _ hx)
    cases hq : q a with
    | true => rw [List.filter_cons_of_pos (h a List.mem_cons_self hq), List.find?_cons_of_pos hq, List.find?_cons_of_pos hq]
    | false =>
      rw [List.find?_cons_of_neg (by simp [hq]), ← ih, List.filter_cons]
      split
      · exact List.find?_cons_of_neg (by simp [hq])
      · rfl

theorem any_filter_of_imp {α} {l : List α} {p q : α → Bool} (h : ∀ a, q a = true → p a = true) :
    (l.filter p).any q = l.any q := by
  rw [List.any_filter]
  congr 1; funext a
  cases hq : q a
  · exact Bool.and_false _
  · rw [h a hq]; rfl

theorem contains_filter_of {α} [BEq α] [LawfulBEq α] {l : List α} {p : α → Bool} {x : α} (h : p x = true) :
    (l.filter p).contains x = l.contains x := by
  rw [Bool.eq_iff_iff, List.contains_iff_mem, List.contains_iff_mem, List.mem_filter]
  exact ⟨fun hx => hx.1, fun hx => ⟨hx, h⟩⟩

theorem lookup_mem {α : Type} (u : Nat) (l : List (Nat × α)) (v : α) (h : l.lookup u = some v) : (u, v) ∈ l := by
  obtain ⟨l₁, l₂, rfl, -⟩ := List.lookup_eq_some_iff.mp h
  exact List.mem_append_right _ (List.mem_cons_self ..)

theorem lookup_filter_ne {α : Type} {l : List (Nat × α)} {u v : Nat} (h : v ≠ u) :
    (l.filter (·.1 != u)).lookup v = l.lookup v := by
  induction l with
  | nil => rfl
  | cons x xs ih =>
    obtain ⟨a, b⟩ := x
    by_cases hau : a = u
    · subst hau
      have : (v == a) = false := by simpa using h
      simp [List.lookup_cons, this, ih]
    · have hne : (a != u) = true := by simpa using hau
      simp only [List.filter_cons, hne, if_true, List.lookup_cons, ih]

theorem eq_of_map_eq {α β : Type} {f : α → β} {l : List α} (hn : (l.map f).Nodup) {a b : α} (ha : a ∈ l) (hb : b ∈ l)
    (he : f a = f b) : a = b :=
  have hp : l.Pairwise fun x y => f x ≠ f y := List.pairwise_map.1 hn
  List.Pairwise.forall_of_forall_of_flip (R := fun x y => f x = f y → x = y) (fun _ _ _ => rfl)
    (hp.imp fun h e => absurd e h) (hp.imp fun h e => absurd e.symm h) ha hb he

theorem eq_of_countP_le_one {α : Type} {p : α → Bool} {l : List α} (h : l.countP p ≤ 1) {a b : α} (ha : a ∈ l) (hb : b ∈ l)
    (hpa : p a = true) (hpb : p b = true) : a = b := by
  rw [List.countP_eq_length_filter] at h
  have ha' := List.mem_filter.2 ⟨ha, hpa⟩
  have hb' := List.mem_filter.2 ⟨hb, hpb⟩
  match hm : l.filter p, h, ha', hb' with
  | [x], _, ha', hb' => rw [List.mem_singleton.1 ha', List.mem_singleton.1 hb']

theorem filter_length_le_one {α : Type} {p : α → Bool} {l : List α}
    (h : l.Pairwise fun a b => p a = true → p b = false) : (l.filter p).length ≤ 1 := by
  induction l with
  | nil => exact Nat.zero_le _
  | cons a l ih =>
    rw [List.pairwise_cons] at h
    by_cases ha : p a = true
    · have : l.filter p = [] := List.filter_eq_nil_iff.2 fun b hb hpb => by rw [h.1 b hb ha] at hpb; cases hpb
      rw [List.filter_cons_of_pos ha, this]; exact Nat.le_refl _
    · rw [List.filter_cons_of_neg ha]; exact ih h.2

theorem countP_le_one {α β : Type} {f : α → β} {p : α → Bool} {l : List α} (hf : l.Pairwise fun a b => f a ≠ f b)
    (hp : ∀ x ∈ l, ∀ y ∈ l, p x = true → p y = true → f x = f y) : l.countP p ≤ 1 := by
  rw [List.countP_eq_length_filter]
  exact filter_length_le_one <| hf.imp_of_mem fun hx hy hne hpx =>
    Bool.eq_false_iff.2 fun hpy => hne (hp _ hx _ hy hpx hpy)

theorem getD_mem {α : Type} (l : List α) (k : Nat) (d : α) (hk : k < l.length) : l.getD k d ∈ l := by
  rw [List.getD_eq_getElem?_getD, List.getElem?_eq_getElem hk]
  exact List.getElem_mem hk

theorem getD_range_map {α : Type} {f : Nat → α} {n k : Nat} {d : α} (hk : k < n) : ((List.range n).map f).getD k d = f k := by
  simp [List.getD_eq_getElem?_getD, List.getElem?_range hk]

theorem range_map_getD {α : Type} (l : List α) (d : α) : (List.range l.length).map (fun k => l.getD k d) = l := by
  apply List.ext_getElem
  · simp
  · intro i h1 h2
    simp [List.getD_eq_getElem?_getD, List.getElem?_eq_getElem h2]

theorem eq_of_getD {α : Type} {l1 l2 : List α} {d : α} {n : Nat} (h1 : l1.length = n) (h2 : l2.length = n)
    (h : ∀ k, k < n → l1.getD k d = l2.getD k d) : l1 = l2 := by
  rw [← range_map_getD l1 d, ← range_map_getD l2 d, h1, h2]
  exact List.map_congr_left fun k hk => h k (List.mem_range.1 hk)

theorem map_zip_range_getD {α β : Type} (l : List α) (d : α) (f : Nat × α → β) :
    (List.zip (List.range l.length) l).map f = (List.range l.length).map fun k => f (k, l.getD k d) := by
  conv => lhs; rw [← range_map_getD l d, List.length_map, List.length_range, ← List.map_prod_left_eq_zip, List.map_map]
  rfl

theorem filterMap_getElem?_range {α} (l : List α) : (List.range l.length).filterMap (fun i => l[i]?) = l := by
  induction l with
  | nil => rfl
  | cons a t ih =>
    -- the indices of `a :: t` are 0 and the successors of those of `t`
    rw [List.length_cons, List.range_succ_eq_map, List.filterMap_cons, List.filterMap_map]
    simpa [Function.comp_def] using ih

theorem le_sum_of_mem {l : List Nat} {a : Nat} (h : a ∈ l) : a ≤ l.sum := by
  induction l with
  | nil => cases h
  | cons x t ih =>
    simp only [List.mem_cons] at h
    simp only [List.sum_cons]
    rcases h with rfl | h
    · omega
    · have := ih h; omega

theorem isSuffixOf_singleton_false {α : Type} [BEq α] [LawfulBEq α] {c : α} {l : List α} (h : l.getLast? ≠ some c) :
    [c].isSuffixOf l = false := by
  cases hs : [c].isSuffixOf l with
  | false => rfl
  | true =>
    obtain ⟨t, rfl⟩ := List.isSuffixOf_iff_suffix.1 hs
    exact absurd List.getLast?_concat h

theorem filterMap_congr_mem {α β : Type} (f g : α → Option β) (l : List α) (h : ∀ x ∈ l, f x = g x) :
    l.filterMap f = l.filterMap g := by
  induction l with
  | nil => rfl
  | cons x t ih =>
    simp only [List.filterMap_cons, h x (by simp)]
    rw [ih (fun y hy => h y (by simp [hy]))]

theorem filterMap_id_length {α : Type} (l : List (Option α)) : (l.filterMap id).length = (l.filter Option.isSome).length := by
  rw [List.length_filterMap_eq_countP, List.countP_eq_length_filter]
  rfl

theorem nodup_flatMap_disjoint {α β : Type} {f : α → List β} {l : List α} (h : (l.flatMap f).Nodup) {i j : Nat}
    {a b : α} {x : β} (hi : l[i]? = some a) (hj : l[j]? = some b) (hij : i ≠ j) (hxa : x ∈ f a) : x ∉ f b := by
  intro hxb
  have hp := List.pairwise_iff_getElem.1 (List.pairwise_flatMap.1 h).2
  obtain ⟨hi', rfl⟩ := List.getElem?_eq_some_iff.1 hi
  obtain ⟨hj', rfl⟩ := List.getElem?_eq_some_iff.1 hj
  rcases Nat.lt_or_gt_of_ne hij with hlt | hlt
  · exact hp i j hi' hj' hlt x hxa x hxb rfl
  · exact hp j i hj' hi' hlt x hxb x hxa rfl

theorem nodup_flatMap_of {α β} (l : List α) (f : α → List β) (hl : l.Nodup)
    (hown : ∀ i ∈ l, (f i).Nodup)
    (hdisj : ∀ i ∈ l, ∀ j ∈ l, i ≠ j → ∀ n, n ∈ f i → n ∉ f j) : (l.flatMap f).Nodup :=
  List.pairwise_flatMap.2
    ⟨hown, List.Pairwise.imp_of_mem (fun hi hj hne x hx _ hy e => hdisj _ hi _ hj hne x hx (e ▸ hy)) hl⟩

theorem nodup_rename {l : List Nat} {u t : Nat} (hnd : l.Nodup) (ht : t ∉ l) :
    (l.map fun i => if i = u then t else i).Nodup := by
  rw [List.Nodup, List.pairwise_map]
  refine List.Pairwise.imp_of_mem (fun {a b} ha hb hab e => ?_) hnd
  -- two distinct members of `l` stay distinct: at most one of them is `u`, and `t` is not in `l`
  split at e <;> split at e
  · exact hab (by omega)
  · exact ht (e ▸ hb)
  · exact ht (e ▸ ha)
  · exact hab e

/-- In a fold whose step lets an element that sets a value overwrite it (`h`), the last element that sets one
wins; `p` reads the value off the accumulator, `f` off an element. Each field of `ProxySettings.merge` (C32) is
such a fold over the layers. -/
theorem foldl_later_wins {σ τ α : Type} {step : σ → τ → σ} {p : σ → Option α} {f : τ → Option α}
    (h : ∀ a l, p (step a l) = (f l).or (p a)) (ls : List τ) (acc : σ) :
    p (ls.foldl step acc) = (((ls.map f).reverse.find? (·.isSome)).getD none).or (p acc) := by
  induction ls generalizing acc with
  | nil => rfl
  | cons l ls ih =>
    rw [List.foldl_cons, ih, h, List.map_cons, List.reverse_cons, List.find?_append]
    cases hf : (ls.map f).reverse.find? (·.isSome) with
    | some x =>
      obtain ⟨v, rfl⟩ := Option.isSome_iff_exists.1 (List.find?_some hf)
      rfl
    | none => cases f l <;> rfl

variable {α : Type} (p : α → Bool)

theorem dropWhile_of_head (l : List α) (h : ∀ c, l.head? = some c → p c = false) : l.dropWhile p = l := by
  cases l with
  | nil => rfl
  | cons c t => rw [List.dropWhile_cons_of_neg]; simp [h c rfl]

theorem dropRight_append (x ws : List α) (hws : ∀ b ∈ ws, p b = true)
    (hx : ∀ c, x.getLast? = some c → p c = false) : ((x ++ ws).reverse.dropWhile p).reverse = x := by
  rw [List.reverse_append, List.dropWhile_append_of_pos (fun b hb => hws b (List.mem_reverse.1 hb)),
    dropWhile_of_head p _ (by rwa [List.head?_reverse]), List.reverse_reverse]

/-- `SigV4.trimSpace`, `SigV4.trim32`, `Chunked.trimCRLF` and `Rfc7233.trim` unfold to the left side. -/
theorem trim_append (x ws : List α) (hws : ∀ b ∈ ws, p b = true)
    (hh : ∀ c, x.head? = some c → p c = false) (hl : ∀ c, x.getLast? = some c → p c = false) :
    (((x ++ ws).dropWhile p).reverse.dropWhile p).reverse = x := by
  cases x with
  | nil =>
    have : ws.dropWhile p = [] := by simpa using List.dropWhile_append_of_pos (l₂ := []) hws
    rw [List.nil_append, this]
    rfl
  | cons a t => rw [dropWhile_of_head p (a :: t ++ ws) hh, dropRight_append p _ ws hws hl]

/-- `ins` and `sort` are an insertion sort with the test `c`: the recursion equations shared by the insertion
sorts of the models (`S3.sortBy`, `SigV4.sortBy`, `S3List.sortBy`, `Lifecycle.sortByLm`, `ClassRouting.insertSeq`).
They are different functions, so each file states that its sort meets the equations (`isSort`, by `rfl`)
and takes the facts from here. -/
structure InsertionSort {α : Type _} (c : α → α → Prop) [DecidableRel c] (ins : α → List α → List α)
    (sort : List α → List α) : Prop where
  ins_nil : ∀ x, ins x [] = [x]
  ins_cons : ∀ x y l, ins x (y :: l) = if c x y then x :: y :: l else y :: ins x l
  sort_nil : sort [] = []
  sort_cons : ∀ x l, sort (x :: l) = ins x (sort l)

namespace InsertionSort
variable {α : Type _} {c : α → α → Prop} [DecidableRel c] {ins : α → List α → List α} {sort : List α → List α}
  (h : InsertionSort c ins sort)
include h

theorem perm_ins (x : α) : ∀ l, (ins x l).Perm (x :: l)
  | [] => h.ins_nil x ▸ .refl _
  | y :: l => by
    rw [h.ins_cons]
    split
    · exact .refl _
    · exact ((perm_ins x l).cons y).trans (.swap x y l)

theorem perm : ∀ l, (sort l).Perm l
  | [] => h.sort_nil.symm ▸ .refl []
  | x :: l => h.sort_cons x l ▸ (h.perm_ins x _).trans ((perm l).cons x)

theorem mem_sort {a : α} {l : List α} : a ∈ sort l ↔ a ∈ l := (h.perm l).mem_iff

variable {β : Type _} {c' : β → β → Prop} [DecidableRel c'] {ins' : β → List β → List β} {sort' : List β → List β}
  (h' : InsertionSort c' ins' sort')
include h'

theorem map_ins (f : α → β) (x : α) : ∀ l : List α, (∀ y ∈ l, c x y ↔ c' (f x) (f y)) →
    ins' (f x) (l.map f) = (ins x l).map f
  | [], _ => by rw [h.ins_nil, List.map_nil, h'.ins_nil]; rfl
  | y :: l, hc => by
    rw [List.map_cons, h'.ins_cons, h.ins_cons, map_ins f x l fun y hy => hc y (List.mem_cons_of_mem _ hy)]
    by_cases hxy : c x y
    · rw [if_pos hxy, if_pos ((hc y List.mem_cons_self).1 hxy)]; rfl
    · rw [if_neg hxy, if_neg (mt (hc y List.mem_cons_self).2 hxy)]; rfl

theorem map_sort (f : α → β) : ∀ l : List α, (∀ a ∈ l, ∀ b ∈ l, c a b ↔ c' (f a) (f b)) →
    sort' (l.map f) = (sort l).map f
  | [], _ => by rw [List.map_nil, h'.sort_nil, h.sort_nil]; rfl
  | x :: l, hc => by
    rw [List.map_cons, h'.sort_cons, h.sort_cons,
      map_sort f l fun a ha b hb => hc a (List.mem_cons_of_mem _ ha) b (List.mem_cons_of_mem _ hb)]
    exact h.map_ins h' f x _ fun y hy => hc x List.mem_cons_self y (List.mem_cons_of_mem _ (h.mem_sort.1 hy))

end InsertionSort

end Pithos
