/-
The shape of one operation of the storage model: `stepT` either returns the state it was given
(and only then may answer an error), adds an empty bucket, removes a bucket without rows, or
replaces the one bucket it found by a bucket of the same name: with the same rows (`aside`), with one
row saved again (`resave`), or with the rows of one key changed (`rows`; `RowEff` groups the four ways in
which the calls that write a key do that). These are the six shapes of `Eff`. `Eff` says what a call may
leave stored and when it may answer an error, not what a read answers (`same` fixes neither the call nor
the answer; for the reads see `Pithos.Lemmas.S3Read`). The case analysis over the twenty operations is made
once, in `stepT_eff`; what holds of all operations (invariants, frame properties, "an error leaves no
trace") is then proved by cases on `Eff`. The branches with a case analysis of their own are described
in the same way: `DelEff` for `deleteOp` (it also determines the answer), `AppEff` for the append branch
(`appendFrom`), `Resaves` for tagging and transitions, which are one branch (`resave`, `Eff.resave`).
-/
import Pithos.Lemmas.S3Rows

namespace Pithos.S3

/-- The operations that may change which bytes a plain GET of (b, k) returns. -/
def Writes (op : Op) (b k : String) : Prop :=
  match op with
  | .put b' k' _ _ _ _ => b' = b ∧ k' = k
  | .del b' k' _ _ => b' = b ∧ k' = k
  | .copy _ _ _ db dk _ _ _ => db = b ∧ dk = k
  | .append b' k' _ _ => b' = b ∧ k' = k
  | .complete b' k' _ _ _ _ => b' = b ∧ k' = k
  | _ => False

instance (op : Op) (b k : String) : Decidable (Writes op b k) := by
  unfold Writes; cases op <;> simp only [] <;> infer_instance

def Out.isErr : Out → Bool
  | .err _ => true
  | _ => false

/-- `Resaves op b k vid f`: `op` resolves `(b, k, vid)` as a read does and saves the row `r` found again as
`f r`: the call is a `resave` (`stepT_putTags_eq`, `stepT_delTags_eq`, `stepT_transition`). -/
inductive Resaves : Op → String → String → Option (Option Nat) → (Row → Row) → Prop
  | putTags (b k : String) (vid : Option (Option Nat)) (t : Pairs) : Resaves (.putTags b k vid t) b k vid fun r => { r with tags := t }
  | delTags (b k : String) (vid : Option (Option Nat)) : Resaves (.delTags b k vid) b k vid fun r => { r with tags := [] }
  | transition (b k cls : String) (vid : Option (Option Nat)) :
      Resaves (.transition b k cls vid) b k vid fun r => { r with cls := some cls, seqBase := 0 }

theorem Resaves.save {op : Op} {b k : String} {vid : Option (Option Nat)} {f : Row → Row} (hr : Resaves op b k vid f)
    (r : Row) : ∃ t cl sb, f r = { r with tags := t, cls := cl, seqBase := sb } := by
  cases hr <;> exact ⟨_, _, _, rfl⟩

theorem Resaves.stepT_eq {op : Op} {b k : String} {vid : Option (Option Nat)} {f : Row → Row} (hr : Resaves op b k vid f)
    (q : Quirks) (s : State) : ∃ g, stepT q s op = resave q s b k vid g f := by
  cases hr with
  | putTags => exact ⟨id, stepT_putTags_eq ..⟩
  | delTags => exact ⟨id, stepT_delTags_eq ..⟩
  | transition => exact ⟨_, stepT_transition ..⟩

/-- `RowEff q s bk k op s' o`: `op`, addressed to key `k` of the bucket `bk` it found, may leave the state
`s'` and answer `o` in one of the four ways that change `bk`'s rows. -/
inductive RowEff (q : Quirks) (s : State) (bk : Bucket) (k : String) : Op → State → Out → Prop
  /-- the write path of put, copy, complete and append-as-a-new-row (`bkx`: `bk` less an upload) -/
  | write {op : Op} {bkx : Bucket} {n : NewObj} {inm : Bool} {im : IfMatch} {s' : State} {vid : Option Nat} {o : Out} :
      bkx.name = bk.name → bkx.rows = bk.rows → putRow q s bkx k n inm im = .ok (s', vid) → o.isErr = false →
      (∀ x ∈ bkx.uploads, x ∈ bk.uploads) → RowEff q s bk k op s' o
  | del (b : String) (vid : Option (Option Nat)) (im : IfMatch) :
      RowEff q s bk k (.del b k vid im) (deleteOp q s bk k vid im).1 (deleteOp q s bk k vid im).2
  /-- append in place: the current row of the key is extended -/
  | extend {op : Op} {r : Row} {sz : Nat} (p : List Bytes) (e : ETag) (sb : Nat) : latestRow bk k = some r →
      (q.appendLatestInPlace = false → r.vid = none) →
      RowEff q s bk k op (setBucket s (replaceRow bk
        { r with dm := false, latest := true, updated := s.clock, wrote := s.clock, parts := p, etag := e, seqBase := sb }))
        (.appended e sz)
  /-- append before the fix, no current row: a null row is added whether or not one exists -/
  | fresh {op : Op} {sz : Nat} (p : List Bytes) (e : ETag) : q.appendLatestInPlace = true → latestRow bk k = none →
      RowEff q s bk k op { setBucket s (addRow bk
        { rowId := s.nextRow, key := k, latest := true, created := s.clock, updated := s.clock, wrote := s.clock,
          vid := none, parts := p, etag := e }) with nextRow := s.nextRow + 1 } (.appended e sz)

/-- `Eff q s op s' o`: `op` run on `s` may leave the state `s'` and answer `o`. In all but the
first three cases one bucket `bk`, found under its name, is replaced by a bucket of that name. Only
`same` admits an error answer. -/
inductive Eff (q : Quirks) (s : State) : Op → State → Out → Prop
  /-- errors, reads, listings -/
  | same (op : Op) (o : Out) : Eff q s op s o
  | mkb (b : String) : findBucket s b = none → Eff q s (.mkb b) { s with buckets := s.buckets ++ [{ name := b }] } .unit
  | rmb {b : String} {bk : Bucket} : findBucket s b = some bk → bk.rows = [] →
      Eff q s (.rmb b) { s with buckets := s.buckets.filter (·.name != b) } .unit
  /-- versioning state and pending uploads: the rows stay; either no upload id is new and the upload
  counter stays, or (`mpu`) one upload is opened under the next id -/
  | aside (op : Op) {b : String} {bk X : Bucket} {o : Out} (u : Nat) : findBucket s b = some bk →
      X.name = bk.name → X.rows = bk.rows → o.isErr = false →
      (u = s.nextUid ∧ ∀ x ∈ X.uploads, ∃ x' ∈ bk.uploads, x'.uid = x.uid) ∨
        ((∃ k w, op = .mpu b k w) ∧ o = .upload s.nextUid ∧ u = s.nextUid + 1 ∧
          ∃ up : Upload, up.uid = s.nextUid ∧ X.uploads = bk.uploads ++ [up]) →
      Eff q s op { setBucket s X with nextUid := u } o
  /-- tagging and transitions: the call is a `resave` -/
  | resave {op : Op} {b k : String} {vid : Option (Option Nat)} {f : Row → Row} {bk : Bucket} {c : Row} :
      Resaves op b k vid f → findBucket s b = some bk → resolve bk k vid = .ok c →
      Eff q s op (setBucket s (replaceRow bk (touch q s.clock (f c)))) .unit
  /-- the calls that write key `k` of bucket `b` -/
  | rows {op : Op} {b k : String} {bk : Bucket} {s' : State} {o : Out} : Writes op b k → findBucket s b = some bk →
      RowEff q s bk k op s' o → Eff q s op s' o

/-- A key-only delete in a suspended bucket removes the null row of the key first. -/
def lessNull (bk : Bucket) (k : String) : Bucket :=
  if bk.ver == .suspended then
    match nullRow bk k with | some n => removeRow bk n.rowId | none => bk
  else bk

/-- The bucket to which a key-only delete in a versioned bucket adds its delete marker: `lessNull bk k`, in
which the current row of the key, if it is still there, has lost its flag. -/
def beforeMarker (q : Quirks) (now : Nat) (bk : Bucket) (k : String) : Bucket :=
  match latestRow bk k with
  | some r => if (lessNull bk k).rows.any (·.rowId == r.rowId) then unlatest q now (lessNull bk k) r else lessNull bk k
  | none => lessNull bk k

theorem lessNull_cases (bk : Bucket) (k : String) :
    lessNull bk k = bk ∨ ∃ m ∈ bk.rows, m.key = k ∧ m.vid = none ∧ lessNull bk k = removeRow bk m.rowId := by
  unfold lessNull
  split
  · cases hn : nullRow bk k with
    | none => exact .inl rfl
    | some m =>
      obtain ⟨hm, hk, hv⟩ := rowByVid_mem (show rowByVid bk k none = some m from hn)
      exact .inr ⟨m, hm, hk, hv, rfl⟩
  · exact .inl rfl

theorem beforeMarker_cases (q : Quirks) (now : Nat) (bk : Bucket) (k : String) :
    (beforeMarker q now bk k = lessNull bk k ∧
        ∀ r, latestRow bk k = some r → ∀ x ∈ (lessNull bk k).rows, x.rowId ≠ r.rowId) ∨
      ∃ r, latestRow bk k = some r ∧ (∃ x ∈ (lessNull bk k).rows, x.rowId = r.rowId) ∧
        beforeMarker q now bk k = unlatest q now (lessNull bk k) r := by
  unfold beforeMarker
  cases hl : latestRow bk k with
  | none => exact .inl ⟨rfl, fun r hr => nomatch hr⟩
  | some r =>
    simp only []
    split
    · rename_i hany
      obtain ⟨x, hx, hxe⟩ := List.any_eq_true.1 hany
      exact .inr ⟨r, rfl, ⟨x, hx, by simpa using hxe⟩, rfl⟩
    · rename_i hany
      refine .inl ⟨rfl, fun r' hr' x hx he => hany ?_⟩
      cases hr'
      exact List.any_eq_true.2 ⟨x, hx, by simp [he]⟩

theorem beforeMarker_name (q : Quirks) (now : Nat) (bk : Bucket) (k : String) : (beforeMarker q now bk k).name = bk.name := by
  have h1 : (lessNull bk k).name = bk.name := by
    rcases lessNull_cases bk k with h | ⟨_, _, _, _, h⟩ <;> rw [h] <;> rfl
  rcases beforeMarker_cases q now bk k with ⟨h, _⟩ | ⟨_, _, _, h⟩ <;> rw [h] <;> exact h1

/-- `DelEff q s bk k im vid s' o`: `deleteOp` on key `k` of `bk` may leave the state `s'` and answer
`o`. Only `refused` answers an error; it and `nothing` leave the state. -/
inductive DelEff (q : Quirks) (s : State) (bk : Bucket) (k : String) (im : IfMatch) :
    Option (Option Nat) → State → Out → Prop
  /-- the If-Match condition is not met -/
  | refused (vid : Option (Option Nat)) : im ≠ .none → DelEff q s bk k im vid s (.err .preconditionFailed)
  /-- an unconditional delete finds nothing to delete; a key-only one does so only in an unversioned
  bucket in which the key has no current row -/
  | nothing (vid v : Option (Option Nat)) : im = .none → (vid = none → bk.ver = .off ∧ latestRow bk k = none) →
      DelEff q s bk k im vid s (.deleted v false)
  /-- explicit delete of a version: its row goes; if it was current, another row is promoted -/
  | version {v : Option Nat} {r : Row} : rowByVid bk k v = some r → im ≠ .bogus →
      (∀ e, im = .etag e → r.dm = false ∧ r.etag = e) →
      DelEff q s bk k im (some v)
        (setBucket s (if r.latest then promote q s.clock (removeRow bk r.rowId) k else removeRow bk r.rowId))
        (.deleted (some r.vid) r.dm)
  /-- key-only delete in a versioned bucket: a delete marker is added to `beforeMarker` -/
  | marker : ifMatchOk im (latestRow bk k) = true → bk.ver ≠ .off →
      DelEff q s bk k im none { setBucket s (addRow (beforeMarker q s.clock bk k)
        { rowId := s.nextRow, key := k, vid := some s.nextVid, dm := true, latest := true, created := s.clock,
          updated := s.clock, wrote := s.clock }) with nextVid := s.nextVid + 1, nextRow := s.nextRow + 1 }
        (.deleted (some (some s.nextVid)) true)
  /-- key-only delete in an unversioned bucket: the current row goes -/
  | current {r : Row} : ifMatchOk im (latestRow bk k) = true → bk.ver = .off → latestRow bk k = some r →
      DelEff q s bk k im none (setBucket s (removeRow bk r.rowId)) (.deleted none false)

theorem ifMatchOk_absent {im : IfMatch} (h : ifMatchOk im none = true) : im = .none := by
  cases im <;> first | rfl | cases h

theorem deleteOp_eff (q : Quirks) (s : State) (bk : Bucket) (k : String) (vid : Option (Option Nat)) (im : IfMatch) :
    DelEff q s bk k im vid (deleteOp q s bk k vid im).1 (deleteOp q s bk k vid im).2 := by
  cases vid with
  | some v =>
    unfold deleteOp
    simp only []
    refine pair_dite (fun _ => pair_dite (fun h => .refused _ (by simpa using h)) (fun h => .nothing _ _ (by simpa using h) (fun h => nomatch h)))
      fun hp => ?_
    cases hv : rowByVid bk k v with
    | none => simp [hv] at hp
    | some r =>
      refine pair_dite (fun h => .refused _ fun him => by simp [him] at h) fun h => .version hv (fun him => by simp [him] at h) fun e him => ?_
      simpa [him] using h
  | none =>
    unfold deleteOp
    simp only []
    refine pair_dite (fun hc => pair_dite (fun h => .refused _ (by simpa using h)) (fun h => .nothing _ _ (by simpa using h) fun _ => ?_))
      (fun _ => pair_dite (fun h => .refused _ fun him => by simp [him, ifMatchOk] at h) (fun hm => ?_))
    · -- nothing was probed: the bucket is unversioned and the key has no current row
      cases hv : bk.ver <;> simp [hv] at hc
      exact ⟨rfl, hc⟩
    have hm : ifMatchOk im (latestRow bk k) = true := by simpa using hm
    by_cases hver : bk.ver = .off
    · have hv : (bk.ver != Versioning.off) = false := by simp [hver]
      simp only [hv, Bool.false_eq_true, if_false]
      cases hl : latestRow bk k with
      | none => exact .nothing _ _ (ifMatchOk_absent (hl ▸ hm)) (fun _ => ⟨hver, hl⟩)
      | some r => exact .current hm hver hl
    · have hv : (bk.ver != Versioning.off) = true := by simp [hver]
      simp only [hv, if_true]
      exact .marker hm hver

/-- `AppEff q s bk k ex p s' o`: an append to key `k` of `bk` may leave `s'` and answer `o`, where
`ex` is the row it extends (the current row of the key unless that is a delete marker) and `p` the
parts of the object afterwards. -/
inductive AppEff (q : Quirks) (s : State) (bk : Bucket) (k : String) (ex : Option Row) (p : List Bytes) : State → Out → Prop
  | err (e : Err) : AppEff q s bk k ex p s (.err e)
  /-- as a new row through the write path, with the metadata of `ex` (enabled buckets before the
  repair: its content type only) -/
  | write {n : NewObj} {s' : State} {vid : Option Nat} : n.parts = p →
      (q.appendEnabledDropsMeta = false → n.o =
        match ex with | some r => { ct := r.ct, md := r.md, tags := r.tags, cls := r.cls } | none => {}) →
      putRow q s bk k n false .none = .ok (s', vid) → AppEff q s bk k ex p s' (.appended (multiETag p) p.flatten.length)
  /-- in place: the current row (since the repair only a live null version) is extended -/
  | extend {r : Row} (sb : Nat) : latestRow bk k = some r → (q.appendLatestInPlace = false → ex = some r ∧ r.vid = none) →
      AppEff q s bk k ex p (setBucket s (replaceRow bk
        { r with dm := false, latest := true, updated := s.clock, wrote := s.clock, parts := p, etag := multiETag p, seqBase := sb }))
        (.appended (multiETag p) p.flatten.length)
  /-- before the repair, no current row: a null row is added whether or not one exists -/
  | fresh : q.appendLatestInPlace = true → latestRow bk k = none →
      AppEff q s bk k ex p { setBucket s (addRow bk
        { rowId := s.nextRow, key := k, latest := true, created := s.clock, updated := s.clock, wrote := s.clock,
          vid := none, parts := p, etag := multiETag p }) with nextRow := s.nextRow + 1 }
        (.appended (multiETag p) p.flatten.length)

theorem appendFrom_eff (q : Quirks) (s : State) (bk : Bucket) (k : String) (body : Bytes) (off : Option Nat)
    {ex : Option Row} (hlive : ∀ r, ex = some r → latestRow bk k = some r) :
    AppEff q s bk k ex (partsOf ex ++ [body])
      (appendFrom q s bk k body off ex).1 (appendFrom q s bk k body off ex).2 := by
  have viaPut : ∀ (ex : Option Row) (n : NewObj) (x : State × Out),
      n.parts = partsOf ex ++ [body] →
      (q.appendEnabledDropsMeta = false → n.o =
        match ex with | some r => { ct := r.ct, md := r.md, tags := r.tags, cls := r.cls } | none => {}) →
      x = (match putRow q s bk k n false IfMatch.none with
       | .error e => (s, Out.err e)
       | .ok (s', _) => (s', Out.appended (multiETag n.parts) n.parts.flatten.length)) →
      AppEff q s bk k ex (partsOf ex ++ [body]) x.1 x.2 := by
    rintro ex n _ hn ho rfl
    cases hp : putRow q s bk k n false IfMatch.none with
    | error e => exact .err e
    | ok x => rw [hn]; exact .write hn ho hp
  unfold appendFrom
  simp only []
  refine pair_ite (.err _) (pair_ite (viaPut _ _ _ rfl (fun h => by cases ex <;> simp [h]) rfl) ?_)
  cases hq : q.appendLatestInPlace with
  | true =>
    simp only [if_true]
    cases hl : latestRow bk k with
    | none => exact .fresh hq hl
    | some r0 => exact pair_ite (.err _) (.extend _ hl (fun h => by rw [hq] at h; cases h))
  | false =>
    simp only [Bool.false_eq_true, if_false]
    cases ex with
    | none => exact viaPut _ _ _ rfl (fun _ => rfl) rfl
    | some r =>
      by_cases hv : r.vid.isNone = true
      · simp only [hv, if_true]
        exact pair_ite (.err _) (.extend _ (hlive r rfl) (fun _ => ⟨rfl, by simpa using hv⟩))
      · simp only [hv, Bool.false_eq_true, if_false]
        exact viaPut _ _ _ rfl (fun _ => rfl) rfl

theorem AppEff.eff {q : Quirks} {s s' : State} {b k : String} {bk : Bucket} {ex : Option Row} {p : List Bytes} {o : Out}
    (body : Bytes) (off : Option Nat) (hfb : findBucket s b = some bk) (e : AppEff q s bk k ex p s' o) :
    Eff q s (.append b k body off) s' o := by
  cases e with
  | err e => exact .same _ _
  | write _ _ hp => exact .rows (b := b) (k := k) ⟨rfl, rfl⟩ hfb (.write rfl rfl hp rfl fun _ h => h)
  | extend sb hl hv => exact .rows (b := b) ⟨rfl, rfl⟩ hfb (.extend _ _ sb hl fun h => (hv h).2)
  | fresh hq hl => exact .rows (b := b) ⟨rfl, rfl⟩ hfb (.fresh _ _ hq hl)

theorem DelEff.err_same {q : Quirks} {s s' : State} {bk : Bucket} {k : String} {im : IfMatch}
    {vid : Option (Option Nat)} {o : Out} (h : DelEff q s bk k im vid s' o) (he : o.isErr = true) : s' = s := by
  cases h with
  | refused | nothing => rfl
  | _ => cases he

theorem Eff.err_same {q : Quirks} {s s' : State} {op : Op} {o : Out} (h : Eff q s op s' o) (he : o.isErr = true) :
    s' = s := by
  cases h with
  | same => rfl
  | aside _ _ _ _ _ ho => rw [ho] at he; cases he
  | rows _ _ e =>
    cases e with
    | del b vid im => exact (deleteOp_eff q s _ _ vid im).err_same he
    | write _ _ _ ho => rw [ho] at he; cases he
    | _ => cases he
  | _ => cases he

theorem Eff.withBucket {q : Quirks} {s : State} {op : Op} {b : String} {f : Bucket → State × Out}
    (hf : ∀ bk, findBucket s b = some bk → Eff q s op (f bk).1 (f bk).2) : Eff q s op (withB s b f).1 (withB s b f).2 :=
  withB_ind (P := fun x => Eff q s op x.1 x.2) (.same _ _) hf

theorem Eff.withUpload {q : Quirks} {s : State} {op : Op} {bk : Bucket} {uid : Nat} {k : String} {f : Upload → State × Out}
    (hf : ∀ u ∈ bk.uploads, u.uid = uid → u.key = k → Eff q s op (f u).1 (f u).2) :
    Eff q s op (withU s bk uid k f).1 (withU s bk uid k f).2 :=
  withU_ind (P := fun x => Eff q s op x.1 x.2) (.same _ _) hf

theorem Resaves.eff {q : Quirks} {s : State} {op : Op} {b k : String} {vid : Option (Option Nat)} {f : Row → Row}
    (hr : Resaves op b k vid f) : Eff q s op (stepT q s op).1 (stepT q s op).2 := by
  obtain ⟨g, h⟩ := hr.stepT_eq q s
  rw [h]
  refine .withBucket fun bk hfb => ?_
  cases hres : resolve bk k vid with
  | error e => exact .same _ _
  | ok r => exact .resave hr hfb hres

theorem stepT_eff (q : Quirks) (s : State) (op : Op) : Eff q s op (stepT q s op).1 (stepT q s op).2 := by
  cases op with
  | mkb b => exact pair_dite (fun _ => .same _ _) (fun h => .mkb b (by simpa using h))
  | rmb b =>
    refine .withBucket fun bk hfb => pair_dite (fun _ => .same _ _) (fun hne => .rmb hfb ?_)
    cases hr : bk.rows with
    | nil => rfl
    | cons a t => exact absurd (by simp [hr]) hne
  | setVer b v =>
    exact .withBucket fun bk hfb => .aside _ (X := { bk with ver := v }) s.nextUid hfb rfl rfl rfl
      (.inl ⟨rfl, fun x hx => ⟨x, hx, rfl⟩⟩)
  | put b k body o inm im =>
    refine .withBucket fun bk hfb => ?_
    cases hp : putRow q s bk k { parts := [body], etag := singleETag body, o := o } inm im with
    | error e => exact .same _ _
    | ok x => exact .rows (b := b) (k := k) ⟨rfl, rfl⟩ hfb (.write rfl rfl hp rfl fun _ h => h)
  | get b k vid | head b k vid | getTags b k vid =>
    refine .withBucket fun bk _ => ?_
    cases resolve bk k vid <;> exact .same _ _
  | del b k vid im => exact .withBucket fun bk hfb => .rows ⟨rfl, rfl⟩ hfb (.del b vid im)
  | copy sb sk svid db dk rm rt o =>
    refine .withBucket fun sbk _ => ?_
    cases resolve sbk sk svid with
    | error e => exact .same _ _
    | ok src =>
      refine .withBucket fun dbk hdb => ?_
      dsimp only
      generalize ({ parts := src.parts, etag := src.etag, o := _ } : NewObj) = n
      cases hp : putRow q s dbk dk n false IfMatch.none with
      | error e => exact .same _ _
      | ok x => exact .rows (b := db) (k := dk) ⟨rfl, rfl⟩ hdb (.write rfl rfl hp rfl fun _ h => h)
  | append b k body off =>
    exact .withBucket fun bk hfb => (appendFrom_eff q s bk k body off fun _ => liveCur_some).eff body off hfb
  | mpu b k o =>
    exact .withBucket fun bk hfb => .aside _ (X := { bk with uploads := bk.uploads ++ [_] }) _ hfb rfl rfl rfl
      (.inr ⟨⟨_, _, rfl⟩, rfl, rfl, _, rfl, rfl⟩)
  | uploadPart b k uid n body =>
    refine .withBucket fun bk hfb => .withUpload fun u _ huid _ => ?_
    refine .aside _ (X := { bk with uploads := _ }) s.nextUid hfb rfl rfl rfl (.inl ⟨rfl, fun x hx => ?_⟩)
    -- the upload found has the id `uid`, so the one put in its place has the id of what it replaces
    obtain ⟨x', hx', rfl⟩ := List.mem_map.1 hx
    refine ⟨x', hx', ?_⟩
    by_cases hc : x'.uid = uid <;> simp [hc, huid]
  | complete b k uid declared inm im =>
    refine .withBucket fun bk hfb => .withUpload fun u _ _ _ => pair_ite (.same _ _) ?_
    cases declaredErr u declared with
    | some e => exact .same _ _
    | none =>
      dsimp only
      generalize (NewObj.mk _ _ _ _ _) = n
      cases hp : putRow q s { bk with uploads := bk.uploads.filter (fun x => x.uid != uid) } k n inm im with
      | error e => exact .same _ _
      | ok x =>
        exact .rows (b := b) (k := k) ⟨rfl, rfl⟩ hfb
          (.write (bkx := { bk with uploads := bk.uploads.filter (fun x => x.uid != uid) }) rfl rfl hp rfl
            fun _ h => (List.mem_filter.1 h).1)
  | abort b k uid =>
    exact .withBucket fun bk hfb => .withUpload fun u _ _ _ =>
      .aside _ (X := { bk with uploads := _ }) s.nextUid hfb rfl rfl rfl
        (.inl ⟨rfl, fun x hx => ⟨x, (List.mem_filter.1 hx).1, rfl⟩⟩)
  | putTags b k vid tags => exact (Resaves.putTags b k vid tags).eff
  | delTags b k vid => exact (Resaves.delTags b k vid).eff
  | transition b k cls vid => exact (Resaves.transition b k cls vid).eff
  | list b | listVersions b => exact .withBucket fun bk _ => .same _ _
  | listBuckets => exact .same _ _

theorem stepT_err_same {q : Quirks} {s : State} {op : Op} (he : (stepT q s op).2.isErr = true) :
    (stepT q s op).1 = s :=
  (stepT_eff q s op).err_same he

end Pithos.S3
