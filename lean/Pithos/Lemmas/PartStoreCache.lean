/-
`Sim` is preserved by the cache middleware (helper for C15).
-/
import Pithos.Lemmas.PartStore

namespace Pithos.PartStore

/-- The cache invariant: whatever is cached for an id is the content the inner store holds for it. -/
def CacheInv {S : Store} {R : Restr} (sim : Sim R S) (s : CacheSt S.σ) : Prop :=
  sim.Inv s.inner ∧ ∀ i b, KV.find s.cache i = some b → sim.abs s.inner i = some b

theorem cache_set_agrees {cache : KV Bytes} {m m' : PartId → Option Bytes} {i : PartId} {v : Bytes}
    (h : ∀ j b, KV.find cache j = some b → m j = some b) (hv : m' i = some v) (hm : ∀ j, j ≠ i → m' j = m j) :
    ∀ j b, KV.find (KV.set cache i v) j = some b → m' j = some b := by
  intro j b hj
  rw [KV.find_set] at hj
  split at hj
  · next hji => rw [hji, hv, ← Option.some.inj hj]
  · next hji => rw [hm j hji]; exact h j b hj

theorem cache_erase_agrees {cache : KV Bytes} {m m' : PartId → Option Bytes} {i : PartId}
    (h : ∀ j b, KV.find cache j = some b → m j = some b) (hm : ∀ j, j ≠ i → m' j = m j) :
    ∀ j b, KV.find (KV.erase cache i) j = some b → m' j = some b := by
  intro j b hj
  rw [KV.find_erase] at hj
  split at hj
  · cases hj
  · next hji => rw [hm j hji]; exact h j b hj

theorem cache_get_ok (max : Nat) {S : Store} {R : Restr} (sim : Sim R S) (tx : Bool) (s : CacheSt S.σ) (i : PartId)
    (h : CacheInv sim s) (a : Allowed R (sim.abs s.inner i)) :
    GetOk R.clean (CacheInv sim) (fun s => sim.abs s.inner) s i ((cacheWrap max S).get tx s i) := by
  have g := sim.get_ok tx s.inner i h.1 a
  have keep : ∀ c hs, (∀ j b, KV.find c j = some b → sim.abs s.inner j = some b) →
      CacheInv sim ⟨(S.get tx s.inner i).st, c, hs⟩ :=
    fun c hs hc => ⟨g.inv, fun j b hj => (congrFun g.abs_eq j).trans (hc j b hj)⟩
  dsimp only [cacheWrap]
  split
  · next b hf => exact .found h rfl rfl (h.2 i b hf) (fun _ => rfl) rfl
  · split
    · exact g.pass (keep _ _ h.2) g.abs_eq rfl rfl rfl
    · split
      · next st ho =>
        -- read through: the cache is filled, or the id is marked as too large
        have hb : sim.abs s.inner i = some st.bytes := (ho ▸ g.out).bytes?.symm
        split
        · exact .found (keep _ _ (cache_set_agrees h.2 hb fun _ _ => rfl)) g.abs_eq rfl hb (fun hc => g.clean hc st ho) g.quiet
        · exact .found (keep _ _ (cache_erase_agrees h.2 fun _ _ => rfl)) g.abs_eq rfl hb (fun hc => g.clean hc st ho) g.quiet
      · exact g.pass (keep _ _ h.2) g.abs_eq rfl rfl rfl

def cacheSim (max : Nat) {S : Store} {R : Restr} (sim : Sim R S) : Sim R (cacheWrap max S) :=
  .of (CacheInv sim) (fun s => sim.abs s.inner) ⟨⟨sim.inv_init, fun i b h => by cases h⟩, sim.abs_init⟩
    (put := fun tx s i b h hb => by
      have hI := sim.put_inv tx s.inner i b h.1 hb
      have hA := sim.put_abs tx s.inner i b h.1 hb
      dsimp only
      split
      · exact ⟨⟨hI, cache_set_agrees h.2 (by rw [hA, upd_self]) fun j hj => by rw [hA, upd_ne hj]⟩, hA⟩
      · exact ⟨⟨hI, cache_erase_agrees h.2 fun j hj => by rw [hA, upd_ne hj]⟩, hA⟩)
    (get := cache_get_ok max sim)
    (del := fun tx s i h => by
      have hA := sim.del_abs tx s.inner i h.1
      exact ⟨⟨sim.del_inv tx s.inner i h.1, cache_erase_agrees h.2 fun j hj => by rw [hA, upd_ne hj]⟩, hA⟩)
    (tick := fun s h => by
      have hA := sim.tick_abs s.inner h.1
      exact ⟨⟨sim.tick_inv s.inner h.1, fun j b hj => by show sim.abs (S.tick s.inner) j = some b; rw [hA]; exact h.2 j b hj⟩, hA⟩)
    (ids := fun s h => ⟨sim.ids_nodup s.inner h.1, fun i => sim.ids_mem s.inner i h.1⟩)

end Pithos.PartStore
