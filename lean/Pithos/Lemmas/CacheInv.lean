/-
Helper lemmas for C19 (part 2): the bookkeeping invariant `Checker.Ok` of the eviction checkers under
`TrackSet` / `TrackRemove`, and the eviction loop seen through a predicate its steps keep (`evictLoop_inv`,
`evictLoop_some`). The tracked sizes are an association list: their erase facts are in
`Pithos.Lemmas.Assoc`. The invariants of the LFU policy built on these are in `Pithos.Lemmas.CacheLfu`.
-/
import Pithos.Lemmas.Cache
import Pithos.Lemmas.Assoc

namespace Pithos.Cache

/-- Bookkeeping invariant of a checker: one entry per key, and (size limit) the running counter is the
sum of the recorded sizes. -/
def Checker.Ok (c : Checker) : Prop :=
  c.keys.Nodup ∧ (∀ m, c.limit = .size m → c.cur = (c.tracked.map (·.2)).sum)

theorem Checker.ok_init (l : Limit) : (Checker.init l).Ok := by
  constructor
  · simp [Checker.init, Checker.keys]
  · intro m _; simp [Checker.init]

theorem sum_split (tr : List (Key × Nat)) (k : Key) (h : (tr.map (·.1)).Nodup) :
    (tr.map (·.2)).sum = ((tr.find? (fun p => p.1 == k)).map (·.2)).getD 0 + ((tr.filter (fun p => p.1 != k)).map (·.2)).sum := by
  induction tr with
  | nil => simp
  | cons a t ih =>
    simp only [List.map_cons, List.nodup_cons] at h
    by_cases ha : a.1 = k
    · have hnot : ∀ p ∈ t, (p.1 != k) = true := by
        intro p hp
        have : p.1 ≠ a.1 := fun e => h.1 (List.mem_map.2 ⟨p, hp, e⟩)
        simpa [ha] using this
      have hfil : t.filter (fun p => p.1 != k) = t := List.filter_eq_self.2 hnot
      rw [List.filter_cons_of_neg (by simp [ha]), List.find?_cons_of_pos (by simp [ha]), hfil]
      simp
    · have := ih h.2
      rw [List.filter_cons_of_pos (by simp [ha]), List.find?_cons_of_neg (by simp [ha])]
      simp only [List.map_cons, List.sum_cons]
      rw [this]
      exact Nat.add_left_comm _ _ _

theorem Checker.mem_keys_trackRemove (c : Checker) (k k' : Key) :
    k' ∈ (c.trackRemove k).keys ↔ k' ∈ c.keys ∧ k' ≠ k := by
  simp only [Checker.trackRemove, Checker.keys]
  exact mem_keys_erase c.tracked k k'

theorem Checker.ok_trackRemove (c : Checker) (k : Key) (h : c.Ok) : (c.trackRemove k).Ok := by
  constructor
  · exact nodup_keys_erase c.tracked k h.1
  · intro m hm
    have h2 := h.2 m hm
    have := sum_split c.tracked k h.1
    simp only [Checker.trackRemove, Checker.sizeOf] at *
    omega

theorem Checker.sizeOf_isSome (c : Checker) (k : Key) : (c.sizeOf k).isSome = true ↔ k ∈ c.keys :=
  (mem_keys_iff_lookup c.tracked k).symm

theorem Checker.mem_keys_trackSet (c : Checker) (k k' : Key) (sz : Nat) :
    k' ∈ (c.trackSet k sz).keys ↔ k' = k ∨ k' ∈ c.keys := by
  unfold Checker.trackSet
  cases hl : c.limit with
  | size m =>
    simp only [Checker.keys, List.map_cons, List.mem_cons]
    rw [mem_keys_erase]
    by_cases e : k' = k <;> simp [e]
  | keys m =>
    simp only []
    split
    · next hs =>
      constructor
      · exact Or.inr
      · rintro (rfl | h)
        · exact (c.sizeOf_isSome _).1 hs
        · exact h
    · simp only [Checker.keys, List.map_cons, List.mem_cons]

theorem Checker.ok_trackSet (c : Checker) (k : Key) (sz : Nat) (h : c.Ok) : (c.trackSet k sz).Ok := by
  unfold Checker.trackSet
  cases hl : c.limit with
  | size m =>
    constructor
    · exact nodup_keys_insert c.tracked k sz h.1
    · intro m' _
      have h2 := h.2 m hl
      have := sum_split c.tracked k h.1
      simp only [Checker.sizeOf, List.map_cons, List.sum_cons] at *
      omega
  | keys m =>
    simp only []
    split
    · exact h
    · next hs =>
      constructor
      · simp only [Checker.keys, List.map_cons, List.nodup_cons]
        exact ⟨fun hm => hs ((c.sizeOf_isSome k).2 hm), h.1⟩
      · intro m' hm'
        simp at hm'

theorem Checker.limit_trackRemove (c : Checker) (k : Key) : (c.trackRemove k).limit = c.limit := rfl

theorem Checker.limit_trackSet (c : Checker) (k : Key) (sz : Nat) : (c.trackSet k sz).limit = c.limit := by
  unfold Checker.trackSet
  cases hl : c.limit with
  | size m => rfl
  | keys m =>
    simp only []
    split
    · exact hl
    · rfl

theorem Checker.size_trackSet (c : Checker) (k : Key) (sz m : Nat) (hl : c.limit = .size m) :
    ∀ p ∈ (c.trackSet k sz).tracked, p.1 = k → p.2 = sz := by
  unfold Checker.trackSet
  simp only [hl]
  intro p hp hk
  simp only [List.mem_cons, List.mem_filter] at hp
  rcases hp with rfl | ⟨_, hne⟩
  · rfl
  · simp [hk] at hne

theorem Checker.size_trackRemove (c : Checker) (k k' : Key) (sz : Nat)
    (h : ∀ p ∈ c.tracked, p.1 = k → p.2 = sz) : ∀ p ∈ (c.trackRemove k').tracked, p.1 = k → p.2 = sz := by
  intro p hp hk
  simp only [Checker.trackRemove, List.mem_filter] at hp
  exact h p hp.1 hk

theorem Checker.no_evict_of_only (c : Checker) (k : Key) (sz : Nat) (h : c.Ok)
    (honly : ∀ k' ∈ c.keys, k' = k) (hsz : ∀ m, c.limit = .size m → ∀ p ∈ c.tracked, p.1 = k → p.2 = sz)
    (hfit : match c.limit with | .size m => sz ≤ m | .keys m => 1 ≤ m) : c.shouldEvict = false := by
  have hlen : c.tracked.length ≤ 1 := by
    match hc : c.tracked with
    | [] => simp
    | [_] => simp
    | a :: b :: t =>
      exfalso
      have h1 := h.1
      simp only [Checker.keys, hc, List.map_cons, List.nodup_cons, List.mem_cons] at h1
      have ha := honly a.1 (by simp [Checker.keys, hc])
      have hb := honly b.1 (by simp [Checker.keys, hc])
      exact h1.1 (Or.inl (ha.trans hb.symm))
  unfold Checker.shouldEvict
  cases hl : c.limit with
  | size m =>
    simp only [hl] at hfit
    have hcur := h.2 m hl
    simp only [decide_eq_false_iff_not, Nat.not_lt, gt_iff_lt]
    match hc : c.tracked with
    | [] => simp [hc] at hcur; omega
    | [a] =>
      have ha := honly a.1 (by simp [Checker.keys, hc])
      have := hsz m hl a (by simp [hc]) ha
      simp [hc] at hcur; omega
    | a :: b :: t => simp [hc] at hlen
  | keys m =>
    simp only [hl] at hfit
    simp only [decide_eq_false_iff_not, Nat.not_lt, gt_iff_lt]
    omega

theorem evictLoop_inv (g : Bool) (P : Checker → Heap → Prop)
    (hstep : ∀ c h e h', P c h → c.shouldEvict = true → pop h = some (e, h') → P (c.trackRemove e.key) h') :
    ∀ (f : Nat) (c : Checker) (h : Heap) (ev : List Key) (r : Checker × Heap × List Key),
      P c h → evictLoop g f c h ev = some r → P r.1 r.2.1
  | 0, c, h, ev, r, hp, he => by
    simp only [evictLoop, Option.some.injEq] at he
    subst he; exact hp
  | f + 1, c, h, ev, r, hp, he => by
    simp only [evictLoop] at he
    split at he
    · next hs =>
      split at he
      · split at he
        · simp only [Option.some.injEq] at he; subst he; exact hp
        · cases he
      · next e h' hpop => exact evictLoop_inv g P hstep f _ _ _ r (hstep c h e h' hp hs hpop) he
    · simp only [Option.some.injEq] at he; subst he; exact hp

/-- The loop does not pop the empty heap: its condition looks at the heap (`g`), or the loop predicate rules
the empty heap out whenever eviction is asked for. -/
theorem evictLoop_some (g : Bool) (P : Checker → Heap → Prop)
    (hstep : ∀ c h e h', P c h → c.shouldEvict = true → pop h = some (e, h') → P (c.trackRemove e.key) h')
    (hne : g = true ∨ ∀ c h, P c h → c.shouldEvict = true → h ≠ []) :
    ∀ (f : Nat) (c : Checker) (h : Heap) (ev : List Key), P c h → (evictLoop g f c h ev).isSome = true
  | 0, _, _, _, _ => rfl
  | f + 1, c, h, ev, hp => by
    simp only [evictLoop]
    split
    · next hs =>
      split
      · next hpop =>
        rcases hne with rfl | hne
        · rfl
        · exact absurd ((pop_none h).1 hpop) (hne c h hp hs)
      · next e h' hpop => exact evictLoop_some g P hstep hne f _ _ _ (hstep c h e h' hp hs hpop)
    · rfl

end Pithos.Cache
