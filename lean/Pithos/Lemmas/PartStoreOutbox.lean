/-
`Sim` is preserved by the outbox middleware, under every interleaving of caller operations and
worker steps (`tick`) (helper for C15).
-/
import Pithos.Lemmas.PartStore

namespace Pithos.PartStore
open Pithos.Codec

theorem lastEntry_append (q : List Entry) (e : Entry) (j : PartId) :
    lastEntry (q ++ [e]) j = if e.id == j then some e else lastEntry q j := by
  rw [lastEntry_eq_find, lastEntry_eq_find, List.reverse_append, List.reverse_singleton, List.singleton_append,
    List.find?_cons]
  cases e.id == j <;> rfl

theorem lastEntry_some (q : List Entry) (j : PartId) (e : Entry) (h : lastEntry q j = some e) : e ∈ q ∧ e.id = j := by
  rw [lastEntry_eq_find] at h
  exact ⟨List.mem_reverse.1 (List.mem_of_find?_eq_some h), by simpa using List.find?_some h⟩

/-- what an entry makes of its part -/
def Entry.content (e : Entry) : Option Bytes := if e.isPut then some (concat e.chunks) else none

/-- The content of the outbox store: the queue replayed, oldest entry first, over the content of the inner
store. -/
def replay (q : List Entry) (m : PartId → Option Bytes) : PartId → Option Bytes :=
  q.foldl (fun m e => upd m e.id e.content) m

theorem replay_append (q : List Entry) (e : Entry) (m : PartId → Option Bytes) :
    replay (q ++ [e]) m = upd (replay q m) e.id e.content := by
  rw [replay, List.foldl_append]; rfl

theorem replay_eq (q : List Entry) (m : PartId → Option Bytes) (j : PartId) :
    replay q m j = match lastEntry q j with
      | some e => e.content
      | none => m j := by
  induction q generalizing m with
  | nil => rfl
  | cons e rest ih =>
    show replay rest (upd m e.id e.content) j = _
    rw [ih, lastEntry]
    cases lastEntry rest j with
    | some e' => rfl
    | none =>
      by_cases h : e.id = j
      · rw [← h, upd_self, beq_self_eq_true]; rfl
      · rw [upd_ne (Ne.symm h), beq_false_of_ne h]; rfl

/-- The inner store is in order, and every queued put carries a content the inner store is claimed for (so
that replaying it there is covered). -/
def OutboxInv {S : Store} {R : Restr} (sim : Sim R S) (s : S.σ × List Entry) : Prop :=
  sim.Inv s.1 ∧ ∀ e ∈ s.2, e.isPut = true → R.okContent (concat e.chunks)

theorem OutboxInv.push {S : Store} {R : Restr} {sim : Sim R S} {s : S.σ × List Entry} (h : OutboxInv sim s) (e : Entry)
    (he : e.isPut = true → R.okContent (concat e.chunks)) : OutboxInv sim (s.1, s.2 ++ [e]) :=
  ⟨h.1, fun e' he' hp => (List.mem_append.1 he').elim (fun h1 => h.2 e' h1 hp) fun h1 => by
    rw [List.mem_singleton.1 h1] at hp; rw [List.mem_singleton.1 h1]; exact he hp⟩

theorem outbox_tick_spec {S : Store} {R : Restr} (sim : Sim R S) (s : S.σ × List Entry) (h : OutboxInv sim s) :
    OutboxInv sim ((outboxWrap S).tick s) ∧
    replay ((outboxWrap S).tick s).2 (sim.abs ((outboxWrap S).tick s).1) = replay s.2 (sim.abs s.1) := by
  obtain ⟨s1, q⟩ := s
  cases q with
  | nil => exact ⟨⟨sim.tick_inv s1 h.1, fun e he => by cases he⟩, congrArg (replay []) (sim.tick_abs s1 h.1)⟩
  | cons e rest =>
    have hrest : ∀ e' ∈ rest, e'.isPut = true → R.okContent (concat e'.chunks) :=
      fun e' he' => h.2 e' (List.mem_cons_of_mem _ he')
    show _ ∧ _ = replay rest (upd (sim.abs s1) e.id e.content)
    rw [Entry.content]
    dsimp only
    split
    · next hp =>
      have hb := h.2 e List.mem_cons_self hp
      exact ⟨⟨sim.put_inv _ s1 e.id _ h.1 hb, hrest⟩, by rw [sim.put_abs _ s1 e.id _ h.1 hb]⟩
    · exact ⟨⟨sim.del_inv _ s1 e.id h.1, hrest⟩, by rw [sim.del_abs _ s1 e.id h.1]⟩

theorem outbox_get_ok {S : Store} {R : Restr} (sim : Sim R S) (tx : Bool) (s : S.σ × List Entry) (i : PartId)
    (h : OutboxInv sim s) (a : Allowed R (replay s.2 (sim.abs s.1) i)) :
    GetOk R.clean (OutboxInv sim) (fun s => replay s.2 (sim.abs s.1)) s i ((outboxWrap S).get tx s i) := by
  dsimp only [outboxWrap]
  split
  · next hl =>
    have habs : replay s.2 (sim.abs s.1) i = sim.abs s.1 i := by rw [replay_eq, hl]
    have g := sim.get_ok tx s.1 i h.1 (habs ▸ a)
    exact g.pass ⟨g.inv, h.2⟩ (congrArg (replay s.2) g.abs_eq) rfl habs rfl
  · next e hl =>
    have habs : replay s.2 (sim.abs s.1) i = e.content := by rw [replay_eq, hl]
    split
    · next hp => exact .found h rfl rfl (habs.trans (if_pos hp)) (fun _ => rfl) rfl
    · next hp => exact .absent h rfl rfl (habs.trans (if_neg hp)) rfl

theorem outbox_ids_mem {S : Store} (s : S.σ × List Entry) (m : PartId → Option Bytes) (i : PartId)
    (hin : i ∈ S.ids s.1 ↔ (m i).isSome = true) : i ∈ (outboxWrap S).ids s ↔ (replay s.2 m i).isSome = true := by
  simp only [List.mem_append, List.mem_filter, mem_dedup, replay_eq, Entry.content]
  cases hl : lastEntry s.2 i with
  | none => simp [hin]
  | some e =>
    have hm := lastEntry_some s.2 i e hl
    have hq : i ∈ s.2.map (·.id) := List.mem_map.2 ⟨e, hm.1, hm.2⟩
    by_cases hp : e.isPut = true
    · simp only [hp, and_true, Bool.true_and, if_true, Option.isSome_some, iff_true]
      by_cases hi : i ∈ S.ids s.1
      · exact Or.inl hi
      · exact Or.inr ⟨hq, by simpa using hi⟩
    · have hp' : e.isPut = false := by simpa using hp
      simp [hp']

theorem outbox_ids_nodup {S : Store} (s : S.σ × List Entry) (hn : (S.ids s.1).Nodup) : ((outboxWrap S).ids s).Nodup := by
  dsimp only
  rw [List.nodup_append]
  refine ⟨hn.filter _, (nodup_dedup _).filter _, ?_⟩
  intro a ha b hb hab
  subst hab
  simp only [List.mem_filter] at ha hb
  have : a ∉ S.ids s.1 := by
    have := hb.2
    simp only [Bool.and_eq_true, Bool.not_eq_true', List.contains_eq_mem, decide_eq_false_iff_not] at this
    exact this.2
  exact this ha.1

/-- **the outbox preserves correctness**: for every interleaving of `put/get/del/ids` with worker
steps, the outbox store over a correct inner store is correct — the newest queue entry of an id
decides, and replaying the head of the queue into the inner store changes nothing observable. -/
def outboxSim {S : Store} {R : Restr} (sim : Sim R S) : Sim R (outboxWrap S) :=
  .of (OutboxInv sim) (fun s => replay s.2 (sim.abs s.1)) ⟨⟨sim.inv_init, fun e he => by cases he⟩, sim.abs_init⟩
    (put := fun tx s i b h hb =>
      ⟨h.push ⟨true, i, chunks outboxChunkSize b⟩ fun _ => by rw [concat_chunks]; exact hb,
        (replay_append s.2 _ _).trans (by rw [Entry.content, if_pos rfl, concat_chunks])⟩)
    (get := outbox_get_ok sim)
    (del := fun tx s i h => ⟨h.push ⟨false, i, []⟩ (fun hp => by cases hp), replay_append s.2 ⟨false, i, []⟩ _⟩)
    (tick := outbox_tick_spec sim)
    (ids := fun s h => ⟨outbox_ids_nodup s (sim.ids_nodup s.1 h.1),
      fun i => outbox_ids_mem s (sim.abs s.1) i (sim.ids_mem s.1 i h.1)⟩)

end Pithos.PartStore
