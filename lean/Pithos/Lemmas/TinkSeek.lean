/-
Lemmas about the segment arithmetic of seekable.go and the layout tink-go's writer produces
(helpers for C16). `css` is the ciphertext segment size; everything is for every `css > 56`
(= tink header + tag, the smallest size both tink-go and seekable.go accept).
Plaintext side: `segFor` is the adjoint of `ptStart` (`le_segFor_iff`). Ciphertext side: slot `j` is
`[ctOff j, ctOff (j + 1))` (`ctOff_succ`), read as far as the ciphertext reaches (`ctLen_eq`), so its
length fixes the segment count and the last fill and the other way round (`numSegR_ctLen_iff`).
-/
import Pithos.Model.TinkSeek
import Pithos.Lemmas.PartCodec
import Pithos.Lemmas.ListFacts

namespace Pithos.Tink
open Pithos.Codec

/-- plaintext capacity of segment `j` -/
def capOf (css j : Nat) : Nat := if j = 0 then cap0 css else pss css

theorem cap0_pos (css : Nat) (h : 56 < css) : 0 < cap0 css := by simp [cap0, tagLen, hdrLen]; omega
theorem pss_pos (css : Nat) (h : 56 < css) : 0 < pss css := by simp [pss, tagLen]; omega
theorem ptStart_succ (css j : Nat) : ptStart css (j + 1) = ptStart css j + capOf css j := by
  unfold ptStart capOf
  cases j with
  | zero => simp
  | succ j => simp [Nat.add_mul]; omega

/-- Both halves of the bijection between positions and (segment, in-segment offset) are order facts
about this adjunction. -/
theorem le_segFor_iff (css k off : Nat) (h : 56 < css) : k ≤ segFor css off ↔ ptStart css k ≤ off := by
  unfold segFor ptStart
  cases k with
  | zero => simp
  | succ k =>
    rw [if_neg (Nat.succ_ne_zero k), Nat.add_sub_cancel]
    by_cases h0 : off < cap0 css
    · rw [if_pos h0]; omega
    · rw [if_neg h0, Nat.add_comm 1, Nat.succ_le_succ_iff, Nat.le_div_iff_mul_le (pss_pos css h)]; omega

theorem ptStart_segFor (css off : Nat) (h : 56 < css) :
    ptStart css (segFor css off) ≤ off ∧ off < ptStart css (segFor css off) + capOf css (segFor css off) := by
  refine ⟨(le_segFor_iff css _ off h).1 (Nat.le_refl _), ?_⟩
  rw [← ptStart_succ, ← Nat.not_le, ← le_segFor_iff css _ off h]
  exact Nat.not_succ_le_self _

/-- Slot `j` of the ciphertext holds a full segment and its tag; slot 0 holds the 40-byte header as well,
which is why `ctOff css 0 = hdrLen`. -/
theorem ctOff_succ (css j : Nat) (h : 56 < css) : ctOff css (j + 1) = ctOff css j + capOf css j + tagLen := by
  unfold ctOff capOf cap0 pss hdrLen tagLen
  cases j with
  | zero => simp; omega
  | succ j => simp [Nat.succ_mul]; omega

theorem ctOff_mono (css j m : Nat) (h : 56 < css) : ctOff css j ≤ ctOff css (j + m) := by
  induction m with
  | zero => exact Nat.le_refl _
  | succ m ih => rw [← Nat.add_assoc, ctOff_succ css _ h]; omega

theorem ctOff_eq (css j : Nat) (h : 56 < css) : ctOff css j = hdrLen + ptStart css j + tagLen * j := by
  induction j with
  | zero => rfl
  | succ j ih => rw [ctOff_succ css j h, ptStart_succ, ih, Nat.mul_succ]; omega

/-- `loadSegment` reads slot `j` as far as the ciphertext reaches -/
theorem ctLen_eq (css C j : Nat) : ctLen css C j = min (ctOff css (j + 1)) C - ctOff css j := by
  unfold ctLen ctOff
  rw [if_neg (Nat.succ_ne_zero j), ← Nat.sub_min_sub_right]
  cases j with
  | zero => rw [if_pos rfl, if_pos rfl, Nat.one_mul]
  | succ j => rw [if_neg (Nat.succ_ne_zero j), if_neg (Nat.succ_ne_zero j), Nat.succ_mul (j + 1), Nat.add_sub_cancel_left]

theorem numSegR_eq_iff (css k C : Nat) (hcss : 0 < css) (hk : 1 ≤ k) :
    numSegR css C = k ↔ (k - 1) * css < C ∧ C ≤ k * css := by
  obtain ⟨m, rfl⟩ : ∃ m, k = m + 1 := ⟨k - 1, by omega⟩
  unfold numSegR
  rw [Nat.add_sub_cancel, Nat.div_eq_iff hcss, Nat.succ_mul]
  omega

/-- The ciphertext length of a part whose `k ≥ 1` segments are all full except the last, which holds `r`
plaintext bytes. -/
def ctLenOf (css k r : Nat) : Nat := (k - 1) * css + (if k = 1 then hdrLen else 0) + r + tagLen

/-- the plaintext length of such a part -/
def ptLenOf (css k r : Nat) : Nat := ptStart css (k - 1) + r

theorem ctLenOf_ctOff (css k r : Nat) (hk : 1 ≤ k) : ctLenOf css k r = ctOff css (k - 1) + r + tagLen := by
  unfold ctLenOf ctOff
  by_cases h1 : k = 1
  · subst h1; simp
  · rw [if_neg h1, if_neg (by omega)]; rfl

theorem numSegR_ctLen_iff (css k r C : Nat) (h : 56 < css) (hk : 1 ≤ k) (hr : r ≤ capOf css (k - 1)) :
    numSegR css C = k ∧ ctLen css C (k - 1) = r + tagLen ↔ C = ctLenOf css k r := by
  have hs := ctOff_succ css (k - 1) h
  have hlo : (k - 1) * css ≤ ctOff css (k - 1) := by unfold ctOff; split <;> simp [*]
  rw [Nat.sub_add_cancel hk] at hs
  have hk' : ctOff css k = k * css := if_neg (by omega)
  rw [numSegR_eq_iff css k C (by omega) hk, ctLen_eq, Nat.sub_add_cancel hk, ctLenOf_ctOff css k r hk, ← hk']
  simp only [tagLen] at *
  omega

theorem ctLenOf_eq (css k r : Nat) (h : 56 < css) (hk : 1 ≤ k) :
    ctLenOf css k r = hdrLen + ptLenOf css k r + tagLen * k := by
  obtain ⟨m, rfl⟩ : ∃ m, k = m + 1 := ⟨k - 1, by omega⟩
  rw [ctLenOf_ctOff css _ r hk, ctOff_eq css _ h, ptLenOf, Nat.add_sub_cancel, Nat.mul_succ]
  omega

/-- From the ciphertext length alone seekable.go recomputes the number of segments and the plaintext
length, also for a part whose last segment is empty. -/
theorem ctLenOf_inverse (css k r : Nat) (h : 56 < css) (hk : 1 ≤ k) (hr : r ≤ capOf css (k - 1)) :
    numSegR css (ctLenOf css k r) = k ∧ ptLenR css (ctLenOf css k r) = ptLenOf css k r := by
  have hnum := ((numSegR_ctLen_iff css k r _ h hk hr).2 rfl).1
  refine ⟨hnum, ?_⟩
  rw [ptLenR, hnum, ctLenOf_eq css k r h hk]
  omega

/-- **layout_inverse.** For every number of segments `k ≥ 1` and every fill `r` of the last segment within
its capacity (non-empty unless it is the only segment), seekable.go recomputes from the ciphertext
length alone exactly `k` segments and exactly the plaintext length. -/
theorem layout_inverse (css k r : Nat) (h : 56 < css) (hk : 1 ≤ k) (hr : r ≤ capOf css (k - 1)) (hr1 : k = 1 ∨ 1 ≤ r) :
    numSegR css (ctLenOf css k r) = k ∧ ptLenR css (ctLenOf css k r) = ptLenOf css k r :=
  ctLenOf_inverse css k r h hk hr

theorem ctLen_ctLenOf (css k r j : Nat) (h56 : 56 < css) (hj : j < k) (hr : r ≤ capOf css (k - 1)) :
    ctLen css (ctLenOf css k r) j = (if j + 1 = k then r else capOf css j) + tagLen := by
  by_cases hl : j + 1 = k
  · subst hl
    rw [if_pos rfl]
    exact ((numSegR_ctLen_iff css (j + 1) r _ h56 (by omega) hr).2 rfl).2
  · have hm := ctOff_mono css (j + 1) (k - 1 - (j + 1)) h56
    rw [show j + 1 + (k - 1 - (j + 1)) = k - 1 by omega, ctOff_succ css j h56] at hm
    rw [if_neg hl, ctLen_eq, ctOff_succ css j h56, ctLenOf_ctOff css k r (by omega), Nat.min_eq_left (by omega)]
    omega

/-- What `segments` guarantees: at least one segment; every segment but the last is filled to its
capacity; the last fits its capacity; with more than one segment none is empty. -/
structure SegLayout (css : Nat) (segs : List Bytes) : Prop where
  ne : segs ≠ []
  full : ∀ i, i + 1 < segs.length → (segs.getD i []).length = capOf css i
  last_le : (segs.getD (segs.length - 1) []).length ≤ capOf css (segs.length - 1)
  pos_of_multi : 1 < segs.length → ∀ i, i < segs.length → 0 < (segs.getD i []).length

theorem segments_flatten (css : Nat) (pt : Bytes) : (segments css pt).flatten = pt := by
  unfold segments
  split
  · simp
  · have := concat_chunks (pss css) (pt.drop (cap0 css))
    simp only [concat] at this
    simp [this]

theorem segments_layout (css : Nat) (pt : Bytes) (h : 56 < css) : SegLayout css (segments css pt) := by
  have hp := pss_pos css h
  unfold segments
  by_cases hle : pt.length ≤ cap0 css
  · simp only [hle, if_true]
    exact ⟨by simp, fun i hi => by simp at hi, by simpa [capOf] using hle, fun h1 => by simp at h1⟩
  · simp only [hle, if_false]
    have hrest : pt.drop (cap0 css) ≠ [] := by
      intro h0; rw [List.drop_eq_nil_iff] at h0; omega
    have hcne : chunks (pss css) (pt.drop (cap0 css)) ≠ [] := fun h0 => hrest ((chunks_eq_nil_iff _ _).1 h0)
    have hfirst : (pt.take (cap0 css)).length = cap0 css := by simp [List.length_take]; omega
    refine ⟨by simp, ?_, ?_, ?_⟩
    · intro i hi
      cases i with
      | zero => simpa [capOf] using hfirst
      | succ i =>
        simp only [List.getD_cons_succ, capOf, Nat.add_one_ne_zero, if_false]
        exact chunks_full _ _ hp i (by simpa using hi)
    · simp only [List.length_cons, Nat.add_sub_cancel]
      have hl : 0 < (chunks (pss css) (pt.drop (cap0 css))).length := List.length_pos_iff.2 hcne
      obtain ⟨m, hm⟩ : ∃ m, (chunks (pss css) (pt.drop (cap0 css))).length = m + 1 := ⟨_, (Nat.succ_pred_eq_of_pos hl).symm⟩
      rw [hm, List.getD_cons_succ]
      have hmem := getD_mem (chunks (pss css) (pt.drop (cap0 css))) m [] (by omega)
      have := (chunks_mem _ _ hp _ hmem).2
      simpa [capOf] using this
    · intro _ i hi
      cases i with
      | zero => simp only [List.getD_cons_zero, hfirst]; exact cap0_pos css h
      | succ i =>
        simp only [List.getD_cons_succ]
        have hmem := getD_mem (chunks (pss css) (pt.drop (cap0 css))) i [] (by simpa using hi)
        have := (chunks_mem _ _ hp _ hmem).1
        exact List.length_pos_iff.2 this

section
variable {css : Nat} {segs : List Bytes}

theorem SegLayout.length_pos (lay : SegLayout css segs) : 1 ≤ segs.length := List.length_pos_iff.2 lay.ne

theorem SegLayout.take_flatten_length (lay : SegLayout css segs) : ∀ j, j < segs.length →
    (segs.take j).flatten.length = ptStart css j := by
  intro j
  induction j with
  | zero => intro _; simp [ptStart]
  | succ j ih =>
    intro hj
    have hj' : j < segs.length := by omega
    rw [take_succ_flatten segs j hj', List.length_append, ih hj', ptStart_succ, lay.full j hj]

theorem SegLayout.flatten_length (lay : SegLayout css segs) :
    segs.flatten.length = ptLenOf css segs.length (segs.getD (segs.length - 1) []).length := by
  have hl : segs.length - 1 < segs.length := by have := lay.length_pos; omega
  have hd : segs.drop (segs.length - 1 + 1) = [] := List.drop_eq_nil_iff.2 (by omega)
  rw [flatten_split segs _ hl, hd, List.length_append, lay.take_flatten_length _ hl]
  simp [ptLenOf]

theorem SegLayout.segFor_lt (lay : SegLayout css segs) (h56 : 56 < css) (pos : Nat) (h : pos < segs.flatten.length) :
    segFor css pos < segs.length ∧
      pos - ptStart css (segFor css pos) < (segs.getD (segFor css pos) []).length := by
  obtain ⟨hlo, hhi⟩ := ptStart_segFor css pos h56
  have hk := lay.length_pos
  have hle := lay.last_le
  rw [lay.flatten_length, ptLenOf] at h
  have hj : segFor css pos < segs.length := by
    refine Nat.lt_of_not_le fun hh => ?_
    have := (le_segFor_iff css _ pos h56).1 hh
    have hs := ptStart_succ css (segs.length - 1)
    rw [Nat.sub_add_cancel hk] at hs
    omega
  refine ⟨hj, ?_⟩
  by_cases hl : segFor css pos + 1 = segs.length
  · rw [show segs.length - 1 = segFor css pos by omega] at h
    omega
  · rw [lay.full _ (by omega)]; omega

theorem SegLayout.drop_flatten (lay : SegLayout css segs) (h56 : 56 < css) (pos : Nat) (hj : segFor css pos < segs.length) :
    segs.flatten.drop pos = (segs.getD (segFor css pos) []).drop (pos - ptStart css (segFor css pos)) ++
      segs.flatten.drop (pos + ((segs.getD (segFor css pos) []).drop (pos - ptStart css (segFor css pos))).length) := by
  have hlo := (ptStart_segFor css pos h56).1
  have hlen := lay.take_flatten_length _ hj
  generalize segFor css pos = j at *
  obtain ⟨d, rfl⟩ : ∃ d, pos = ptStart css j + d := ⟨pos - ptStart css j, by omega⟩
  rw [Nat.add_sub_cancel_left]
  by_cases hd : d ≤ (segs.getD j []).length
  · rw [List.length_drop, show ptStart css j + d + ((segs.getD j []).length - d) = ptStart css j + (segs.getD j []).length by omega,
      ← hlen, drop_flatten_split segs j _ hj, drop_flatten_split segs j _ hj, List.drop_append_of_le_length hd, List.drop_left]
  · rw [(List.drop_eq_nil_iff (l := segs.getD j []) (i := d)).2 (by omega)]; rfl

end

end Pithos.Tink
