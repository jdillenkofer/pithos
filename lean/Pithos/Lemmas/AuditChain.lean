/-
What the tamper and coverage theorems of the audit log (C27) rest on. A well-formed entry carrying the
hash of its own hash input is `Sealed`: under `CollisionFree` its stored hash fixes every hashed field,
the predecessor pointer among them, and is not the seed. An accepted log of well-formed entries is
`Genuine` (all sealed, a chain from the seed), so by `chain_pos_unique` a hash has one position only
(`Genuine.pos_unique`). Conversely a field neither hashed nor read by name changes no step of the
validator (`unhashed_change_accepted`).
-/
import Pithos.Lemmas.AuditLog
namespace Pithos.C27
open Pithos.AuditLog

/-- Idealised hash: no two inputs collide. Always an explicit hypothesis, never an axiom. -/
def CollisionFree (H : Bytes → Bytes) : Prop := ∀ a b, H a = H b → a = b

/-- Side conditions of the chain theorems on a hash table: `TablesOK`, the previous hash is what is
written last, and the part before the details is longer than the 6 bytes of "pithos". -/
structure ChainTables (T : Tables) : Prop where
  ok : TablesOK T
  prev_hashed : T.tail = ["PreviousHash"]
  pre_long : 6 < minLen T.pre

theorem hashInput_ne_pithos {T : Tables} (ct : ChainTables T) (e : Rec) (w : wfH T e = true) :
    hashInput T e ≠ pithos := by
  intro h
  unfold wfH specOf at w
  rw [wf_append] at w
  have hl := encFields_length_ge T.pre e w.1
  have := congrArg List.length h
  unfold hashInput at this
  simp only [List.length_append, pithos, List.length_cons, List.length_nil] at this
  have := ct.pre_long
  omega

/-- A well-formed entry that carries the hash of its own hash input. -/
def Sealed (T : Tables) (C : Crypto) (e : Rec) : Prop :=
  wfH T e = true ∧ C.H (hashInput T e) = hashOf e

theorem Sealed.agree {T : Tables} (ok : TablesOK T) {C : Crypto} (cf : CollisionFree C.H) {a b : Rec}
    (sa : Sealed T C a) (sb : Sealed T C b) (h : hashOf a = hashOf b) :
    ∀ f ∈ hashedNames T a, get a f = get b f :=
  (hashInput_inj T ok a b sa.1 sb.1 (cf _ _ (by rw [sa.2, sb.2, h]))).2

theorem Sealed.prev_eq {T : Tables} (ct : ChainTables T) {C : Crypto} (cf : CollisionFree C.H) {a b : Rec}
    (sa : Sealed T C a) (sb : Sealed T C b) (h : hashOf a = hashOf b) : prevOf a = prevOf b :=
  sa.agree ct.ok cf sb h _ (by unfold hashedNames; rw [ct.prev_hashed]; simp)

theorem Sealed.ne_seed {T : Tables} (ct : ChainTables T) {C : Crypto} (cf : CollisionFree C.H) {a : Rec}
    (sa : Sealed T C a) : hashOf a ≠ C.H pithos :=
  fun h => hashInput_ne_pithos ct a sa.1 (cf _ _ (sa.2.trans h))

/-- What the chain theorems use of an accepted log of well-formed entries. -/
structure Genuine (T : Tables) (C : Crypto) (L : List Rec) : Prop where
  sealed : ∀ e ∈ L, Sealed T C e
  chain : ChainIdx hashOf prevOf (C.H pithos) L

theorem Genuine.of_accepts {T : Tables} {C : Crypto} {bs : Nat} {L : List Rec}
    (wfL : ∀ e ∈ L, wfH T e = true) (hL : accepts T C bs L = true) : Genuine T C L :=
  have ⟨hH, hc, _⟩ := accepts_facts hL
  ⟨fun e he => ⟨wfL e he, hH e he⟩, hc⟩

/-- In accepted logs a hash pins its position: the tamper theorems of C27 exhibit a position where
the tampered log would have to carry a hash that the original carries elsewhere. -/
theorem Genuine.pos_unique {T : Tables} (ct : ChainTables T) {C : Crypto} (cf : CollisionFree C.H)
    {L L' : List Rec} (G : Genuine T C L) (G' : Genuine T C L') {i j : Nat} {a b : Rec}
    (ha : L[i]? = some a) (hb : L'[j]? = some b) (h : hashOf a = hashOf b) : i = j :=
  chain_pos_unique hashOf prevOf (C.H pithos) (Sealed T C) L L' (fun _ _ sa sb => sa.prev_eq ct cf sb)
    (fun _ sa => sa.ne_seed ct cf) G.sealed G'.sealed G.chain G'.chain i j a b ha hb h

/-- The fields `ValidateEntry` reads by name (`stepWith`, `stepGround`, and Version / Type, which
select the hashed fields). -/
def validatorReads : List String :=
  ["Version", "Type", "Hash", "PreviousHash", "SignatureEd25519", "Grounding.MerkleRootHash",
    "Grounding.SignatureEd25519", "Grounding.SignatureMlDsa87"]

theorem step_set_unhashed (T : Tables) (C : Crypto) (bs : Nat) (s : VState) (e : Rec) (f : String) (v : Bytes)
    (hf : f ∉ hashedNames T e)
    (hv : f ∉ validatorReads) :
    step T C bs s (set e f v) = step T C bs s e := by
  simp only [validatorReads, List.mem_cons, List.not_mem_nil, or_false, not_or] at hv
  obtain ⟨h1, h2, h3, h4, h5, h6, h7, h8⟩ := hv
  have hk : kind T (set e f v) = kind T e := by unfold kind; rw [get_set_ne e v (Ne.symm h2)]
  unfold step stepWith stepGround
  rw [hashInput_set_unhashed T e f v h1 h2 hf, hk]
  rw [get_set_ne e v (Ne.symm h2), get_set_ne e v (Ne.symm h3), get_set_ne e v (Ne.symm h4),
    get_set_ne e v (Ne.symm h5), get_set_ne e v (Ne.symm h6), get_set_ne e v (Ne.symm h7),
    get_set_ne e v (Ne.symm h8)]

theorem runFrom_congr_at {T : Tables} {C : Crypto} {bs : Nat} (A B : List Rec) (a b : Rec)
    (h : ∀ s, step T C bs s a = step T C bs s b) (s : VState) :
    runFrom T C bs s (A ++ a :: B) = runFrom T C bs s (A ++ b :: B) := by
  simp only [runFrom_append, runFrom, h]

/-- **Negation witness, validator level.** In any accepted log, the value of a field that the hash
does not cover can be replaced by anything and the log is still accepted. -/
theorem unhashed_change_accepted (T : Tables) (C : Crypto) (bs : Nat) (A B : List Rec) (e : Rec)
    (f : String) (v : Bytes) (hf : f ∉ hashedNames T e)
    (hv : f ∉ validatorReads)
    (hL : accepts T C bs (A ++ e :: B) = true) : accepts T C bs (A ++ set e f v :: B) = true := by
  unfold accepts run at hL ⊢
  rw [runFrom_congr_at A B (set e f v) e (fun s => step_set_unhashed T C bs s e f v hf hv)]
  exact hL

end Pithos.C27
