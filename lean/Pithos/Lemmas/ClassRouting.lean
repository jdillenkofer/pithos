/-
Helper lemmas for the storage-class routing model (`Pithos.Model.ClassRouting`): the invariant
`Inv`, what holds in the middle of a transaction (`Mid`, `Txn`), and the lemma that the shared
tail of every writing call (`commit`) re-establishes the invariant (`commit_inv`).
-/
import Pithos.Model.ClassRouting

namespace Pithos.ClassRouting

/-- Number of rows of `l` that reference part id `p`. -/
def pc (l : List PartRow) (p : Nat) : Nat := (l.map (·.pid)).count p

theorem pc_append (a b : List PartRow) (p : Nat) : pc (a ++ b) p = pc a p + pc b p := by
  simp [pc, List.count_append]

theorem pc_perm {a b : List PartRow} (h : a.Perm b) (p : Nat) : pc a p = pc b p := (h.map _).count_eq p

theorem pc_pos {l : List PartRow} {p : Nat} : 0 < pc l p ↔ ∃ r ∈ l, r.pid = p := by
  simp [pc, List.count_pos_iff]

theorem pc_eq_zero {l : List PartRow} {p : Nat} : pc l p = 0 ↔ ∀ r ∈ l, r.pid ≠ p := by
  simp [pc, List.count_eq_zero]

theorem refs_eq (s : State) (p : Nat) : refs s p = pc (rows s) p := rfl

theorem pc_split (L : List Ent) (t : Nat) (p : Nat) :
    pc (L.flatMap (·.parts)) p =
      pc ((L.filter (·.id == t)).flatMap (·.parts)) p + pc ((L.filter (fun e => e.id != t)).flatMap (·.parts)) p := by
  rw [← pc_perm ((List.filter_append_perm (·.id == t) L).flatMap_right (·.parts)), List.flatMap_append, pc_append]
  rfl

def freshPids (news : List NewPart) : List Nat := (news.filter fun n => !n.pre).map (·.row.pid)
def prePids (news : List NewPart) : List Nat := (news.filter fun n => n.pre).map (·.row.pid)
def newRows (news : List NewPart) : List PartRow := news.map (·.row)

theorem pc_newRows (news : List NewPart) (p : Nat) :
    pc (newRows news) p = (prePids news).count p + (freshPids news).count p := by
  unfold pc newRows prePids freshPids
  rw [List.map_map, ← List.count_append, ← List.map_append]
  exact (((List.filter_append_perm (·.pre) news).map _).count_eq p).symm

theorem mem_freshPids {news : List NewPart} {p : Nat} :
    p ∈ freshPids news ↔ ∃ n ∈ news, n.pre = false ∧ n.row.pid = p := by
  simp [freshPids, and_assoc]

def entParts : Option Ent → List PartRow
  | some e => e.parts
  | none => []

theorem flatMap_parts_toList (ent : Option Ent) : ent.toList.flatMap (·.parts) = entParts ent := by
  cases ent <;> simp [entParts]

structure Inv (s : State) : Prop where
  /-- every part row's recorded store is configured and physically holds the part (with the
      recorded content) -/
  held : ∀ r ∈ rows s, r.store ∈ s.stores ∧ s.phys r.store r.pid = some r.content
  /-- registry ref_count = number of part rows referencing the part id -/
  cnt : ∀ p, s.reg p = refs s p
  /-- dedup-index entries point at physically present parts of that store with that content -/
  idxOk : ∀ st c p, s.idx st c = some p → s.phys st p = some c
  physFresh : ∀ st p, s.next ≤ p → s.phys st p = none
  ids : (s.ents.map (·.id)).Nodup
  defStore : "" ∈ s.stores
  cfgOk : ∀ c n, (c, n) ∈ s.cmap → n = defaultStoreName ∨ n ∈ s.stores

theorem lt_of_phys_some {phys : SName → Nat → Option Nat} {next : Nat} (hnew : ∀ st p, next ≤ p → phys st p = none)
    {st : SName} {p c : Nat} (h : phys st p = some c) : p < next :=
  Nat.lt_of_not_le fun hle => by
    rw [hnew st p hle] at h
    cases h

theorem Inv.pid_lt {s : State} (h : Inv s) {r : PartRow} (hr : r ∈ rows s) : r.pid < s.next :=
  lt_of_phys_some h.physFresh (h.held r hr).2

/-- In the middle of a transaction that started in `s0`: `acq` = the references taken so far. -/
structure Mid (s0 s : State) (acq : List Nat) : Prop where
  ents : s.ents = s0.ents
  cmap : s.cmap = s0.cmap
  stores : s.stores = s0.stores
  reg : ∀ p, s.reg p = s0.reg p + acq.count p
  acqLive : ∀ p ∈ acq, 0 < s0.reg p
  physOld : ∀ st p, p < s0.next → s.phys st p = s0.phys st p
  physNew : ∀ st p, s.next ≤ p → s.phys st p = none
  next_le : s0.next ≤ s.next
  idxOk : ∀ st c p, s.idx st c = some p → s.phys st p = some c

theorem Mid.start {s0 : State} (h : Inv s0) : Mid s0 s0 [] :=
  { ents := rfl, cmap := rfl, stores := rfl, reg := by simp, acqLive := by simp,
    physOld := fun _ _ _ => rfl, physNew := h.physFresh, next_le := Nat.le_refl _, idxOk := h.idxOk }

theorem Mid.held {s0 s : State} {acq : List Nat} (h : Mid s0 s acq) (h0 : Inv s0) {r : PartRow}
    (hr : r ∈ rows s0) : s.phys r.store r.pid = some r.content := by
  rw [h.physOld _ _ (h0.pid_lt hr)]
  exact (h0.held r hr).2

theorem Mid.idx_lt {s0 s : State} {acq : List Nat} (h : Mid s0 s acq) {st : SName} {c p : Nat}
    (hp : s.idx st c = some p) : p < s.next :=
  lt_of_phys_some h.physNew (h.idxOk st c p hp)

/-- Summary of the running transaction: `acq` references taken, `pend` references of kept parts
still to be taken by the closing `TryAddPartReferences`, `news` the parts obtained: each is held by
its store, and one without a pre-acquired reference got its id inside the transaction. -/
structure Txn (s0 s : State) (acq pend : List Nat) (news : List NewPart) : Prop where
  mid : Mid s0 s acq
  held : ∀ n ∈ news, n.row.store ∈ s0.stores ∧ s.phys n.row.store n.row.pid = some n.row.content
  fresh : ∀ n ∈ news, n.pre = false → s0.next ≤ n.row.pid
  bal : ∀ p, acq.count p + pend.count p = (prePids news).count p

theorem Txn.start {s0 : State} (h : Inv s0) : Txn s0 s0 [] [] [] :=
  { mid := Mid.start h, held := by simp, fresh := by simp, bal := by simp [prePids] }

theorem lastPerPid_sub (l : List PartRow) : ∀ r ∈ lastPerPid l, r ∈ l := by
  induction l with
  | nil => simp [lastPerPid]
  | cons x xs ih =>
    intro r hr
    unfold lastPerPid at hr
    split at hr
    · exact List.mem_cons_of_mem _ (ih r hr)
    · rcases List.mem_cons.mp hr with h | h
      · exact h ▸ List.mem_cons_self
      · exact List.mem_cons_of_mem _ (ih r h)

theorem unrefOf_zero {reg : Nat → Nat} {old : List PartRow} {r : PartRow} (hr : r ∈ unrefOf reg old) :
    zeroAfter reg (old.map (·.pid)) r.pid = true ∧ r ∈ old := by
  have := lastPerPid_sub _ r hr
  rw [List.mem_filter] at this
  exact ⟨this.2, this.1⟩

theorem zeroAfter_iff {reg : Nat → Nat} {old : List PartRow} {p : Nat} :
    zeroAfter reg (old.map (·.pid)) p = true ↔ 0 < pc old p ∧ pc old p = reg p := by
  unfold zeroAfter pc
  simp [List.count_pos_iff]

/-- What a successful `commit` produced, field by field. Of `phys` only this matters: a part is left
alone or deleted, and only ids that the removal brings to zero are deleted. -/
theorem commit_some {s s' : State} {t : Nat} {old : List PartRow} {news : List NewPart} {ent : Option Ent}
    (hc : commit s t old news ent = some s') :
    s'.cmap = s.cmap ∧ s'.stores = s.stores ∧ s'.next = s.next ∧
    s'.ents = s.ents.filter (fun e => e.id != t) ++ ent.toList ∧
    (∀ p, s'.reg p = (if pc old p ≤ s.reg p then s.reg p - pc old p else s.reg p) + (freshPids news).count p) ∧
    (∀ st c, s'.idx st c = match s.idx st c with
      | some p => if zeroAfter s.reg (old.map (·.pid)) p then none else some p
      | none => none) ∧
    (∀ st p, s'.phys st p = s.phys st p ∨
      (s'.phys st p = none ∧ zeroAfter s.reg (old.map (·.pid)) p = true)) := by
  unfold commit at hc
  rw [Option.ite_none_left_eq_some, Option.ite_none_left_eq_some] at hc
  obtain ⟨_, _, hc⟩ := hc
  cases hc
  refine ⟨rfl, rfl, rfl, rfl, fun p => rfl, fun st c => rfl, fun st p => ?_⟩
  by_cases hany : (unrefOf s.reg old).any (fun r => r.store == st && r.pid == p) = true
  · obtain ⟨u, hu, hup⟩ := List.any_eq_true.mp hany
    simp only [Bool.and_eq_true, beq_iff_eq] at hup
    exact Or.inr ⟨if_pos hany, hup.2 ▸ (unrefOf_zero hu).1⟩
  · exact Or.inl (if_neg hany)

theorem commit_giveback {s s' : State} {t : Nat} {old : List PartRow} {news : List NewPart} {ent : Option Ent}
    (hc : commit s t old news ent = some s') (hfresh : freshPids news = [])
    (hlive : ∀ p, 0 < pc old p → pc old p < s.reg p) :
    (∀ p, s'.reg p = s.reg p - pc old p) ∧ s'.idx = s.idx ∧ s'.phys = s.phys := by
  obtain ⟨_, _, _, _, hreg, hidx, hphys⟩ := commit_some hc
  have hnz : ∀ p, ¬ zeroAfter s.reg (old.map (·.pid)) p = true := by
    intro p hz
    rw [zeroAfter_iff] at hz
    have := hlive p hz.1
    omega
  refine ⟨fun p => ?_, ?_, ?_⟩
  · have := hlive p
    rw [hreg, hfresh, if_pos (by omega)]
    rfl
  · funext st c
    rw [hidx]
    cases s.idx st c with
    | none => rfl
    | some q => exact if_neg (hnz q)
  · funext st p
    exact (hphys st p).resolve_right fun hd => hnz p hd.2

theorem mem_rows {s : State} {r : PartRow} : r ∈ rows s ↔ ∃ e ∈ s.ents, r ∈ e.parts := by
  simp [rows, List.mem_flatMap]

theorem mem_partsOf {s : State} {t : Nat} {r : PartRow} :
    r ∈ partsOf s t ↔ ∃ e ∈ s.ents, e.id = t ∧ r ∈ e.parts := by
  simp [partsOf, List.mem_flatMap, List.mem_filter, and_assoc]

theorem partsOf_sub_rows {s : State} {t : Nat} {r : PartRow} (h : r ∈ partsOf s t) : r ∈ rows s := by
  obtain ⟨e, he, _, hr⟩ := mem_partsOf.mp h
  exact mem_rows.mpr ⟨e, he, hr⟩

theorem commit_inv {s0 s s' : State} {acq : List Nat} {news : List NewPart} {t : Nat}
    {old : List PartRow} {ent : Option Ent}
    (h0 : Inv s0) (htx : Txn s0 s acq [] news)
    (hent : ∀ e, ent = some e → e.id = t)
    {keep : List PartRow} (hold : (keep ++ old).Perm (partsOf s0 t))
    (hnew : (entParts ent).Perm (keep ++ newRows news))
    (hc : commit s t old news ent = some s') : Inv s' := by
  have hm := htx.mid
  have hE1 : ∀ p, pc (entParts ent) p = pc keep p + pc (newRows news) p := fun p => by
    rw [pc_perm hnew, pc_append]
  have hE3 : ∀ p, pc keep p + pc old p = pc (partsOf s0 t) p := fun p => by rw [← pc_perm hold, pc_append]
  obtain ⟨hcm, hst, hnx, hents, hreg, hidx, hphys⟩ := commit_some hc
  have hrows' : rows s' = (s0.ents.filter (fun e => e.id != t)).flatMap (·.parts) ++ entParts ent := by
    rw [rows, hents, hm.ents, List.flatMap_append, flatMap_parts_toList]
  have hrows : ∀ p, refs s' p = pc ((s0.ents.filter (fun e => e.id != t)).flatMap (·.parts)) p + pc (entParts ent) p := by
    intro p
    rw [refs_eq, hrows', pc_append]
  have hsplit := fun p => pc_split s0.ents t p
  have hcnt : ∀ p, s'.reg p = refs s' p := by
    intro p
    rw [hreg, hrows, hm.reg, h0.cnt, refs_eq, rows]
    have hb := htx.bal p
    rw [List.count_nil] at hb
    have e1 := hE1 p
    have e3 := hE3 p
    have sp := hsplit p
    have nr := pc_newRows news p
    simp only [partsOf] at e1 e3
    rw [if_pos (by omega)]
    omega
  -- an id that the removal brings to zero is not registered afresh, so no row of the new state has it
  have hzero : ∀ p, zeroAfter s.reg (old.map (·.pid)) p = true → refs s' p = 0 := by
    intro p hz
    rw [zeroAfter_iff] at hz
    have hfz : (freshPids news).count p = 0 := by
      apply List.count_eq_zero_of_not_mem
      intro hmem
      have h1 : pc (rows s0) p = 0 := by
        rw [pc_eq_zero]
        intro r hr hrp
        have := h0.pid_lt hr
        obtain ⟨n, hn, hpre, rfl⟩ := mem_freshPids.1 hmem
        have := htx.fresh n hn hpre
        omega
      have h4 := hE3 p
      have h5 := hsplit p
      simp only [partsOf] at h4
      simp only [rows] at h1
      omega
    rw [← hcnt, hreg, hfz, if_pos (by omega)]
    omega
  have hkeep : ∀ r ∈ rows s', ∀ st, s'.phys st r.pid = s.phys st r.pid := by
    intro r hr st
    refine (hphys st r.pid).resolve_right fun hd => ?_
    have := hzero _ hd.2
    have : 0 < refs s' r.pid := pc_pos.mpr ⟨r, hr, rfl⟩
    omega
  have hstores : s'.stores = s0.stores := by rw [hst, hm.stores]
  refine
    { held := ?_, cnt := hcnt, idxOk := ?_, physFresh := ?_, ids := ?_, defStore := ?_, cfgOk := ?_ }
  · intro r hr
    rw [hkeep r hr, hstores]
    have hr0 (hr0 : r ∈ rows s0) : r.store ∈ s0.stores ∧ s.phys r.store r.pid = some r.content :=
      ⟨(h0.held r hr0).1, hm.held h0 hr0⟩
    rw [hrows', List.mem_append, hnew.mem_iff, List.mem_append] at hr
    rcases hr with h | h | h
    · obtain ⟨e, he, hre⟩ := List.mem_flatMap.1 h
      exact hr0 (mem_rows.mpr ⟨e, (List.mem_filter.mp he).1, hre⟩)
    · exact hr0 (partsOf_sub_rows (hold.mem_iff.1 (List.mem_append_left _ h)))
    · obtain ⟨n, hnm, rfl⟩ := List.mem_map.1 h
      exact htx.held n hnm
  · intro st c p hp
    rw [hidx] at hp
    cases hq : s.idx st c with
    | none => rw [hq] at hp; cases hp
    | some q =>
      rw [hq] at hp
      simp only [] at hp
      split at hp
      · cases hp
      · rename_i hz
        cases hp
        rw [(hphys st p).resolve_right fun hd => hz hd.2]
        exact hm.idxOk st c _ hq
  · intro st p hp
    rcases hphys st p with hd | hd
    · rw [hd]; exact hm.physNew st p (by omega)
    · exact hd.1
  · rw [hents, hm.ents, List.map_append, List.nodup_append]
    refine ⟨h0.ids.sublist (List.filter_sublist.map _), ?_, ?_⟩
    · cases ent <;> simp
    · intro a ha b hb
      cases ent with
      | none => simp at hb
      | some e =>
        simp only [Option.toList_some, List.map_cons, List.map_nil, List.mem_singleton] at hb
        rw [hb, hent e rfl]
        rw [List.mem_map] at ha
        obtain ⟨x, hx, hxa⟩ := ha
        have := (List.mem_filter.mp hx).2
        simp only [bne_iff_ne, ne_eq] at this
        rw [← hxa]
        exact this
  · rw [hstores]; exact h0.defStore
  · intro c n hcn
    rw [hcm, hm.cmap] at hcn
    rw [hstores]
    exact h0.cfgOk c n hcn

end Pithos.ClassRouting
