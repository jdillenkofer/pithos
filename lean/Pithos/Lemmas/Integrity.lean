/-
Helper lemmas for C39 (model `Pithos.Model.Integrity`), in the namespace `Pithos.C39` together with
the hypotheses the property is stated under (`CollisionFree`, `NoLossyEmptyPart`, `DashOne`). Under
collision freedom of the checksum bundle, a part row written by the storage verifies against the
acknowledged bytes and no others (`verifyPart_iff`); a variant that reads each part from its own store
gets those bytes exactly when the part is not corrupt (`readPart_orig_iff`), so `checkParts` fails
exactly on a corrupt part (`checkParts_eq`); and the record of an object passes `verifyObject` on the
acknowledged bytes, because it is computed from the part rows (`verifyObject_intact`). Together:
`reports_iff_corrupt_gen`, for any located variant of the code. Core Lean only.
-/
import Pithos.Model.Integrity

namespace Pithos.C39
open Pithos.Integrity

/-- Idealised checksums: no two inputs share a value. An explicit hypothesis, never an axiom. -/
def CollisionFree {α β : Type} (f : α → β) : Prop := ∀ a b, f a = f b → a = b

theorem CollisionFree.of_comp {α β γ : Type} {f : α → β} (g : β → γ)
    (h : CollisionFree fun a => g (f a)) : CollisionFree f :=
  fun a b hab => h a b (congrArg g hab)

/-- No part of the object is an empty part held by a store that cannot represent one. -/
def NoLossyEmptyPart (ss : Stores) (o : AObj) : Prop :=
  ∀ p ∈ o.parts, p.orig = [] → ∀ s, homeStore ss p = some s → s.emptyIsMissing = false

/-- The object has one part but a `…-1` record (one-part multipart upload, first append). -/
def DashOne (o : AObj) : Prop := o.parts.length = 1 ∧ o.kind ≠ .single

instance (o : AObj) : Decidable (DashOne o) := by unfold DashOne; infer_instance

theorem agree_refl (a : Option Tagged) : agree a a = true := by
  cases a <;> simp [agree]

theorem agreeAll_refl (a : Sums) : agreeAll a a = true := by
  simp [agreeAll, agree_refl]

theorem agree_none_left (b : Option Tagged) : agree none b = true := by
  simp [agree]

theorem agreeAll_sumsOf (H : Hashes) (a b : Bytes) :
    agreeAll (sumsOf H a) (sumsOf H b) = true ↔ sumsOf H a = sumsOf H b := by
  simp only [agreeAll, agree, sumsOf, plain, Bool.and_eq_true, beq_iff_eq, Sums.mk.injEq,
    Option.some.injEq, and_assoc]

theorem verifyPart_iff (H : Hashes) (hcf : CollisionFree (sumsOf H)) (p : APart) (b : Bytes) :
    verifyPart (p.toRow H) (sumsOf H b) = true ↔ b = p.orig := by
  unfold verifyPart APart.toRow
  rw [agreeAll_sumsOf]
  constructor
  · intro h; exact (hcf _ _ h).symm
  · intro h; rw [h]

theorem getPart_faithful (s : Store) (id : Nat) (b : Bytes) (hs : b = [] → s.emptyIsMissing = false) :
    s.getPart id = some b ↔ s.content id = some b := by
  unfold Store.getPart
  cases hc : s.content id with
  | none => simp
  | some c =>
    cases c with
    | nil =>
      cases hm : s.emptyIsMissing with
      | false => simp
      | true =>
        have hb : ¬ ([] = b) := fun h => by
          have := hs h.symm
          rw [this] at hm; cases hm
        simp [hb]
    | cons x xs => simp

/-- The locator sends the validator to the part's own store. -/
def ReadsHome (l : Locator) (p : APart) : Prop := l = .named ∨ (l = .single ∧ p.store = none)

theorem resolve_home (l : Locator) (ss : Stores) (p : APart) (H : Hashes) (h : ReadsHome l p) :
    resolve l ss (p.toRow H) = homeStore ss p := by
  rcases h with h | ⟨h, hs⟩
  · subst h; rfl
  · subst h; simp [resolve, homeStore, hs, Stores.byName]

theorem readPart_orig_iff (H : Hashes) (l : Locator) (ss : Stores) (p : APart) (hr : ReadsHome l p)
    (he : p.orig = [] → ∀ s, homeStore ss p = some s → s.emptyIsMissing = false) :
    readPart l ss (p.toRow H) = some p.orig ↔ ¬ corrupt ss p := by
  unfold readPart corrupt corruptB
  rw [resolve_home l ss p H hr]
  cases hh : homeStore ss p with
  | none => simp
  | some s =>
    rw [show (p.toRow H).id = p.id from rfl, getPart_faithful s p.id p.orig fun h0 => he h0 s hh]
    simp

theorem checkParts_cons (H : Hashes) (hcf : CollisionFree (sumsOf H)) (l : Locator) (ss : Stores) (p : APart)
    (rows : List PartRow) (hr : ReadsHome l p)
    (he : p.orig = [] → ∀ s, homeStore ss p = some s → s.emptyIsMissing = false) :
    checkParts H l ss (p.toRow H :: rows) =
      if corrupt ss p then none else (checkParts H l ss rows).map (sumsOf H p.orig :: ·) := by
  have hp := readPart_orig_iff H l ss p hr he
  rw [checkParts]
  by_cases hc : corrupt ss p
  · rw [if_pos hc]
    cases hrd : readPart l ss (p.toRow H) with
    | none => rfl
    | some b =>
      refine if_neg fun hv => ?_
      obtain rfl := (verifyPart_iff H hcf p b).1 hv
      exact hp.1 hrd hc
  · rw [if_neg hc, hp.2 hc]
    exact if_pos ((verifyPart_iff H hcf p p.orig).2 rfl)

theorem checkParts_eq (H : Hashes) (hcf : CollisionFree (sumsOf H)) (l : Locator) (ss : Stores)
    (ps : List APart) (hr : ∀ p ∈ ps, ReadsHome l p)
    (he : ∀ p ∈ ps, p.orig = [] → ∀ s, homeStore ss p = some s → s.emptyIsMissing = false) :
    checkParts H l ss (ps.map (APart.toRow H)) =
      if ∃ p ∈ ps, corrupt ss p then none else some (ps.map fun p => sumsOf H p.orig) := by
  induction ps with
  | nil => simp [checkParts]
  | cons p ps ih =>
    rw [List.forall_mem_cons] at hr he
    rw [List.map_cons, checkParts_cons H hcf l ss p _ hr.1 he.1, ih hr.2 he.2]
    by_cases hc : corrupt ss p
    · simp [hc]
    · by_cases hx : ∃ q ∈ ps, corrupt ss q
      · simp [hc, hx]
      · simp [hc, hx]

theorem toRow_parts (H : Hashes) (o : AObj) : (o.toRow H).parts = o.rows H := by
  unfold AObj.toRow; cases o.kind <;> rfl

theorem rows_length (H : Hashes) (o : AObj) : (o.rows H).length = o.parts.length := by
  simp [AObj.rows]

theorem hasDash_toRow (H : Hashes) (o : AObj) : hasDash (o.toRow H).sums = decide (o.kind ≠ .single) := by
  unfold AObj.toRow
  cases o.kind with
  | single => unfold AObj.rows; cases o.parts <;> rfl
  | multipart ct => cases ct <;> rfl
  | appended => rfl

theorem agreeAll_multipart (H : Hashes) (o : AObj) (hk : o.kind ≠ .single) :
    agreeAll (o.toRow H).sums (multipartSums H (o.rows H) ((o.toRow H).ctype.getD .fullObject)) = true := by
  unfold AObj.toRow
  cases hk' : o.kind with
  | single => exact absurd hk' hk
  | multipart ct => exact agreeAll_refl _
  | appended => simp [agreeAll, agree_refl, agree_none_left]

theorem verifyObject_intact (H : Hashes) (dashAware : Bool) (o : AObj) (hwf : o.WF)
    (hd : dashAware = true ∨ ¬ DashOne o) :
    verifyObject H dashAware (o.toRow H) (o.parts.map fun p => sumsOf H p.orig) = true := by
  unfold verifyObject
  rw [toRow_parts, rows_length, hasDash_toRow]
  by_cases hk : o.kind = .single
  · -- the record of a `PutObject` is the record of its one part
    match hps : o.parts, hwf hk with
    | [p], _ => simp [AObj.toRow, hk, AObj.rows, hps, APart.toRow, agreeAll_refl]
  · have hc : (o.parts.length == 1 && !(dashAware && decide (o.kind ≠ .single))) = false := by
      rcases hd with hd | hd
      · simp [hd, hk]
      · simp [show o.parts.length ≠ 1 from fun h1 => hd ⟨h1, hk⟩]
    rw [hc]
    exact agreeAll_multipart H o hk

/-- General form, for any located variant of the code: reported ⇔ some part is corrupt, provided the
variant reads every part from its own store, compares one-part `…-1` records the multipart way (or
there is none), and no empty part sits in a store that cannot represent it. -/
theorem reports_iff_corrupt_gen (H : Hashes) (hcf : CollisionFree (sumsOf H)) (cfg : Cfg) (ss : Stores)
    (o : AObj) (hwf : o.WF)
    (hr : ∀ p ∈ o.parts, ReadsHome cfg.locator p)
    (hd : cfg.dashAware = true ∨ ¬ DashOne o)
    (he : NoLossyEmptyPart ss o) :
    reported H cfg ss (o.toRow H) = true ↔ ∃ p ∈ o.parts, corrupt ss p := by
  unfold reported validateObject
  rw [toRow_parts]
  unfold AObj.rows
  rw [checkParts_eq H hcf cfg.locator ss o.parts hr he]
  by_cases hex : ∃ p ∈ o.parts, corrupt ss p
  · simp [hex]
  · simp [hex, verifyObject_intact H cfg.dashAware o hwf hd]

end Pithos.C39
