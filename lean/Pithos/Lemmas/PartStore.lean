/-
Simulation framework for part stores (helpers for C15): `Sim R S` says that the store `S` refines
the reference map `PartId → Option Bytes` for the histories allowed by the restriction `R`; one lemma
per base store and per middleware shows how `Sim` is preserved. A `Sim` is built with `Sim.of`, one
obligation per operation; the one for `get` is a `GetOk`, made by `GetOk.found` (the part is there and
these are its bytes), `GetOk.absent` (it is not) or `GetOk.pass` (the answer of an inner store, handed on).
The middleware files `PartStoreMw`, `PartStoreCache`, `PartStoreOutbox` each rest on this file alone,
`PartStoreEC` on this file and the erasure-coding lemmas (`ErasureCodingHeal`); `PartStoreStack` puts them
together.
-/
import Pithos.Model.PartStore
import Pithos.Lemmas.PartCodec
import Pithos.Lemmas.Assoc

namespace Pithos.PartStore
open Pithos.Codec

namespace KV
variable {V : Type}

theorem find_erase (m : KV V) (i j : PartId) : KV.find (KV.erase m i) j = if j = i then none else KV.find m j :=
  lookup_erase m i j

theorem find_set (m : KV V) (i j : PartId) (v : V) :
    KV.find (KV.set m i v) j = if j = i then some v else KV.find m j :=
  lookup_insert m i v j

theorem mem_keys_iff (m : KV V) (i : PartId) : i ∈ KV.keys m ↔ (KV.find m i).isSome = true :=
  mem_keys_iff_lookup m i

theorem nodup_erase (m : KV V) (i : PartId) (h : (KV.keys m).Nodup) : (KV.keys (KV.erase m i)).Nodup :=
  nodup_keys_erase m i h

theorem nodup_set (m : KV V) (i : PartId) (v : V) (h : (KV.keys m).Nodup) : (KV.keys (KV.set m i v)).Nodup :=
  nodup_keys_insert m i v h

end KV

theorem mem_dedup (l : List PartId) (a : PartId) : a ∈ dedup l ↔ a ∈ l := by
  induction l with
  | nil => simp [dedup]
  | cons b t ih =>
    simp only [dedup, List.mem_cons, List.mem_filter, ih]
    constructor
    · rintro (h | ⟨h, _⟩)
      · exact Or.inl h
      · exact Or.inr h
    · rintro (h | h)
      · exact Or.inl h
      · by_cases hab : a = b
        · exact Or.inl hab
        · exact Or.inr ⟨h, by simpa using hab⟩

theorem nodup_dedup (l : List PartId) : (dedup l).Nodup := by
  induction l with
  | nil => simp [dedup]
  | cons b t ih =>
    simp only [dedup, List.nodup_cons, List.mem_filter]
    refine ⟨?_, ih.filter _⟩
    rintro ⟨_, h⟩
    simp at h

theorem lastEntry_eq_find (q : List Entry) (j : PartId) : lastEntry q j = q.reverse.find? (·.id == j) := by
  induction q with
  | nil => rfl
  | cons e q ih =>
    rw [lastEntry, ih, List.reverse_cons, List.find?_append]
    cases q.reverse.find? (·.id == j) with
    | some _ => rfl
    | none => rw [Option.none_or, List.find?_singleton]

/-- Which histories a statement about a store covers (`okContent`, `absentGet`), and one thing the statement
promises of the streams in return (`clean`), which a layer above may need in order to be covered itself. -/
structure Restr where
  /-- contents for which `put` is covered -/
  okContent : Bytes → Prop
  /-- `get` of an id that holds no part is covered -/
  absentGet : Bool
  /-- guarantee: every stream handed out keeps answering EOF after EOF -/
  clean : Bool

def Restr.full : Restr := ⟨fun _ => True, true, true⟩

/-- The reference map after a `put` (`v = some b`) or a `del` (`v = none`) of part `i`. -/
def upd (m : PartId → Option Bytes) (i : PartId) (v : Option Bytes) : PartId → Option Bytes :=
  fun j => if j = i then v else m j

theorem upd_self (m : PartId → Option Bytes) (i : PartId) (v : Option Bytes) : upd m i v i = v := by
  simp [upd]

theorem upd_ne {m : PartId → Option Bytes} {i j : PartId} {v : Option Bytes} (h : j ≠ i) : upd m i v j = m j := by
  simp [upd, h]

theorem upd_comp (F : PartId → Option Bytes → Option Bytes) (m : PartId → Option Bytes) (i : PartId) (v : Option Bytes) :
    (fun j => F j (upd m i v j)) = upd (fun j => F j (m j)) i (F i v) := by
  funext j
  unfold upd
  split
  · next h => rw [h]
  · rfl

theorem upd_forall {E : PartId → Bytes → Prop} {m : PartId → Option Bytes} {i : PartId} {v : Option Bytes}
    (hm : ∀ j x, m j = some x → E j x) (hv : ∀ x, v = some x → E i x) : ∀ j x, upd m i v j = some x → E j x := by
  intro j x hx
  by_cases hj : j = i
  · subst hj; rw [upd_self] at hx; exact hv x hx
  · rw [upd_ne hj] at hx; exact hm j x hx

/-- What the caller may observe of a `get`, against the reference content. -/
def OutOk (o : GetOut) (e : Option Bytes) : Prop :=
  match e with
  | none => o = .notFound
  | some b => ∃ st, o = .ok st ∧ st.bytes = b

theorem OutOk.bytes? {o : GetOut} {e : Option Bytes} (h : OutOk o e) : o.bytes? = e := by
  cases e with
  | none => rw [show o = .notFound from h]; rfl
  | some b =>
    obtain ⟨st, h1, h2⟩ := h
    rw [h1, ← h2]; rfl

theorem OutOk.ne_err {o : GetOut} {e : Option Bytes} (h : OutOk o e) : o ≠ .err := by
  cases e with
  | none => rw [show o = .notFound from h]; exact fun h => by cases h
  | some b =>
    obtain ⟨st, h1, _⟩ := h
    rw [h1]; exact fun h => by cases h

/-- A `get` of a part whose reference content is `e` is covered by `R`. -/
def Allowed (R : Restr) (e : Option Bytes) : Prop := R.absentGet = true ∨ e.isSome = true

theorem Allowed.of_eq {R : Restr} {e e' : Option Bytes} (h : Allowed R e) (he : e = e') : Allowed R e' := he ▸ h

/-- A simulation of the store `S` by the reference map, for the histories `R` covers: an invariant of the
states and the content `abs` they stand for; every covered operation keeps the invariant, does to `abs` what
the reference map does (`upd`), and a `get` answers what `abs` holds (`OutOk`) without a panic. -/
structure Sim (R : Restr) (S : Store) where
  Inv : S.σ → Prop
  abs : S.σ → PartId → Option Bytes
  inv_init : Inv S.init
  abs_init : ∀ i, abs S.init i = none
  put_inv : ∀ tx s i b, Inv s → R.okContent b → Inv (S.put tx s i b)
  put_abs : ∀ tx s i b, Inv s → R.okContent b → abs (S.put tx s i b) = upd (abs s) i (some b)
  get_inv : ∀ tx s i, Inv s → Allowed R (abs s i) → Inv (S.get tx s i).st
  get_abs : ∀ tx s i, Inv s → Allowed R (abs s i) → abs (S.get tx s i).st = abs s
  get_out : ∀ tx s i, Inv s → Allowed R (abs s i) → OutOk (S.get tx s i).out (abs s i)
  get_clean : ∀ tx s i st, Inv s → Allowed R (abs s i) → R.clean = true →
    (S.get tx s i).out = .ok st → st.afterEof = []
  get_quiet : ∀ tx s i, Inv s → Allowed R (abs s i) → (S.get tx s i).panicked = false
  del_inv : ∀ tx s i, Inv s → Inv (S.del tx s i)
  del_abs : ∀ tx s i, Inv s → abs (S.del tx s i) = upd (abs s) i none
  tick_inv : ∀ s, Inv s → Inv (S.tick s)
  tick_abs : ∀ s, Inv s → abs (S.tick s) = abs s
  ids_mem : ∀ s i, Inv s → (i ∈ S.ids s ↔ (abs s i).isSome = true)
  ids_nodup : ∀ s, Inv s → (S.ids s).Nodup

/-- What `Sim` asks of the result `r` of a `get` of part `i` in state `s`, in one piece (`c`: the streams
handed out are promised to be clean). -/
structure GetOk (c : Bool) {σ : Type} (Inv : σ → Prop) (abs : σ → PartId → Option Bytes) (s : σ) (i : PartId)
    (r : GetRes σ) : Prop where
  inv : Inv r.st
  abs_eq : abs r.st = abs s
  out : OutOk r.out (abs s i)
  clean : c = true → ∀ st, r.out = .ok st → st.afterEof = []
  quiet : r.panicked = false

section
variable {c : Bool} {σ : Type} {Inv : σ → Prop} {abs : σ → PartId → Option Bytes} {s : σ} {i : PartId}

theorem GetOk.found {r : GetRes σ} {st : Stream} (hI : Inv r.st) (hA : abs r.st = abs s) (ho : r.out = .ok st)
    (hb : abs s i = some st.bytes) (hc : c = true → st.afterEof = []) (hq : r.panicked = false) :
    GetOk c Inv abs s i r :=
  ⟨hI, hA, ho ▸ hb ▸ ⟨st, rfl, rfl⟩, fun h _ he => GetOut.ok.inj (ho.symm.trans he) ▸ hc h, hq⟩

theorem GetOk.absent {r : GetRes σ} (hI : Inv r.st) (hA : abs r.st = abs s) (ho : r.out = .notFound)
    (hb : abs s i = none) (hq : r.panicked = false) : GetOk c Inv abs s i r :=
  ⟨hI, hA, ho ▸ hb ▸ rfl, fun _ _ he => GetOut.noConfusion (ho.symm.trans he), hq⟩

theorem GetOk.pass {τ : Type} {InvS : τ → Prop} {absS : τ → PartId → Option Bytes} {s0 : τ} {r0 : GetRes τ} {r : GetRes σ}
    (g : GetOk c InvS absS s0 i r0) (hI : Inv r.st) (hA : abs r.st = abs s) (ho : r.out = r0.out)
    (he : abs s i = absS s0 i) (hq : r.panicked = r0.panicked) : GetOk c Inv abs s i r :=
  ⟨hI, hA, ho ▸ he ▸ g.out, fun h st hs => g.clean h st (ho ▸ hs), hq.trans g.quiet⟩
end

theorem Sim.get_ok {R : Restr} {S : Store} (sim : Sim R S) (tx : Bool) (s : S.σ) (i : PartId) (h : sim.Inv s)
    (a : Allowed R (sim.abs s i)) : GetOk R.clean sim.Inv sim.abs s i (S.get tx s i) :=
  ⟨sim.get_inv tx s i h a, sim.get_abs tx s i h a, sim.get_out tx s i h a,
    fun hc st => sim.get_clean tx s i st h a hc, sim.get_quiet tx s i h a⟩

/-- `Sim`, one obligation per operation: it keeps the invariant and does to the content what the reference
map does. -/
def Sim.of {R : Restr} {S : Store} (Inv : S.σ → Prop) (abs : S.σ → PartId → Option Bytes)
    (init : Inv S.init ∧ ∀ i, abs S.init i = none)
    (put : ∀ tx s i b, Inv s → R.okContent b → Inv (S.put tx s i b) ∧ abs (S.put tx s i b) = upd (abs s) i (some b))
    (get : ∀ tx s i, Inv s → Allowed R (abs s i) → GetOk R.clean Inv abs s i (S.get tx s i))
    (del : ∀ tx s i, Inv s → Inv (S.del tx s i) ∧ abs (S.del tx s i) = upd (abs s) i none)
    (tick : ∀ s, Inv s → Inv (S.tick s) ∧ abs (S.tick s) = abs s)
    (ids : ∀ s, Inv s → (S.ids s).Nodup ∧ ∀ i, i ∈ S.ids s ↔ (abs s i).isSome = true) : Sim R S where
  Inv := Inv
  abs := abs
  inv_init := init.1
  abs_init := init.2
  put_inv tx s i b h hb := (put tx s i b h hb).1
  put_abs tx s i b h hb := (put tx s i b h hb).2
  get_inv tx s i h a := (get tx s i h a).inv
  get_abs tx s i h a := (get tx s i h a).abs_eq
  get_out tx s i h a := (get tx s i h a).out
  get_clean tx s i st h a hc := (get tx s i h a).clean hc st
  get_quiet tx s i h a := (get tx s i h a).quiet
  del_inv tx s i h := (del tx s i h).1
  del_abs tx s i h := (del tx s i h).2
  tick_inv s h := (tick s h).1
  tick_abs s h := (tick s h).2
  ids_mem s i h := (ids s h).2 i
  ids_nodup s h := (ids s h).1

/-- A simulation for the histories `R` covers is one for fewer histories and a weaker promise. -/
def Sim.weaken {R R' : Restr} {S : Store} (sim : Sim R S)
    (hc : ∀ b, R'.okContent b → R.okContent b) (hg : R'.absentGet = true → R.absentGet = true)
    (hcl : R'.clean = true → R.clean = true) : Sim R' S :=
  have al : ∀ e, Allowed R' e → Allowed R e := fun _ h => h.elim (fun h => Or.inl (hg h)) Or.inr
  { sim with
    put_inv := fun tx s i b h hb => sim.put_inv tx s i b h (hc b hb)
    put_abs := fun tx s i b h hb => sim.put_abs tx s i b h (hc b hb)
    get_inv := fun tx s i h a => sim.get_inv tx s i h (al _ a)
    get_abs := fun tx s i h a => sim.get_abs tx s i h (al _ a)
    get_out := fun tx s i h a => sim.get_out tx s i h (al _ a)
    get_clean := fun tx s i st h a c e => sim.get_clean tx s i st h (al _ a) (hcl c) e
    get_quiet := fun tx s i h a => sim.get_quiet tx s i h (al _ a) }

section kv
variable {V : Type} (dec : V → Bytes)

/-- The content of a base store that keeps one row `v` per part, read back as `dec v`. -/
def kvAbs (s : KV V) (i : PartId) : Option Bytes := (KV.find s i).map dec

theorem kvAbs_set (s : KV V) (i : PartId) (v : V) : kvAbs dec (KV.set s i v) = upd (kvAbs dec s) i (some (dec v)) := by
  funext j
  unfold kvAbs upd
  rw [KV.find_set]
  split <;> rfl

theorem kvAbs_erase (s : KV V) (i : PartId) : kvAbs dec (KV.erase s i) = upd (kvAbs dec s) i none := by
  funext j
  unfold kvAbs upd
  rw [KV.find_erase]
  split <;> rfl

theorem kv_ids (s : KV V) (h : (KV.keys s).Nodup) :
    (KV.keys s).Nodup ∧ ∀ i, i ∈ KV.keys s ↔ (kvAbs dec s i).isSome = true :=
  ⟨h, fun i => by rw [KV.mem_keys_iff, kvAbs, Option.isSome_map]⟩

end kv

def fsSim : Sim Restr.full fsStore :=
  .of (fun s : KV Bytes => (KV.keys s).Nodup) (kvAbs id) ⟨List.nodup_nil, fun _ => rfl⟩
    (put := fun _ s i b h _ => ⟨KV.nodup_set s i b h, kvAbs_set id s i b⟩)
    (get := fun _ s i h _ => by
      dsimp only
      split
      · next b hf => exact .found h rfl rfl (by rw [kvAbs, hf]; rfl) (fun _ => rfl) rfl
      · next hf => exact .absent h rfl rfl (by rw [kvAbs, hf]; rfl) rfl)
    (del := fun _ s i h => ⟨KV.nodup_erase s i h, kvAbs_erase id s i⟩)
    (tick := fun _ h => ⟨h, rfl⟩)
    (ids := fun s h => kv_ids id s h)

/-- The contents the SQL store handles correctly: everything with the repair, everything but the
empty content as the code is. -/
def sqlOk (F : Fixes) (b : Bytes) : Prop := F.sqlEmptyRow = true ∨ b ≠ []

def sqlSim (F : Fixes) : Sim ⟨sqlOk F, true, true⟩ (sqlStore F) :=
  .of (fun s : KV (List Bytes) => (KV.keys s).Nodup) (kvAbs concat) ⟨List.nodup_nil, fun _ => rfl⟩
    (put := fun _ s i b h hb => by
      dsimp only
      split
      · next he =>
        have hb0 : b = [] := (chunks_eq_nil_iff _ _).1 (List.isEmpty_iff.1 he)
        rw [if_pos (hb.resolve_right fun h => h hb0), hb0]
        exact ⟨KV.nodup_set s i _ h, kvAbs_set concat s i [[]]⟩
      · exact ⟨KV.nodup_set s i _ h, (kvAbs_set concat s i _).trans (by rw [concat_chunks])⟩)
    (get := fun _ s i h _ => by
      dsimp only
      split
      · next b hf => exact .found h rfl rfl (by rw [kvAbs, hf]; rfl) (fun _ => rfl) rfl
      · next hf => exact .absent h rfl rfl (by rw [kvAbs, hf]; rfl) rfl)
    (del := fun _ s i h => ⟨KV.nodup_erase s i h, kvAbs_erase concat s i⟩)
    (tick := fun _ h => ⟨h, rfl⟩)
    (ids := fun s h => kv_ids concat s h)

end Pithos.PartStore
