/-
Tamper evidence of the tink readers under an ideal AEAD (helper for C16): whatever bytes are presented
as the tink stream of a part, everything either reader delivers — before an error or before a clean
end — is a prefix of the plaintext that was written; the repaired seekable reader never ends cleanly
on a strict prefix. Of `sealSeg` only the length is assumed (`hA`: sealing adds exactly the tag, as AES-GCM
does; on the honest side the field `AeadOK.seal_len`). Rests on the geometry of `TinkSeek` alone, not on the
honest path (`TinkHonest`).
-/
import Pithos.Lemmas.TinkSeek

namespace Pithos.Tink
open Pithos.Codec

/-- **Ideal AEAD**, relative to what the writer sealed for this part (`segs`, under `key` and nonce prefix
`pre`): a ciphertext opens only if it is exactly one of the sealed segments, under exactly the nonce
it was sealed with — prefix, segment index and last-segment flag — and then to exactly that segment's
plaintext; under any other key nothing opens. -/
structure IdealFor (A : AEAD) (key : Nat) (pre : Bytes) (segs : List Bytes) : Prop where
  only_sealed : ∀ (n : Nonce) (c m : Bytes), A.openSeg key n c = some m →
    n.pre = pre ∧ n.idx < segs.length ∧ n.last = decide (n.idx + 1 = segs.length) ∧ m = segs.getD n.idx [] ∧
      c = A.sealSeg key n m
  other_keys : ∀ k', k' ≠ key → ∀ n c, A.openSeg k' n c = none

theorem IdealFor.opens {A : AEAD} {key : Nat} {pre : Bytes} {segs : List Bytes} (ideal : IdealFor A key pre segs)
    {k' : Nat} {n : Nonce} {c m : Bytes} (h : A.openSeg k' n c = some m) :
    n.idx < segs.length ∧ m = segs.getD n.idx [] ∧ n.last = decide (n.idx + 1 = segs.length) ∧
      c = A.sealSeg key n m := by
  by_cases hk : k' = key
  · rw [hk] at h
    obtain ⟨_, hidx, hlast, hm, hc⟩ := ideal.only_sealed n c m h
    exact ⟨hidx, hm, hlast, hc⟩
  · rw [ideal.other_keys _ hk] at h; cases h

/-- core's `a <+: b`, as an equation for `b` -/
def IsPrefix (a b : Bytes) : Prop := ∃ t, b = a ++ t

/-- what a read handed out, whether it ended cleanly or with an error -/
def Res.delivered : Res → Bytes
  | .ok b => b
  | .err b => b

theorem Res.prefix_cases {r : Res} {b : Bytes} :
    IsPrefix r.delivered b →
      match r with
      | .ok out => IsPrefix out b
      | .err sofar => IsPrefix sofar b := by
  cases r <;> exact id

/-- The invariant of both read loops. `acc` has been delivered and `rest` is what the plaintext holds
from there on: the result `r` adds to `acc` a prefix of `rest` — all of it when `whole` is set and `r`
is a clean end. -/
def Res.Continues (r : Res) (acc rest : Bytes) (whole : Bool) : Prop :=
  ∃ t, r.delivered = acc ++ t ∧ IsPrefix t rest ∧ (whole = true → ∀ out, r = .ok out → t = rest)

theorem Res.Continues.err (acc rest : Bytes) (whole : Bool) : (Res.err acc).Continues acc rest whole :=
  ⟨[], (List.append_nil acc).symm, ⟨rest, rfl⟩, fun _ _ h => by cases h⟩

theorem Res.Continues.ok (acc rest : Bytes) (whole : Bool) (h : whole = true → rest = []) :
    (Res.ok acc).Continues acc rest whole :=
  ⟨[], (List.append_nil acc).symm, ⟨rest, rfl⟩, fun hw _ _ => (h hw).symm⟩

theorem Res.Continues.step {r : Res} {acc chunk rest' rest : Bytes} {whole : Bool} (hr : rest = chunk ++ rest')
    (h : r.Continues (acc ++ chunk) rest' whole) : r.Continues acc rest whole := by
  obtain ⟨t, hd, ⟨u, hu⟩, hw⟩ := h
  refine ⟨chunk ++ t, by rw [hd, List.append_assoc], ⟨u, by rw [hr, hu, List.append_assoc]⟩, fun hf out ho => ?_⟩
  rw [hr, hw hf out ho]

theorem Res.Continues.prefix {r : Res} {rest : Bytes} {whole : Bool} (h : r.Continues [] rest whole) :
    IsPrefix r.delivered rest := by
  obtain ⟨t, hd, ht, _⟩ := h
  rw [hd]; exact ht

theorem Res.Continues.whole {r : Res} {rest out : Bytes} (h : r.Continues [] rest true) (ho : r = .ok out) :
    out = rest := by
  obtain ⟨t, hd, _, hw⟩ := h
  rw [← hw rfl out ho, ho] at *
  exact hd

theorem load_ideal {A : AEAD} (hA : ∀ k n m, (A.sealSeg k n m).length = m.length + tagLen) {key : Nat} {pre : Bytes}
    {segs : List Bytes} (ideal : IdealFor A key pre segs) {keyOf : Bytes → Nat} {css : Nat} {ct : Bytes} {j : Nat} {p : Bytes}
    (hl : loadSeg A keyOf css ct j = some p) :
    j < segs.length ∧ p = segs.getD j [] ∧ (j == numSegR css ct.length - 1) = decide (j + 1 = segs.length) ∧
      ctLen css ct.length j = (segs.getD j []).length + tagLen := by
  unfold loadSeg at hl
  simp only at hl
  split at hl
  · cases hl
  · split at hl
    · cases hl
    · split at hl
      · cases hl
      · rename_i h1 h2 h3
        obtain ⟨hidx, hm, hlast, hc⟩ := ideal.opens hl
        refine ⟨hidx, hm, hlast, ?_⟩
        have hlen := congrArg List.length hc
        rw [hA, List.length_take] at hlen
        rw [List.length_take] at h3
        rw [← hm]
        omega

section
variable {A : AEAD} (hA : ∀ k n m, (A.sealSeg k n m).length = m.length + tagLen) {css key : Nat} {pre : Bytes}
  {segs : List Bytes} (keyOf : Bytes → Nat) (h56 : 56 < css) (lay : SegLayout css segs) (ideal : IdealFor A key pre segs)
include hA h56 lay ideal

theorem ptLen_of_last_loaded {ct p : Bytes} (hl : loadSeg A keyOf css ct (numSegR css ct.length - 1) = some p) :
    ptLenR css ct.length = segs.flatten.length := by
  obtain ⟨_, _, hflag, hlen⟩ := load_ideal hA ideal hl
  rw [beq_self_eq_true] at hflag
  have hk : numSegR css ct.length - 1 + 1 = segs.length := of_decide_eq_true hflag.symm
  -- slot `numSegR - 1` held a tag, so there is a byte, and a slot was counted
  have hpos : 0 < numSegR css ct.length :=
    Nat.div_pos (by rw [ctLen_eq] at hlen; simp only [tagLen] at hlen; omega) (by omega)
  have hnum : numSegR css ct.length = segs.length := by omega
  rw [hnum] at hlen
  rw [(numSegR_ctLen_iff css segs.length _ ct.length h56 lay.length_pos lay.last_le).1 ⟨hnum, hlen⟩,
    (ctLenOf_inverse css segs.length _ h56 lay.length_pos lay.last_le).2, lay.flatten_length]

omit hA ideal in
theorem readLoop_sound (load : Nat → Option Bytes) (ptLen last : Nat) (fix : Bool)
    (hload : ∀ j p, load j = some p → j < segs.length ∧ p = segs.getD j [])
    (hlast : ∀ p, load last = some p → ptLen = segs.flatten.length) :
    ∀ (fuel pos : Nat) (acc : Bytes),
      (readLoop load ptLen last (segFor css) (ptStart css) fix fuel pos acc).Continues acc (segs.flatten.drop pos) fix := by
  intro fuel pos acc
  fun_induction readLoop load ptLen last (segFor css) (ptStart css) fix fuel pos acc with
  | case1 => exact .err _ _ _
  -- at `ptLen`: the repaired reader ends cleanly only when the last segment loads
  | case2 _ _ _ hend _ p hl => exact .ok _ _ _ fun _ => List.drop_eq_nil_iff.2 (by rw [← hlast p hl]; exact hend)
  | case3 => exact .err _ _ _
  | case4 _ _ _ _ hf => exact .ok _ _ _ fun h => absurd h hf
  -- before `ptLen`: the segment of `pos` fails to load, has nothing left, or hands out its rest
  | case5 => exact .err _ _ _
  | case6 => exact .err _ _ _
  | case7 _ pos _ _ p hl _ _ ih =>
    obtain ⟨hj, rfl⟩ := hload _ p hl
    exact .step (lay.drop_flatten h56 pos hj) ih

theorem seekRead_sound (fix : Bool) (ct : Bytes) (off : Nat) :
    (seekRead A keyOf fix css ct off).Continues [] (segs.flatten.drop off) fix := by
  unfold seekRead
  split
  · exact .err _ _ _
  · exact readLoop_sound h56 lay _ _ _ fix (fun j p hl => ⟨(load_ideal hA ideal hl).1, (load_ideal hA ideal hl).2.1⟩)
      (fun p hl => ptLen_of_last_loaded hA keyOf h56 lay ideal hl) _ off []

end

/-- The sequential loop, `j` segments in: what it hands out is how the plaintext continues behind them;
the guarded one ends without error only behind a segment that opened under the last-segment flag — and
under an ideal AEAD that is the last segment of the written stream. -/
theorem seqLoop_sound {A : AEAD} {key : Nat} {pre : Bytes} {segs : List Bytes} (ideal : IdealFor A key pre segs)
    (pre' : Bytes) (k' : Nat) (css : Nat) (guard : Bool) :
    ∀ (fuel j : Nat) (rest acc : Bytes),
      (seqLoop A k' pre' css guard fuel j rest acc).Continues acc (segs.drop j).flatten guard := by
  intro fuel j rest acc
  fun_induction seqLoop A k' pre' css guard fuel j rest acc with
  | case1 => exact .err _ _ _
  -- nothing (or only the look-ahead byte) left: an error with the guard, a clean end without
  | case2 => exact .err _ _ _
  | case3 _ _ _ _ _ hg => exact .ok _ _ _ fun h => absurd h hg
  -- at most one slot left: opened under the last-segment flag
  | case4 => exact .err _ _ _
  | case5 _ j _ _ _ _ _ p ho =>
    obtain ⟨hjl, rfl, hl, _⟩ := ideal.opens ho
    refine .step (drop_flatten_cons segs j hjl) (.ok _ _ _ fun _ => ?_)
    rw [List.drop_eq_nil_iff.2 (Nat.le_of_eq (of_decide_eq_true hl.symm).symm), List.flatten_nil]
  -- more than one slot left: opened as a segment that is not the last
  | case6 => exact .err _ _ _
  | case7 _ j _ _ _ _ _ p ho ih =>
    obtain ⟨hjl, rfl, _⟩ := ideal.opens ho
    exact .step (drop_flatten_cons segs j hjl) ih

/-- **tamper evidence, sequential reader.** Whatever bytes are presented as the tink stream: all that
tink-go's sequential reader delivers is a prefix of the plaintext that was written. (It CAN end cleanly
on a strict prefix — see the negation witnesses.) With the envelope repair and the byte-counting guard
a read that ends without error has delivered exactly what was written. -/
theorem seqRead_sound {A : AEAD} {key : Nat} {pre : Bytes} {segs : List Bytes} (keyOf : Bytes → Nat)
    (ideal : IdealFor A key pre segs) (fixEof : Bool) (css : Nat) (ct : Bytes) (guard : Bool) :
    (seqRead A keyOf fixEof css ct guard).Continues [] segs.flatten (fixEof && guard) := by
  unfold seqRead
  split
  · rename_i h
    exact .ok _ _ _ (fun hw => by
      rw [Bool.and_eq_true, Bool.not_eq_true'] at h
      rw [h.2] at hw; cases hw)
  · split
    · exact .err _ _ _
    · obtain ⟨t, hd, ht, hw⟩ := seqLoop_sound ideal ((ct.drop 33).take 7) (keyOf ((ct.drop 1).take 32)) css guard
        (ct.length + 2) 0 (ct.drop hdrLen) []
      exact ⟨t, hd, ht, fun hf => hw (Bool.and_eq_true _ _ ▸ hf).2⟩

end Pithos.Tink
