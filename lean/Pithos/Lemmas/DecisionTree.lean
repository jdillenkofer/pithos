/-
A checker for "these lists of (discriminator, polarity) tests are the root-to-leaf paths of a binary
decision tree" (`isTree`, by recursion on a bound for the depth), and what it is good for: under every
valuation of the discriminators exactly one path of such a tree holds (`isTree_sound`, by induction on
the depth). An ordered chain of `if … { …; return }` is such a tree, so running the checker over the
generated routers (C31) gives their totality and unambiguity for all valuations at once, with no
enumeration of valuations. The discriminators are any type with decidable equality. Core Lean only.
-/
namespace Pithos.DecisionTree

variable {κ : Type} [DecidableEq κ]

/-- A path condition holds under a valuation of the discriminators. -/
def holds (ev : κ → Bool) (p : List (κ × Bool)) : Bool := p.all fun g => ev g.1 == g.2

/-- The paths that go through the `b` side of a test of `c`, without that test. -/
def branch (c : κ) (b : Bool) (ps : List (List (κ × Bool))) : List (List (κ × Bool)) :=
  (ps.filter fun p => p.head? == some (c, b)).map List.tail

/-- `ps` are the root-to-leaf paths of a binary decision tree of depth at most `n`: the empty path
alone, or every path begins with a test of the same discriminator and both sides are trees again. -/
def isTree : Nat → List (List (κ × Bool)) → Bool
  | 0, ps => ps == [[]]
  | n + 1, ps => ps == [[]] ||
    match ps.head?.bind (·.head?) with
    | some (c, _) => ps.all (fun p => p.head?.map (·.1) == some c) &&
        isTree n (branch c true ps) && isTree n (branch c false ps)
    | none => false

theorem isTree_sound (ev : κ → Bool) (n : Nat) (ps : List (List (κ × Bool))) (h : isTree n ps = true) :
    (ps.filter (holds ev)).length = 1 := by
  induction n generalizing ps with
  | zero => rw [eq_of_beq h]; rfl
  | succ n ih =>
    rw [isTree, Bool.or_eq_true] at h
    rcases h with h | h
    · rw [eq_of_beq h]; rfl
    · split at h
      · next c _ _ =>
        simp only [Bool.and_eq_true] at h
        -- a path holds iff it takes the side `ev c` of the first test and its tail holds
        have : ps.filter (holds ev) = (ps.filter fun p => p.head? == some (c, ev c)).filter (holds ev ∘ List.tail) := by
          rw [List.filter_filter]
          refine List.filter_congr fun p hp => ?_
          match p, List.all_eq_true.1 h.1.1 p hp with
          | (c', b) :: t, hc =>
            obtain rfl : c' = c := by simpa using hc
            cases b <;> cases hv : ev c' <;> simp [holds, hv]
        rw [this, ← List.length_map (f := List.tail), ← List.filter_map]
        cases hv : ev c
        · exact ih _ (hv ▸ h.2)
        · exact ih _ (hv ▸ h.1.2)
      · cases h

end Pithos.DecisionTree
