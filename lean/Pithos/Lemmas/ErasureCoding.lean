/-
Lemmas about the erasure-coding frame format and read loop (`Pithos.Model.ErasureCoding`):
the frame and shard-header codecs round-trip, the frame reader looks at nothing behind the frame it
reads (`readFrame_append`), `read` with its per-shard lists in the form `(List.range c.n).map f` (`read_eq`).
-/
import Pithos.Model.ErasureCoding
import Pithos.Lemmas.PartCodec
import Pithos.Lemmas.ListFacts

namespace Pithos.EC
open Pithos.Codec

/-- What the frame format can represent: field widths of the shard header (uint16, uint32) and of
the frame header (uint32 `dataBytes`), the constructor's own checks (`d ≥ 1`, `stripe ≥ 1024`), a
32-byte hash, and a code whose parity shards are as long as the data shards. -/
structure WF (c : Cfg) (code : Code) (H : Bytes → Bytes) : Prop where
  d_pos : 1 ≤ c.d
  n_lt : c.n < 65536
  stripe_ge : 1024 ≤ c.stripe
  stripe_lt : c.stripe < 4294967296
  stripeData_lt : c.d * c.stripe < 4294967296
  hash_len : ∀ x, (H x).length = 32
  parity_len : ∀ data L, data.length = c.d → (∀ x ∈ data, x.length = L) →
    (code.parity c.d c.p data).length = c.p ∧ ∀ x ∈ code.parity c.d c.p data, x.length = L

section
variable {c : Cfg} {code : Code} {H : Bytes → Bytes}

theorem shardHeader_length (c : Cfg) (k : Nat) : (shardHeader c k).length = shardHeaderSize := by
  simp [shardHeader, shardMagic, be16, be32, beN_length, shardHeaderSize]

theorem parseShardHeader_fields (dB tB iB sB : Bytes) (l1 : dB.length = 2) (l2 : tB.length = 2) (l3 : iB.length = 2)
    (l4 : sB.length = 4) :
    parseShardHeader (shardMagic ++ [1] ++ dB ++ tB ++ iB ++ sB) =
      if fromBE dB < 1 ∨ fromBE tB < fromBE dB ∨ fromBE iB ≥ fromBE tB ∨ fromBE sB < 1024 then none
      else some (fromBE dB, fromBE tB, fromBE iB, fromBE sB) := by
  have e : shardMagic ++ [1] ++ dB ++ tB ++ iB ++ sB = shardMagic ++ ([1] ++ (dB ++ (tB ++ (iB ++ sB)))) := by
    simp only [List.append_assoc]
  have d5 : (shardMagic ++ ([1] ++ (dB ++ (tB ++ (iB ++ sB))))).drop 5 = dB ++ (tB ++ (iB ++ sB)) := rfl
  have d7 := congrArg (List.drop 2) d5
  have d9 := congrArg (List.drop 2) d7
  have d11 := congrArg (List.drop 2) d9
  rw [List.drop_drop, List.drop_left' l1] at d7
  rw [List.drop_drop, List.drop_drop, List.drop_left' l1, List.drop_left' l2] at d9
  rw [List.drop_drop, List.drop_drop, List.drop_drop, List.drop_left' l1, List.drop_left' l2,
    List.drop_left' l3] at d11
  rw [e, parseShardHeader, d5, d7, d9, d11, List.take_left' l1, List.take_left' l2,
    List.take_left' l3, List.take_of_length_le (Nat.le_of_eq l4), if_neg, if_neg]
  · exact fun h => h.elim (fun h => h rfl) fun h => h rfl
  · simp [shardHeaderSize, shardMagic, l1, l2, l3, l4]

theorem parseShardHeader_shardHeader (wf : WF c code H) {k : Nat} (hk : k < c.n) :
    parseShardHeader (shardHeader c k) = some (c.d, c.n, k, c.stripe) := by
  have hn := wf.n_lt
  have hdn : c.d ≤ c.n := Nat.le_add_right _ _
  have h1 := wf.d_pos
  have h3 := wf.stripe_ge
  rw [shardHeader, parseShardHeader_fields (be16 c.d) (be16 c.n) (be16 k) (be32 c.stripe) (beN_length 2 _) (beN_length 2 _)
      (beN_length 2 _) (beN_length 4 _),
    fromBE_be16 c.d (by omega), fromBE_be16 c.n (by omega), fromBE_be16 k (by omega), fromBE_be32 c.stripe wf.stripe_lt,
    if_neg (by omega)]

/-- `openPartReaders` accepts in store `k` only a shard whose header names position `k`. -/
theorem openShard_header (wf : WF c code H) (k : Nat) {j : Nat} (hj : j < c.n)
    (rest : Bytes) : openShard c k (some (shardHeader c j ++ rest)) = if j = k then some rest else none := by
  have hlen := shardHeader_length c j
  unfold openShard
  have h1 : ¬ (shardHeader c j ++ rest).length < shardHeaderSize := by simp [hlen]
  simp only [h1, if_false]
  rw [List.take_left' hlen, List.drop_left' hlen, parseShardHeader_shardHeader wf hj]
  simp

theorem openShard_stream (wf : WF c code H) {k : Nat} (hk : k < c.n)
    (rest : Bytes) : openShard c k (some (shardHeader c k ++ rest)) = some rest := by
  rw [openShard_header wf k hk, if_pos rfl]

theorem openShard_take (c : Cfg) (k : Nat) (s : Bytes) (m : Nat) :
    openShard c k (some (s.take m)) = none ∨
      ∃ r, openShard c k (some s) = some r ∧ openShard c k (some (s.take m)) = some (r.take (m - shardHeaderSize)) := by
  simp only [openShard]
  by_cases hm : (s.take m).length < shardHeaderSize
  · exact .inl (if_pos hm)
  · rw [if_neg hm]
    rw [List.length_take] at hm
    rw [if_neg (show ¬ s.length < shardHeaderSize by omega), List.take_take, Nat.min_eq_left (by omega), List.drop_take]
    split
    · exact .inr ⟨_, rfl, rfl⟩
    · exact .inl rfl

theorem frameHeader_length (hH : ∀ x, (H x).length = 32) (j m : Nat) (p : Bytes) :
    (frameHeader H j m p).length = frameHeaderSize := by
  simp [frameHeader, be64, be32, beN_length, hH p, frameHeaderSize]

theorem readFrame_fields (H : Bytes → Bytes) (j : Nat) (idxB dbB plB h body : Bytes)
    (l1 : idxB.length = 8) (l2 : dbB.length = 4) (l3 : plB.length = 4) (l4 : h.length = 32) :
    readFrame H j (idxB ++ (dbB ++ (plB ++ (h ++ body)))) =
      if fromBE dbB < 1 ∨ fromBE plB < 1 ∨ fromBE idxB ≠ j % 18446744073709551616 then .bad else
      if body.length < fromBE plB then .bad else
      if H (body.take (fromBE plB)) ≠ h then .bad else
      .ok (fromBE dbB) (body.take (fromBE plB)) (body.drop (fromBE plB)) := by
  unfold readFrame
  have hlen : ¬ (idxB ++ (dbB ++ (plB ++ (h ++ body)))).length < frameHeaderSize := by
    simp [l1, l2, l3, l4, frameHeaderSize]; omega
  rw [if_neg hlen]
  have t8 : (idxB ++ (dbB ++ (plB ++ (h ++ body)))).take 8 = idxB := List.take_left' l1
  have d8 : (idxB ++ (dbB ++ (plB ++ (h ++ body)))).drop 8 = dbB ++ (plB ++ (h ++ body)) := List.drop_left' l1
  have d12 : (idxB ++ (dbB ++ (plB ++ (h ++ body)))).drop 12 = plB ++ (h ++ body) := by
    rw [show (12 : Nat) = 8 + 4 from rfl, ← List.drop_drop, d8, List.drop_left' l2]
  have d16 : (idxB ++ (dbB ++ (plB ++ (h ++ body)))).drop 16 = h ++ body := by
    rw [show (16 : Nat) = 12 + 4 from rfl, ← List.drop_drop, d12, List.drop_left' l3]
  have d48 : (idxB ++ (dbB ++ (plB ++ (h ++ body)))).drop frameHeaderSize = body := by
    rw [show frameHeaderSize = 16 + 32 from rfl, ← List.drop_drop, d16, List.drop_left' l4]
  rw [t8, d8, d12, d16, d48, List.take_left' l2, List.take_left' l3, List.take_left' l4]

/-- What a frame header can say of a frame: `dataBytes` (`m`) and the payload length are 4-byte fields, and
the frame reader rejects a frame in which either is 0. -/
def FrameOK (m : Nat) (p : Bytes) : Prop := 1 ≤ m ∧ m < 4294967296 ∧ 1 ≤ p.length ∧ p.length < 4294967296

theorem readFrame_header (hH : ∀ x, (H x).length = 32) (j : Nat) {m : Nat} {p : Bytes} (body : Bytes)
    (ok : FrameOK m p) :
    readFrame H j (frameHeader H j m p ++ body) =
      if body.length < p.length then .bad else
      if H (body.take p.length) ≠ H p then .bad else .ok m (body.take p.length) (body.drop p.length) := by
  obtain ⟨hm1, hm, hp1, hp⟩ := ok
  have e : frameHeader H j m p ++ body = be64 j ++ (be32 m ++ (be32 p.length ++ (H p ++ body))) := by
    simp [frameHeader, List.append_assoc]
  rw [e, readFrame_fields H j (be64 j) (be32 m) (be32 p.length) (H p) body (beN_length 8 j) (beN_length 4 m)
    (beN_length 4 _) (hH p), fromBE_be64, fromBE_be32 m hm, fromBE_be32 _ hp, if_neg (by omega)]

theorem readFrame_frame (hH : ∀ x, (H x).length = 32) (j : Nat) {m : Nat} {p : Bytes} (rest : Bytes)
    (ok : FrameOK m p) :
    readFrame H j (frame H j m p ++ rest) = .ok m p rest := by
  rw [frame, List.append_assoc, readFrame_header hH j _ ok, List.take_left' rfl,
    List.drop_left' rfl, if_neg (by simp), if_neg (by simp)]

theorem of_ite_eq {α : Type} {c : Prop} [Decidable c] {a b x : α} (ha : a ≠ x) (h : (if c then a else b) = x) :
    ¬ c ∧ b = x := by
  split at h
  · exact absurd h ha
  · exact ⟨‹_›, h⟩

theorem readFrame_eof_iff (H : Bytes → Bytes) (j : Nat) (r : Bytes) :
    readFrame H j r = .eof ↔ r.length < frameHeaderSize := by
  refine ⟨fun h => Decidable.by_contra fun hl => ?_, fun h => if_pos h⟩
  have bad : FrameRead.bad ≠ .eof := fun h => by cases h
  rw [readFrame, if_neg hl] at h
  cases (of_ite_eq bad (of_ite_eq bad (of_ite_eq bad h).2).2).2

theorem readFrame_nil (H : Bytes → Bytes) (j : Nat) : readFrame H j [] = .eof :=
  (readFrame_eof_iff H j []).2 (by decide)

theorem take_drop_append {r : Bytes} (t : Bytes) (a n : Nat) {m : Nat} (hl : m ≤ r.length) (h : a + n ≤ m) :
    ((r ++ t).drop a).take n = (r.drop a).take n := by
  rw [List.drop_append_of_le_length (by omega), List.take_append_of_le_length (by rw [List.length_drop]; omega)]

theorem readFrame_append {H : Bytes → Bytes} {j : Nat} {r : Bytes} {db : Nat} {p rest : Bytes}
    (h : readFrame H j r = .ok db p rest) (t : Bytes) : readFrame H j (r ++ t) = .ok db p (rest ++ t) := by
  rw [readFrame] at h
  have bad : FrameRead.bad ≠ .ok db p rest := fun h => by cases h
  obtain ⟨hl, h⟩ := of_ite_eq (fun h => by cases h) h
  obtain ⟨h1, h⟩ := of_ite_eq bad h
  obtain ⟨h2, h⟩ := of_ite_eq bad h
  obtain ⟨h3, h⟩ := of_ite_eq bad h
  have hl := Nat.le_of_not_lt hl
  have h2 := Nat.le_of_not_lt h2
  cases h
  rw [readFrame, if_neg (Nat.not_lt.2 (Nat.le_trans hl (List.length_append ▸ Nat.le_add_right _ _))),
    List.take_append_of_le_length (Nat.le_trans (show 8 ≤ frameHeaderSize by decide) hl),
    take_drop_append t 8 4 hl (by decide), take_drop_append t 12 4 hl (by decide),
    take_drop_append t 16 32 hl (by decide), List.drop_append_of_le_length hl, if_neg h1,
    if_neg (Nat.not_lt.2 (Nat.le_trans h2 (List.length_append ▸ Nat.le_add_right _ _))), List.take_append_of_le_length h2,
    List.drop_append_of_le_length h2, if_neg h3]

theorem stripeShards_spec (wf : WF c code H) (x : Bytes) :
    (stripeShards c code x).length = c.n ∧ ∀ s ∈ stripeShards c code x, s.length = shardLen c.d x.length := by
  have hl := stripe_length c.d x
  have hs := stripe_shard_length c.d x
  obtain ⟨hp1, hp2⟩ := wf.parity_len (stripe c.d x) (shardLen c.d x.length) hl hs
  refine ⟨by simp [stripeShards, hl, hp1, Cfg.n], ?_⟩
  intro s hs'
  simp only [stripeShards, List.mem_append] at hs'
  rcases hs' with h | h
  · exact hs s h
  · exact hp2 s h

theorem frame_length_ge (hH : ∀ x, (H x).length = 32) (j m : Nat) (p : Bytes) :
    frameHeaderSize ≤ (frame H j m p).length := by
  simp [frame, frameHeader_length hH]

theorem framesFrom_length_ge (c : Cfg) (code : Code) (hH : ∀ x, (H x).length = 32) (k : Nat) :
    ∀ (xs : List Bytes) (j : Nat), frameHeaderSize * xs.length ≤ (framesFrom c code H k j xs).length := by
  intro xs
  induction xs with
  | nil => intro j; simp [framesFrom]
  | cons x xs ih =>
    intro j
    simp only [framesFrom, List.length_append, List.length_cons]
    have h1 := frame_length_ge hH j x.length ((stripeShards c code x).getD k [])
    have h2 := ih (j + 1)
    rw [Nat.mul_succ]; omega

theorem lt_fuelFor (hH : ∀ x, (H x).length = 32) {k j : Nat} {xs : List Bytes}
    {readers : List (Option Bytes)} (h : some (framesFrom c code H k j xs) ∈ readers) : xs.length < fuelFor readers := by
  unfold fuelFor
  have hsum := le_sum_of_mem (List.mem_map.2 ⟨_, h, rfl⟩ :
    (framesFrom c code H k j xs).length ∈ readers.map fun r => (r.map List.length).getD 0)
  have hge := framesFrom_length_ge c code hH k xs j
  have : xs.length ≤ (readers.map fun r => (r.map List.length).getD 0).sum / frameHeaderSize := by
    rw [Nat.le_div_iff_mul_le (by decide), Nat.mul_comm]; omega
  exact Nat.lt_of_le_of_lt this (Nat.lt_add_of_pos_right (by decide))

/-- `openPartReaders`: the reader of shard `k`. -/
def opened (c : Cfg) (streams : List (Option Bytes)) (k : Nat) : Option Bytes := openShard c k (streams.getD k none)

/-- `read` in the form the lemmas about the stripe loop want: everything the loop keeps per shard is a
list `(List.range c.n).map f`. -/
theorem read_eq (fix : Fix) {streams : List (Option Bytes)}
    (hlen : streams.length = c.n) :
    read c code H fix streams =
      if fix.notFoundWhenAllMissing && streams.all Option.isNone then .notFound else
      if fix.failWhenTooFewOpen && decide ((((List.range c.n).map (opened c streams)).filter Option.isSome).length < c.d) then
        .result ⟨[], true, (List.range c.n).map fun _ => none, []⟩
      else .result (loop c code H fix ((List.range c.n).map fun k => (opened c streams k).isNone)
        (fuelFor ((List.range c.n).map (opened c streams))) 0
        ((List.range c.n).map (opened c streams)) [] ((List.range c.n).map (shardHeader c))) := by
  rw [read, map_zip_range_getD streams none, hlen]
  simp only [List.map_map, List.length_map, List.length_range]
  rfl

end

end Pithos.EC
