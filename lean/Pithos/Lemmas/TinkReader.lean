/-
The seekable decrypting reader as a state machine (`Pithos.Tink.rRead`, `rRun`): with the repaired
`loadSegment` (a failed load forgets the buffered segment) every byte any `Read` of any `Seek`/`Read`
history hands out is a byte of the written plaintext at the position the read was issued at — whatever
bytes are presented as the stream, also after reads that failed (helpers for C16). Built on `load_ideal`
and `ptLen_of_last_loaded` of `TinkTamper`.
-/
import Pithos.Lemmas.TinkTamper

namespace Pithos.Tink
open Pithos.Codec

/-- What is buffered is a true segment, and `lastVerified` means what it says: the last segment HAS been
authenticated, so the plaintext length derived from the ciphertext length is the true one. -/
structure RInv (css : Nat) (ct : Bytes) (segs : List Bytes) (s : RState) : Prop where
  buffered : ∀ j, s.segIdx = some j → j < segs.length ∧ s.buf = segs.getD j []
  verified : s.lastVerified = true → ptLenR css ct.length = segs.flatten.length

theorem RInv.init (css : Nat) (ct : Bytes) (segs : List Bytes) : RInv css ct segs {} :=
  ⟨fun _ h => (by cases h), fun h => (by cases h)⟩

theorem IsPrefix.take {a b : Bytes} (h : IsPrefix a b) (n : Nat) : IsPrefix (a.take n) b := by
  obtain ⟨t, rfl⟩ := h
  exact ⟨a.drop n ++ t, by rw [← List.append_assoc, List.take_append_drop]⟩

section
variable {A : AEAD} (hA : ∀ k n m, (A.sealSeg k n m).length = m.length + tagLen) {css key : Nat} {pre : Bytes}
  {segs : List Bytes} (keyOf : Bytes → Nat) (h56 : 56 < css) (lay : SegLayout css segs) (ideal : IdealFor A key pre segs)
include hA h56 lay ideal

theorem rLoad_inv {ct : Bytes} (j : Nat) {s : RState} (hinv : RInv css ct segs s) :
    RInv css ct segs (rLoad A keyOf true css ct j s).2 ∧
      ((rLoad A keyOf true css ct j s).1 = true → (rLoad A keyOf true css ct j s).2.segIdx = some j ∧
        (j = numSegR css ct.length - 1 → (rLoad A keyOf true css ct j s).2.lastVerified = true)) := by
  unfold rLoad
  cases hl : loadSeg A keyOf css ct j with
  | some seg =>
    obtain ⟨hidx, hp, _, _⟩ := load_ideal hA ideal hl
    refine ⟨⟨?_, ?_⟩, fun _ => ⟨rfl, fun hj => by simp [hj]⟩⟩
    · intro j' hj'
      cases hj'
      exact ⟨hidx, hp⟩
    · simp only [Bool.or_eq_true, beq_iff_eq]
      rintro (hv | hj)
      · exact hinv.verified hv
      · rw [hj] at hl
        exact ptLen_of_last_loaded hA keyOf h56 lay ideal hl
  | none =>
    simp only
    split
    · exact ⟨hinv, fun h => by cases h⟩
    · rw [if_pos trivial]
      exact ⟨⟨fun _ h => (by cases h), hinv.verified⟩, fun h => (by cases h)⟩

theorem rRead_sound (fixEof : Bool) {ct : Bytes} (n : Nat) {s : RState} (hinv : RInv css ct segs s) :
    RInv css ct segs (rRead A keyOf fixEof true css ct n s).2 ∧
      (∀ b, (rRead A keyOf fixEof true css ct n s).1 = .bytes b → IsPrefix b (segs.flatten.drop s.pos)) ∧
      (fixEof = true → (rRead A keyOf fixEof true css ct n s).1 = .eof → segs.flatten.length ≤ s.pos) := by
  unfold rRead
  by_cases hend : s.pos ≥ ptLenR css ct.length
  · rw [if_pos hend]
    by_cases hf : (fixEof && !s.lastVerified) = true
    · rw [if_pos hf]
      obtain ⟨hinv', hok⟩ := rLoad_inv hA keyOf h56 lay ideal (numSegR css ct.length - 1) hinv
      refine ⟨hinv', fun b hb => ?_, fun _ he => ?_⟩
      · simp only at hb
        split at hb <;> cases hb
      · -- the load of the last segment succeeded
        simp only at he
        split at he
        · rename_i h1
          rw [← hinv'.verified ((hok h1).2 rfl)]; exact hend
        · cases he
    · rw [if_neg hf]
      refine ⟨hinv, fun b hb => (by cases hb), fun hfe _ => ?_⟩
      rw [hfe, Bool.true_and, Bool.not_eq_true', Bool.not_eq_false] at hf
      rw [← hinv.verified hf]; exact hend
  · rw [if_neg hend]
    simp only
    -- the segment that holds the position: still buffered, or loaded by this read
    generalize hr : (if s.segIdx = some (segFor css s.pos) then (true, s)
      else rLoad A keyOf true css ct (segFor css s.pos) s) = r
    have hr : RInv css ct segs r.2 ∧ (r.1 = true → r.2.segIdx = some (segFor css s.pos)) := by
      rw [← hr]
      by_cases hbuf : s.segIdx = some (segFor css s.pos)
      · rw [if_pos hbuf]; exact ⟨hinv, fun _ => hbuf⟩
      · rw [if_neg hbuf]
        obtain ⟨hinv', hok⟩ := rLoad_inv hA keyOf h56 lay ideal (segFor css s.pos) hinv
        exact ⟨hinv', fun h => (hok h).1⟩
    obtain ⟨ok, s'⟩ := r
    cases ok with
    | false => exact ⟨hr.1, fun b hb => (by cases hb), fun _ he => (by cases he)⟩
    | true =>
      obtain ⟨hidx, hb⟩ := hr.1.buffered _ (hr.2 rfl)
      refine ⟨⟨fun j' hj' => hr.1.buffered j' hj', hr.1.verified⟩, fun b hbb => ?_, fun _ he => (by cases he)⟩
      cases hbb
      simp only
      rw [hb]
      exact (IsPrefix.take ⟨_, lay.drop_flatten h56 s.pos hidx⟩ n)

/-- **a history never lies, and ends cleanly only at the true end.** Every `Read` of every `Seek`/`Read` history on
one reader — reads after failed reads included — hands out bytes of the plaintext at the position it was
issued at; the reader that authenticates the last segment before EOF answers a clean EOF only at or
behind the end of the plaintext. -/
theorem rRun_sound (fixEof : Bool) (ct : Bytes) :
    ∀ (ops : List ROp) (s : RState), RInv css ct segs s →
      ∀ p r, (p, r) ∈ rRun A keyOf fixEof true css ct ops s →
        (∀ b, r = .bytes b → IsPrefix b (segs.flatten.drop p)) ∧ (fixEof = true → r = .eof → segs.flatten.length ≤ p) := by
  intro ops
  induction ops with
  | nil => intro s _ p r h; cases h
  | cons op ops ih =>
    intro s hinv p r h
    cases op with
    | seek a => exact ih { s with pos := a } ⟨hinv.buffered, hinv.verified⟩ p r h
    | read n =>
      simp only [rRun, List.mem_cons] at h
      obtain ⟨hinv', hb, he⟩ := rRead_sound hA keyOf h56 lay ideal fixEof n hinv
      rcases h with h | h
      · cases h
        exact ⟨hb, he⟩
      · exact ih _ hinv' p r h

end

end Pithos.Tink
