/-
`Sim` is preserved by a middleware that stores an encoding of every part and decodes what it reads back
(`transcodeSim`); compression and tink are such middlewares (helpers for C15).
-/
import Pithos.Lemmas.PartStore

namespace Pithos.PartStore
open Pithos.Codec

theorem Allowed.of_bind {Q P' : Bytes → Prop} {g c c' : Bool} {e : Option Bytes} {f : Bytes → Option Bytes}
    (h : Allowed ⟨P', g, c'⟩ (e.bind f)) : Allowed ⟨Q, g, c⟩ e :=
  h.imp id fun h => by cases e with
    | none => cases h
    | some _ => rfl

/-- `W` is `S` except that `put` stores some encoding of the content (`Enc i b x`: `x` is a stored form of
the content `b` of part `i`) and `get` passes the stream it finds through `decode`; `π` is the state of
`S` inside the state of `W`. -/
structure Transcodes (S W : Store) (π : W.σ → S.σ) (Enc : PartId → Bytes → Bytes → Prop)
    (decode : PartId → Stream → GetOut) : Prop where
  init : π W.init = S.init
  put : ∀ tx s i b, ∃ x, Enc i b x ∧ π (W.put tx s i b) = S.put tx (π s) i x
  get_st : ∀ tx s i, π (W.get tx s i).st = (S.get tx (π s) i).st
  get_panicked : ∀ tx s i, (W.get tx s i).panicked = (S.get tx (π s) i).panicked
  get_out : ∀ tx s i, (W.get tx s i).out =
    match (S.get tx (π s) i).out with
    | .ok st => decode i st
    | o => o
  del : ∀ tx s i, π (W.del tx s i) = S.del tx (π s) i
  tick : ∀ s, π (W.tick s) = S.tick (π s)
  ids : ∀ s, W.ids s = S.ids (π s)

section transcode
variable {S W : Store} {π : W.σ → S.σ} {Enc : PartId → Bytes → Bytes → Prop} {decode : PartId → Stream → GetOut}
  (T : Transcodes S W π Enc decode) {Q P' : Bytes → Prop} {g cin cout : Bool} (sim : Sim ⟨Q, g, cin⟩ S)
  (hdecode : ∀ i b x st, Enc i b x → st.bytes = x → (cin = true → st.afterEof = []) →
    ∃ st', decode i st = .ok st' ∧ st'.bytes = b ∧ (cout = true → st'.afterEof = []))

/-- **a transcoding middleware preserves correctness**: if the inner store is correct for the stored forms
(`hPQ`) and `decode` undoes the encoding on streams that are clean whenever the inner store promises so,
the middleware is correct for the plain contents. -/
def transcodeSim (hPQ : ∀ i b x, P' b → Enc i b x → Q x) : Sim ⟨P', g, cout⟩ W :=
  -- the content of a part: what `decode` makes of the stored form, read as a clean stream
  let dec (i : PartId) (x : Bytes) : Option Bytes := (decode i ⟨x, false, []⟩).bytes?
  have hdec : ∀ i b x, Enc i b x → dec i x = some b := fun i b x h => by
    obtain ⟨st', h1, h2, _⟩ := hdecode i b x ⟨x, false, []⟩ h rfl fun _ => rfl
    show (decode i ⟨x, false, []⟩).bytes? = some b
    rw [h1, ← h2]; rfl
  .of (fun s => sim.Inv (π s) ∧ ∀ i x, sim.abs (π s) i = some x → ∃ b, Enc i b x)
    (fun s i => (sim.abs (π s) i).bind (dec i))
    (init := by
      rw [T.init]
      exact ⟨⟨sim.inv_init, fun i x h => by rw [sim.abs_init] at h; cases h⟩, fun i => by rw [sim.abs_init]; rfl⟩)
    (put := fun tx s i b h hb => by
      obtain ⟨x, hx, hp⟩ := T.put tx s i b
      have hq := hPQ i b x hb hx
      rw [hp, sim.put_abs tx (π s) i x h.1 hq]
      exact ⟨⟨sim.put_inv tx (π s) i x h.1 hq, upd_forall h.2 fun y hy => ⟨b, Option.some.inj hy ▸ hx⟩⟩,
        by rw [upd_comp fun j o => o.bind (dec j), Option.bind_some, hdec i b x hx]⟩)
    (get := fun tx s i h a => by
      have g0 := sim.get_ok tx (π s) i h.1 a.of_bind
      have hπ : sim.abs (π (W.get tx s i).st) = sim.abs (π s) := by rw [T.get_st, g0.abs_eq]
      have hI : sim.Inv (π (W.get tx s i).st) ∧ ∀ j x, sim.abs (π (W.get tx s i).st) j = some x → ∃ b, Enc j b x := by
        rw [hπ, T.get_st]; exact ⟨g0.inv, h.2⟩
      have hA : (fun j => (sim.abs (π (W.get tx s i).st) j).bind (dec j)) = fun j => (sim.abs (π s) j).bind (dec j) := by
        rw [hπ]
      have hq := (T.get_panicked tx s i).trans g0.quiet
      have ho := g0.out
      cases hx : sim.abs (π s) i with
      | none =>
        rw [hx] at ho
        have ho : _ = GetOut.notFound := ho
        exact .absent hI hA (by rw [T.get_out, ho]) (by show (sim.abs (π s) i).bind _ = none; rw [hx]; rfl) hq
      | some x =>
        rw [hx] at ho
        obtain ⟨st, hst, hb⟩ := ho
        obtain ⟨b, hxb⟩ := h.2 i x hx
        obtain ⟨st', h1, h2, h3⟩ := hdecode i b x st hxb hb fun hc => g0.clean hc st hst
        exact .found hI hA (by rw [T.get_out, hst]; exact h1)
          (by show (sim.abs (π s) i).bind _ = _; rw [hx, h2]; exact hdec i b x hxb) h3 hq)
    (del := fun tx s i h => by
      rw [T.del, sim.del_abs tx (π s) i h.1]
      exact ⟨⟨sim.del_inv tx (π s) i h.1, upd_forall h.2 fun y hy => by cases hy⟩, upd_comp (fun j o => o.bind (dec j)) _ i none⟩)
    (tick := fun s h => by
      rw [T.tick, sim.tick_abs (π s) h.1]
      exact ⟨⟨sim.tick_inv (π s) h.1, h.2⟩, rfl⟩)
    (ids := fun s h => by
      rw [T.ids]
      refine ⟨sim.ids_nodup (π s) h.1, fun i => ?_⟩
      rw [sim.ids_mem (π s) i h.1]
      cases hx : sim.abs (π s) i with
      | none => simp
      | some x =>
        obtain ⟨b, hxb⟩ := h.2 i x hx
        simp [hdec i b x hxb])

end transcode

/-- Round-trip hypothesis about the (opaque) compressors. -/
def CompressOK (P : Prims) : Prop := ∀ a b, a ≠ Alg.none → P.decompress a (P.compress a b) = some b

theorem compressDecode_encode (P : Prims) (hP : CompressOK P) (alg : Alg) (halg : alg ≠ .none) (sample : Nat)
    (b : Bytes) (st : Stream) (hst : st.bytes = compressEncode P alg sample b) :
    ∃ st', compressDecode P st = .ok st' ∧ st'.bytes = b ∧ (st.afterEof = [] → st'.afterEof = []) := by
  unfold compressEncode at hst
  unfold compressDecode
  by_cases hs : P.shouldCompress sample alg b = true
  · rw [if_pos hs] at hst
    obtain ⟨h1, h2, h3⟩ := stored_begins_with_header P.crc alg (P.compress alg b)
    rw [← hst] at h1 h2 h3
    have hlt : ¬ st.bytes.length < headerSize := by omega
    rw [if_neg hlt, h2, h3]
    cases alg with
    | none => exact absurd rfl halg
    | gzip => simp only [hP .gzip b (by decide)]; exact ⟨_, rfl, rfl, fun _ => rfl⟩
    | zstd => simp only [hP .zstd b (by decide)]; exact ⟨_, rfl, rfl, fun _ => rfl⟩
  · rw [if_neg hs] at hst
    obtain ⟨h1, h2, h3⟩ := stored_begins_with_header P.crc .none b
    rw [← hst] at h1 h2 h3
    have hlt : ¬ st.bytes.length < headerSize := by omega
    rw [if_neg hlt, h2]
    exact ⟨_, rfl, h3, fun h => h⟩

theorem compressWrap_get (P : Prims) (alg : Alg) (n : Nat) (S : Store) (tx : Bool) (s : S.σ) (i : PartId) :
    (compressWrap P alg n S).get tx s i =
      ⟨(S.get tx s i).st,
        match (S.get tx s i).out with
        | .ok st => compressDecode P st
        | o => o,
        (S.get tx s i).panicked⟩ := by
  simp only [compressWrap]; split <;> simp_all

theorem compressWrap_transcodes (P : Prims) (alg : Alg) (n : Nat) (S : Store) :
    Transcodes S (compressWrap P alg n S) (fun s => s) (fun _ b x => x = compressEncode P alg n b)
      (fun _ => compressDecode P) where
  init := rfl
  put _ _ _ _ := ⟨_, rfl, rfl⟩
  get_st tx s i := by rw [compressWrap_get]
  get_panicked tx s i := by rw [compressWrap_get]
  get_out tx s i := by rw [compressWrap_get]
  del _ _ _ := rfl
  tick _ := rfl
  ids _ := rfl

def compressSim (P : Prims) (hP : CompressOK P) (alg : Alg) (halg : alg ≠ .none) (n : Nat) {S : Store}
    {Q P' : Bytes → Prop} {g c : Bool} (sim : Sim ⟨Q, g, c⟩ S)
    (hPQ : ∀ b, P' b → Q (compressEncode P alg n b)) : Sim ⟨P', g, c⟩ (compressWrap P alg n S) :=
  transcodeSim (compressWrap_transcodes P alg n S) sim
    (fun _ b x st hx hst hc => by
      obtain ⟨st', h1, h2, h3⟩ := compressDecode_encode P hP alg halg n b st (hst.trans hx)
      exact ⟨st', h1, h2, fun h => h3 (hc h)⟩)
    (fun _ b x hb hx => hx ▸ hPQ b hb)

/-- Round-trip hypotheses about the (opaque) envelope: what `PutPart` stores for a part opens to the
plaintext under the same part id, and is never the empty stream. C16 proves the same round trip for the
envelope model `Pithos.Model.TinkSeek` (`C16.read_returns_plaintext`, `C16.envelope_roundtrip`). -/
structure TinkOK (P : Prims) : Prop where
  opens : ∀ r i b, P.tinkOpen i (P.tinkSeal r i b) = some b
  nonempty : ∀ r i b, P.tinkSeal r i b ≠ []

theorem tinkDecode_seal (P : Prims) (hT : TinkOK P) (F : Fixes) (r : Nat) (i : PartId) (b : Bytes) (st : Stream)
    (hst : st.bytes = P.tinkSeal r i b) (hok : F.tinkStickyEof = true ∨ st.afterEof = []) :
    ∃ st', tinkDecode P F i st = .ok st' ∧ st'.bytes = b ∧ (F.tinkStickyEof = true → st'.afterEof = []) := by
  unfold tinkDecode
  have hne : (P.tinkSeal r i b).isEmpty = false := by
    cases h : P.tinkSeal r i b with
    | nil => exact absurd h (hT.nonempty r i b)
    | cons _ _ => rfl
  simp only [hst, hne, hT.opens r i b]
  by_cases hs : st.seekable = true
  · simp only [hs, if_true]; exact ⟨_, rfl, rfl, fun _ => rfl⟩
  · simp only [hs]
    by_cases hf : F.tinkStickyEof = true
    · simp only [hf, if_true]; exact ⟨_, rfl, rfl, fun _ => rfl⟩
    · have ha : st.afterEof = [] := hok.resolve_left hf
      have hf' : F.tinkStickyEof = false := by simpa using hf
      simp only [hf', ha]
      exact ⟨_, rfl, rfl, fun h => by cases h⟩

theorem tinkWrap_get (P : Prims) (F : Fixes) (S : Store) (tx : Bool) (s : S.σ × Nat) (i : PartId) :
    (tinkWrap P F S).get tx s i =
      ⟨((S.get tx s.1 i).st, s.2),
        match (S.get tx s.1 i).out with
        | .ok st => tinkDecode P F i st
        | o => o,
        (S.get tx s.1 i).panicked⟩ := by
  simp only [tinkWrap]; split <;> simp_all

theorem tinkWrap_transcodes (P : Prims) (F : Fixes) (S : Store) :
    Transcodes S (tinkWrap P F S) Prod.fst (fun i b x => ∃ r, x = P.tinkSeal r i b) (tinkDecode P F) where
  init := rfl
  put _ s _ _ := ⟨_, ⟨s.2, rfl⟩, rfl⟩
  get_st tx s i := by rw [tinkWrap_get]
  get_panicked tx s i := by rw [tinkWrap_get]
  get_out tx s i := by rw [tinkWrap_get]
  del _ _ _ := rfl
  tick _ := rfl
  ids _ := rfl

/-- **tink preserves correctness** — as the code is, provided the streams of the inner store answer EOF
again after EOF (`cin = true`; not the case for a second sequential tink layer); always with the
repaired reader (`F.tinkStickyEof`). The result is "clean" only with the repair. -/
def tinkSim (P : Prims) (hT : TinkOK P) (F : Fixes) {S : Store}
    {Q P' : Bytes → Prop} {g cin : Bool} (sim : Sim ⟨Q, g, cin⟩ S)
    (hPQ : ∀ r i b, P' b → Q (P.tinkSeal r i b)) (hclean : F.tinkStickyEof = true ∨ cin = true) :
    Sim ⟨P', g, F.tinkStickyEof⟩ (tinkWrap P F S) :=
  transcodeSim (tinkWrap_transcodes P F S) sim
    (fun i b _ st ⟨r, hx⟩ hst hc => tinkDecode_seal P hT F r i b st (hst.trans hx) (hclean.imp_right hc))
    (fun i b _ hb ⟨r, hx⟩ => hx ▸ hPQ r i b hb)

end Pithos.PartStore
