/-
The per-item loops of `Pithos.AuthzModel` as list functions, for every `allow`, every limit and every
input. The collection loop over one page is `filter` then `take`, its `full` flag saying
whether the limit was reached (`collectObjects_spec`), and so is the loop over the pages, over their
concatenation (`filterLoop_objects_aux`); the prefix loop only ever appends allowed prefixes
(`collectPrefixes_allowed`); the first two passes of `deleteObjectsHandler` are filters
(`validEntries_eq_filter`, `authorizeEntries_eq_filter`). Core Lean only.
-/
import Pithos.Model.Authz

namespace Pithos.C31
open Pithos.AuthzModel

variable {α : Type}

theorem collectObjects_spec (allow : α → Bool) (max : Nat) (acc xs : List α)
    (hacc : acc.length < max) :
    (collectObjects allow max acc xs).1 = (acc ++ xs.filter allow).take max ∧
    ((collectObjects allow max acc xs).2 = true ↔ max ≤ (acc ++ xs.filter allow).length) := by
  fun_induction collectObjects allow max acc xs with
  | case1 acc => simp [List.take_of_length_le (Nat.le_of_lt hacc), Nat.not_le_of_lt hacc]
  | case2 acc x xs hx acc' hfull =>
    -- the limit is reached with `x`: `acc ++ [x]` is exactly `max` long
    have hlen : (acc ++ [x]).length = max := by simp [acc'] at hfull ⊢; omega
    rw [List.filter_cons_of_pos hx, List.append_cons, List.take_append_of_le_length (Nat.le_of_eq hlen.symm),
      List.take_of_length_le (Nat.le_of_eq hlen)]
    exact ⟨rfl, iff_of_true rfl (by rw [List.length_append]; omega)⟩
  | case3 acc x xs hx acc' hfull ih =>
    rw [List.filter_cons_of_pos hx, List.append_cons]
    exact ih (by omega)
  | case4 acc x xs hx ih =>
    rw [List.filter_cons_of_neg hx]
    exact ih hacc

theorem filterLoop_objects_aux [BEq α] (allow : α → Bool) (max : Nat)
    (pages : List (Page α)) (objs prefs : List α) (h : objs.length < max) :
    (filterLoop allow max pages (objs, prefs)).1 =
      (objs ++ (pages.flatMap (·.objects)).filter allow).take max := by
  induction pages generalizing objs prefs with
  | nil => simp [filterLoop, List.take_of_length_le (Nat.le_of_lt h)]
  | cons p ps ih =>
    have hs := collectObjects_spec allow max objs p.objects h
    simp only [filterLoop]
    rcases hc : collectObjects allow max objs p.objects with ⟨objs', full⟩
    rw [hc] at hs
    simp only at hs
    cases full with
    | true =>
      simp only
      have hlen : max ≤ (objs ++ p.objects.filter allow).length := hs.2.1 rfl
      rw [hs.1, List.flatMap_cons, List.filter_append, ← List.append_assoc,
        List.take_append_of_le_length hlen]
    | false =>
      simp only
      have hlen : (objs ++ p.objects.filter allow).length < max :=
        Nat.lt_of_not_le fun hh => Bool.false_ne_true (hs.2.2 hh)
      have hobjs' : objs' = objs ++ p.objects.filter allow := by
        rw [hs.1, List.take_of_length_le (Nat.le_of_lt hlen)]
      rw [ih objs' _ (by rw [hobjs']; exact hlen), hobjs', List.flatMap_cons, List.filter_append,
        List.append_assoc]

theorem collectPrefixes_allowed [BEq α] (allow : α → Bool) (acc ps : List α)
    (hacc : ∀ p ∈ acc, allow p = true) : ∀ p ∈ collectPrefixes allow acc ps, allow p = true := by
  fun_induction collectPrefixes allow acc ps with
  | case1 acc => exact hacc
  | case2 acc q qs hq ih =>
    rw [Bool.and_eq_true] at hq
    exact ih (List.forall_mem_append.2 ⟨hacc, List.forall_mem_singleton.2 hq.1⟩)
  | case3 acc q qs hq ih => exact ih hacc

theorem validEntries_eq_filter (valid : α → Bool) (es : List α) :
    validEntries valid es = es.filter valid := by
  induction es with
  | nil => rfl
  | cons e es ih => by_cases h : valid e = true <;> simp [validEntries, h, ih]

theorem authorizeEntries_eq_filter (allow : α → Bool) (es : List α) :
    authorizeEntries allow es = (es.filter (fun e => !allow e), es.filter allow) := by
  induction es with
  | nil => rfl
  | cons e es ih => by_cases h : allow e = true <;> simp [authorizeEntries, h, ih]

end Pithos.C31
