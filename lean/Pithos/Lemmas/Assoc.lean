/-
Association lists `List (Nat × α)` with
  erase st k    = st.filter (·.1 != k)
  insert st k x = (k, x) :: erase st k
  lookup st k   = (st.find? (·.1 == k)).map (·.2)
Six maps of the models are defined with these right-hand sides: the persistor, the inner part store and
the cached parts of `Model.Cache`, `PartStore.KV`, `Outbox.Store` (whose recursive `get` is this
`lookup` by `Store.get_eq_find`), and the store of `Parts.Grace`. The lemmas are stated for the
right-hand sides and apply to each map by unfolding. Core Lean only.
-/
import Pithos.Lemmas.ListFacts

namespace Pithos

variable {α : Type _}

theorem mem_erase {st : List (Nat × α)} {k : Nat} {p : Nat × α}
    (h : p ∈ st.filter (fun q => q.1 != k)) : p ∈ st :=
  (List.mem_filter.1 h).1

theorem mem_insert {st : List (Nat × α)} {k : Nat} {x : α} {p : Nat × α}
    (h : p ∈ (k, x) :: st.filter (fun q => q.1 != k)) : p = (k, x) ∨ p ∈ st :=
  (List.mem_cons.1 h).imp id mem_erase

theorem mem_of_lookup {st : List (Nat × α)} {k : Nat} {x : α}
    (h : (st.find? (fun q => q.1 == k)).map (·.2) = some x) : (k, x) ∈ st := by
  obtain ⟨q, hq, rfl⟩ := Option.map_eq_some_iff.1 h
  have := List.find?_some hq
  rw [← (beq_iff_eq.1 this : q.1 = k)]
  exact List.mem_of_find?_eq_some hq

theorem lookup_erase (st : List (Nat × α)) (k k' : Nat) :
    ((st.filter (fun q => q.1 != k)).find? (fun q => q.1 == k')).map (·.2) =
      if k' = k then none else (st.find? (fun q => q.1 == k')).map (·.2) := by
  split
  · next h => rw [List.find?_eq_none.2 fun q hq => by simpa [h] using (List.mem_filter.1 hq).2]; rfl
  · next h => rw [find?_filter_of_imp fun q _ hq => by simpa [beq_iff_eq.1 hq] using h]

theorem lookup_insert (st : List (Nat × α)) (k : Nat) (x : α) (k' : Nat) :
    (((k, x) :: st.filter (fun q => q.1 != k)).find? (fun q => q.1 == k')).map (·.2) =
      if k' = k then some x else (st.find? (fun q => q.1 == k')).map (·.2) := by
  rw [List.find?_cons]
  split
  · next h => rw [if_pos (beq_iff_eq.1 h).symm]; rfl
  · next h =>
    have hne : k' ≠ k := fun e => by simp [e] at h
    rw [lookup_erase, if_neg hne, if_neg hne]

theorem mem_keys_erase (st : List (Nat × α)) (k k' : Nat) :
    k' ∈ (st.filter (fun q => q.1 != k)).map (·.1) ↔ k' ∈ st.map (·.1) ∧ k' ≠ k := by
  simp only [List.mem_map, List.mem_filter]
  constructor
  · rintro ⟨p, ⟨hp, hne⟩, rfl⟩
    exact ⟨⟨p, hp, rfl⟩, by simpa using hne⟩
  · rintro ⟨⟨p, hp, rfl⟩, hne⟩
    exact ⟨p, ⟨hp, by simpa using hne⟩, rfl⟩

theorem nodup_keys_erase (st : List (Nat × α)) (k : Nat) (h : (st.map (·.1)).Nodup) :
    ((st.filter (fun q => q.1 != k)).map (·.1)).Nodup :=
  (List.filter_sublist.map _).nodup h

theorem nodup_keys_insert (st : List (Nat × α)) (k : Nat) (x : α) (h : (st.map (·.1)).Nodup) :
    (((k, x) :: st.filter (fun q => q.1 != k)).map (·.1)).Nodup :=
  List.nodup_cons.2 ⟨fun hm => ((mem_keys_erase st k k).1 hm).2 rfl, nodup_keys_erase st k h⟩

theorem mem_keys_iff_lookup (st : List (Nat × α)) (k : Nat) :
    k ∈ st.map (·.1) ↔ ((st.find? (fun q => q.1 == k)).map (·.2)).isSome = true := by
  rw [Option.isSome_map, List.find?_isSome, List.mem_map]
  exact ⟨fun ⟨p, hp, e⟩ => ⟨p, hp, beq_iff_eq.2 e⟩, fun ⟨p, hp, e⟩ => ⟨p, hp, beq_iff_eq.1 e⟩⟩

end Pithos
