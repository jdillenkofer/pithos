/-
Facts about `Pithos.Cors` and its specification for all inputs (C34). The matcher: `splitStar` finds
the first star, so `wildcardMatch` reads it as a wildcard and the rest as a literal suffix; that never
exceeds the spec's `glob` (and equals it on patterns with one star at most: C34's
`wildcardMatch_exact_one_star`, from the lemmas here). Under `Pithos.C34`, the
middleware: a rule `findMatchingRule` returns matches in the spec's sense, so without an allowed rule
`respond` refuses a preflight and hands every other request on bare (`respond_of_not_allowed`); the
wrapped handler runs for all but a preflight (`respond_next`). Core Lean only.
-/
import Pithos.Model.Cors
import Pithos.Spec.Cors

namespace Pithos.Cors
open Pithos.Cors.Spec

theorem splitStar_append {pre : List Char} (t : List Char) (h : '*' ∉ pre) :
    splitStar (pre ++ t) = (splitStar t).map fun x => (pre ++ x.1, x.2) := by
  induction pre with
  | nil => simp
  | cons c pre ih =>
    obtain ⟨hc, hp⟩ : '*' ≠ c ∧ '*' ∉ pre := by simpa using h
    have hb : (c == '*') = false := by simpa using Ne.symm hc
    simp only [List.cons_append, splitStar, hb, ih hp]
    cases splitStar t <;> rfl

theorem splitStar_none {p : List Char} : splitStar p = none ↔ '*' ∉ p := by
  refine ⟨fun h hm => ?_, fun h => by simpa [splitStar] using splitStar_append [] h⟩
  obtain ⟨pre, suf, rfl, hn⟩ := List.eq_append_cons_of_mem hm
  simp [splitStar_append _ hn, splitStar] at h

theorem splitStar_some {p pre suf : List Char} :
    splitStar p = some (pre, suf) ↔ p = pre ++ '*' :: suf ∧ '*' ∉ pre := by
  refine ⟨fun h => ?_, fun ⟨hp, hn⟩ => by simp [hp, splitStar_append _ hn, splitStar]⟩
  by_cases hm : '*' ∈ p
  · obtain ⟨pre0, suf0, rfl, hn⟩ := List.eq_append_cons_of_mem hm
    obtain ⟨rfl, rfl⟩ : pre0 = pre ∧ suf0 = suf := by simpa [splitStar_append _ hn, splitStar] using h
    exact ⟨rfl, hn⟩
  · rw [splitStar_none.2 hm] at h; cases h

theorem wildcardMatch_lit {p : List Char} (v : List Char) (h : '*' ∉ p) : wildcardMatch p v = true ↔ v = p := by
  simp only [wildcardMatch, splitStar_none.2 h, beq_iff_eq]
  exact eq_comm

theorem wildcardMatch_star {pre : List Char} (suf v : List Char) (h : '*' ∉ pre) :
    wildcardMatch (pre ++ '*' :: suf) v = true ↔ ∃ m, v = pre ++ m ++ suf := by
  simp only [wildcardMatch, splitStar_some.2 ⟨rfl, h⟩]
  constructor
  · intro h
    split at h
    · exact absurd h (by simp)
    · rename_i hlen
      simp only [Bool.and_eq_true, List.isPrefixOf_iff_prefix, List.isSuffixOf_iff_suffix] at h
      obtain ⟨⟨t, ht⟩, hsuf⟩ := h
      -- `v = pre ++ t` is long enough for `suf` to be a suffix of `t`
      have hlen' : suf.length ≤ t.length := by
        have : v.length = pre.length + t.length := by rw [← ht]; simp
        omega
      obtain ⟨m, hm⟩ := List.suffix_of_suffix_length_le (ht ▸ hsuf) (List.suffix_append pre t) hlen'
      exact ⟨m, by rw [← ht, ← hm, List.append_assoc]⟩
  · rintro ⟨m, rfl⟩
    have hlen : ¬ (pre ++ m ++ suf).length < pre.length + suf.length := by simp only [List.length_append]; omega
    simp only [hlen, if_false, Bool.and_eq_true, List.isPrefixOf_iff_prefix, List.isSuffixOf_iff_suffix]
    exact ⟨⟨m ++ suf, (List.append_assoc ..).symm⟩, ⟨pre ++ m, rfl⟩⟩

theorem wildcardMatch_iff (p v : List Char) :
    wildcardMatch p v = true ↔
      ('*' ∉ p ∧ v = p) ∨
      (∃ pre suf m, p = pre ++ '*' :: suf ∧ '*' ∉ pre ∧ v = pre ++ m ++ suf) := by
  constructor
  · intro h
    by_cases hm : '*' ∈ p
    · obtain ⟨pre, suf, rfl, hn⟩ := List.eq_append_cons_of_mem hm
      obtain ⟨m, hv⟩ := (wildcardMatch_star suf v hn).1 h
      exact .inr ⟨pre, suf, m, rfl, hn, hv⟩
    · exact .inl ⟨hm, (wildcardMatch_lit v hm).1 h⟩
  · rintro (⟨hn, rfl⟩ | ⟨pre, suf, m, rfl, hn, rfl⟩)
    · exact (wildcardMatch_lit _ hn).2 rfl
    · exact (wildcardMatch_star suf _ hn).2 ⟨m, rfl⟩

theorem glob_nil (v : List Char) : glob [] v = true ↔ v = [] := by
  simp [glob]

theorem glob_star_iff (q w : List Char) :
    glob ('*' :: q) w = true ↔ ∃ k, k ≤ w.length ∧ glob q (w.drop k) = true := by
  simp only [glob, beq_self_eq_true, if_true, List.any_eq_true, List.mem_range]
  constructor
  · rintro ⟨k, hk, h⟩; exact ⟨k, by omega, h⟩
  · rintro ⟨k, hk, h⟩; exact ⟨k, by omega, h⟩

theorem glob_char (c : Char) (hc : c ≠ '*') (q : List Char) (d : Char) (w : List Char) :
    glob (c :: q) (d :: w) = (c == d && glob q w) := by
  have hb : (c == '*') = false := by simpa using hc
  simp [glob, hb]

theorem glob_char_nil (c : Char) (hc : c ≠ '*') (q : List Char) : glob (c :: q) [] = false := by
  have hb : (c == '*') = false := by simpa using hc
  simp [glob, hb]

theorem glob_star_intro (q w m : List Char) (h : glob q w = true) :
    glob ('*' :: q) (m ++ w) = true :=
  (glob_star_iff q (m ++ w)).2 ⟨m.length, by simp, by simpa using h⟩

theorem glob_star_all (v : List Char) : glob star v = true := by
  simpa [star] using glob_star_intro [] [] v rfl

theorem glob_refl (q : List Char) : glob q q = true := by
  induction q with
  | nil => rfl
  | cons c q ih =>
    by_cases hc : c = '*'
    · exact hc ▸ glob_star_intro q q ['*'] ih
    · simp [glob_char c hc, ih]

theorem glob_lit_prefix {pre : List Char} (q v : List Char) (hn : '*' ∉ pre) :
    glob (pre ++ q) v = true ↔ ∃ w, v = pre ++ w ∧ glob q w = true := by
  induction pre generalizing v with
  | nil => exact ⟨fun h => ⟨v, rfl, h⟩, fun ⟨w, e, h⟩ => e ▸ h⟩
  | cons c pre ih =>
    simp only [List.mem_cons, not_or] at hn
    have hc : c ≠ '*' := fun e => hn.1 e.symm
    cases v with
    | nil => simp [glob_char_nil c hc]
    | cons d v =>
      simp only [List.cons_append, glob_char c hc, Bool.and_eq_true, beq_iff_eq, ih v hn.2,
        List.cons.injEq]
      exact ⟨fun ⟨e, w, hw, hg⟩ => ⟨w, ⟨e.symm, hw⟩, hg⟩, fun ⟨w, ⟨e, hw⟩, hg⟩ => ⟨e.symm, w, hw, hg⟩⟩

theorem glob_of_wildcardMatch (p v : List Char) (h : wildcardMatch p v = true) :
    glob p v = true := by
  rcases (wildcardMatch_iff p v).1 h with ⟨_, rfl⟩ | ⟨pre, suf, m, rfl, hn, rfl⟩
  · exact glob_refl _
  · rw [List.append_assoc]
    exact (glob_lit_prefix _ _ hn).2 ⟨_, rfl, glob_star_intro suf suf m (glob_refl suf)⟩

theorem glob_lit (q w : List Char) (h : '*' ∉ q) : glob q w = true ↔ w = q := by
  simpa [glob_nil] using glob_lit_prefix [] w h

theorem star_once {p pre suf : List Char} (hp : p = pre ++ '*' :: suf) (h1 : p.count '*' ≤ 1) :
    '*' ∉ pre ∧ '*' ∉ suf := by
  rw [hp, List.count_append, List.count_cons_self] at h1
  constructor <;> intro hm <;> have := List.count_pos_iff.2 hm <;> omega

end Pithos.Cors

namespace Pithos.C34
open Pithos.Ascii Pithos.Cors Pithos.Cors.Spec

theorem originAllowed_of_matchOrigin (r : Rule) (o pat : List Char)
    (h : matchOrigin r.origins o = some pat) : originAllowed r o = true := by
  simp only [matchOrigin] at h
  have hm := List.mem_of_find?_eq_some h
  have hp := List.find?_some h
  simp only [originAllowed, List.any_eq_true]
  exact ⟨pat, hm, glob_of_wildcardMatch _ _ hp⟩

theorem headersAllowed_of_match (r : Rule) (hs : List (List Char))
    (h : matchRequestedHeaders r.headers hs = true) : headersAllowed r hs = true := by
  simp only [matchRequestedHeaders] at h
  simp only [headersAllowed, List.all_eq_true, List.any_eq_true]
  intro x hx
  split at h
  · rename_i he; simp only [List.isEmpty_iff] at he; subst he; simp at hx
  · split at h
    · rename_i hc
      exact ⟨star, by simpa using hc, glob_star_all _⟩
    · simp only [List.all_eq_true, List.any_eq_true] at h
      obtain ⟨a, ha, hw⟩ := h x hx
      exact ⟨a, ha, glob_of_wildcardMatch _ _ hw⟩

theorem findMatchingRule_sound (rules : List Rule) (o m : List Char) (hs : List (List Char))
    (pre : Bool) (r : Rule) (pat : List Char)
    (h : findMatchingRule rules o m hs pre = some (r, pat)) :
    r ∈ rules ∧ ruleMatches r o m hs pre = true := by
  fun_induction findMatchingRule rules o m hs pre with
  | case1 => cases h
  | case2 r0 rest ho ih => exact (ih h).imp (List.mem_cons_of_mem _) id
  | case3 r0 rest pat0 ho hmeth ih => exact (ih h).imp (List.mem_cons_of_mem _) id
  | case4 r0 rest pat0 ho hmeth hhdr ih => exact (ih h).imp (List.mem_cons_of_mem _) id
  | case5 r0 rest pat0 ho hmeth hhdr =>
    obtain ⟨rfl, rfl⟩ : r0 = r ∧ pat0 = pat := by simpa using h
    refine ⟨List.mem_cons_self, ?_⟩
    have h2 : methodAllowed r0 m = true := by simpa [methodAllowed, matchMethod] using hmeth
    have h3 : (!pre || headersAllowed r0 hs) = true := by
      cases pre with
      | false => rfl
      | true => exact headersAllowed_of_match r0 hs (by simpa using hhdr)
    simp [ruleMatches, originAllowed_of_matchOrigin r0 o pat0 ho, h2, h3]

theorem findMatchingRule_none_of_not_allowed (rules : List Rule) (req : Request)
    (hc : isCors req = true) (h : allowed rules req = false) :
    findMatchingRule rules (trimSpace req.origin) (requestedMethod req) (parseHeaderList req.acrh)
      (isPreflight req) = none := by
  cases hf : findMatchingRule rules (trimSpace req.origin) (requestedMethod req)
      (parseHeaderList req.acrh) (isPreflight req) with
  | none => rfl
  | some x =>
    obtain ⟨r, pat⟩ := x
    obtain ⟨hm, hr⟩ := findMatchingRule_sound _ _ _ _ _ _ _ hf
    have : allowed rules req = true := by
      simp only [allowed, hc, Bool.true_and, List.any_eq_true]
      exact ⟨r, hm, hr⟩
    rw [this] at h; exact absurd h (by simp)

/-- Without a matching rule the middleware grants nothing: it refuses a preflight itself and hands
every other request on bare (only `Vary` depends on whether the configuration is empty). -/
theorem respond_of_not_allowed (rules : List Rule) (req : Request) (h : allowed rules req = false) :
    ∃ vary, respond rules req =
      if isCors req && isPreflight req then { status := some 403, vary := vary }
      else { next := true, vary := vary } := by
  by_cases hc : isCors req = true
  · have hf := findMatchingRule_none_of_not_allowed rules req hc h
    have ho : (trimSpace req.origin).isEmpty = false := by simpa [isCors] using hc
    simp only [respond, ho, hf, hc, Bool.true_and]
    by_cases hr : rules.isEmpty = true <;> cases isPreflight req <;> simp [hr]
  · have ho : (trimSpace req.origin).isEmpty = true := by simpa [isCors] using hc
    exact ⟨[], by simp [respond, ho, hc]⟩

theorem respond_next (rules : List Rule) (req : Request) :
    (respond rules req).next = !(isCors req && isPreflight req) := by
  -- at each of the seven leaves of `respond` the tests passed on the way decide both sides
  fun_cases respond rules req <;> simp +zetaDelta [isCors, *]

end Pithos.C34
