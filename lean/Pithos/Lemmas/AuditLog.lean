/-
Helper lemmas for C26/C27 (audit log): injectivity of the length-prefixed encoding, the abstract
hash-chain theory, what an accepting validator run establishes, and that the binary and the JSON
reader invert their writers. Core Lean only.
-/
import Pithos.Model.AuditLog
import Pithos.Lemmas.Except
namespace Pithos.AuditLog

theorem be32_length (n : Nat) : (be32 n).length = 4 := rfl

theorem beNat_be32 {n : Nat} (h : n < 4294967296) : beNat (be32 n) = n := by
  simp only [beNat, be32, List.foldl_cons, List.foldl_nil, UInt8.toNat_ofNat']
  omega

theorem wf_cons {f : String} {w : Nat} {s : Spec} {r : Rec} :
    wf ((f, w) :: s) r = true ↔ wfField w (get r f) = true ∧ wf s r = true := by
  simp [wf]

theorem wf_append {s1 s2 : Spec} {r : Rec} : wf (s1 ++ s2) r = true ↔ wf s1 r = true ∧ wf s2 r = true := by
  simp [wf, List.all_append]

theorem get_cons (f : String) (v : Bytes) (r : Rec) (g : String) :
    get ((f, v) :: r) g = if g = f then v else get r g := by
  unfold get
  rw [List.lookup_cons]
  by_cases h : g = f
  · rw [if_pos h, beq_iff_eq.2 h]; rfl
  · rw [if_neg h, beq_eq_false_iff_ne.2 h]

theorem take?_append (a b : Bytes) : take? a.length (a ++ b) = some (a, b) := by
  simp [take?]

theorem decField_encField {w : Nat} {b : Bytes} (h : wfField w b = true) (rest : Bytes) :
    decField w (encField w b ++ rest) = some (b, rest) := by
  unfold wfField at h
  unfold decField encField
  by_cases hw : w = 0
  · simp only [hw, if_true, decide_eq_true_eq] at h ⊢
    rw [List.append_assoc]
    have := take?_append (be32 b.length) (b ++ rest)
    rw [be32_length] at this
    rw [this]
    simp only [beNat_be32 h]
    exact take?_append b rest
  · simp only [hw, if_false, beq_iff_eq] at h ⊢
    rw [← h]; exact take?_append b rest

theorem decFields_encFields (s : Spec) (r : Rec) (h : wf s r = true) (rest : Bytes) :
    decFields s (encFields s r ++ rest) = some (proj s r, rest) := by
  induction s with
  | nil => simp [decFields, encFields, proj]
  | cons p s ih =>
    obtain ⟨f, w⟩ := p
    rw [wf_cons] at h
    simp only [encFields, decFields, List.append_assoc]
    rw [decField_encField h.1]
    simp only [ih h.2]
    simp [proj]

theorem get_proj (s : Spec) (r : Rec) (f : String) (h : f ∈ s.map (·.1)) : get (proj s r) f = get r f := by
  induction s with
  | nil => cases h
  | cons p s ih =>
    rw [List.map_cons, List.mem_cons] at h
    show get ((p.1, get r p.1) :: proj s r) f = get r f
    rw [get_cons]
    split
    · rw [‹f = p.1›]
    · exact ih (h.resolve_left ‹_›)

/-- The decoder is a left inverse of the encoder, so the encoding is injective: decode both sides. -/
theorem encFields_inj (s : Spec) (r1 r2 : Rec) (t1 t2 : Bytes)
    (h1 : wf s r1 = true) (h2 : wf s r2 = true)
    (h : encFields s r1 ++ t1 = encFields s r2 ++ t2) :
    (∀ f ∈ s.map (·.1), get r1 f = get r2 f) ∧ t1 = t2 := by
  have hd := decFields_encFields s r1 h1 t1
  rw [h, decFields_encFields s r2 h2 t2, Option.some.injEq, Prod.mk.injEq] at hd
  exact ⟨fun f hf => by rw [← get_proj s r1 f hf, ← hd.1, get_proj s r2 f hf], hd.2.symm⟩

/-- Side conditions on a table of `CalculateHash`: Version and Type are written before the details
(they select the detail fields) and at most one field is written raw without a length, last. -/
structure TablesOK (T : Tables) : Prop where
  version_pre : "Version" ∈ T.pre.map (·.1)
  type_pre : "Type" ∈ T.pre.map (·.1)
  tail_le : T.tail.length ≤ 1

def wfH (T : Tables) (r : Rec) : Bool := wf (specOf T r) r

theorem mem_hashedNames {T : Tables} {r : Rec} {f : String} :
    f ∈ hashedNames T r ↔
      f ∈ T.pre.map (·.1) ∨ f ∈ (T.details (version r) (kind T r)).map (·.1) ∨ f ∈ T.tail := by
  unfold hashedNames specOf
  rw [List.map_append, List.mem_append, List.mem_append, or_assoc]

theorem hashInput_inj (T : Tables) (ok : TablesOK T) (r1 r2 : Rec)
    (w1 : wfH T r1 = true) (w2 : wfH T r2 = true) (h : hashInput T r1 = hashInput T r2) :
    hashedNames T r1 = hashedNames T r2 ∧ ∀ f ∈ hashedNames T r1, get r1 f = get r2 f := by
  unfold wfH specOf at w1 w2
  rw [wf_append] at w1 w2
  unfold hashInput at h
  obtain ⟨hpre, hrest⟩ := encFields_inj T.pre r1 r2 _ _ w1.1 w2.1 h
  have hver : version r1 = version r2 := by unfold version; rw [hpre _ ok.version_pre]
  have hkind : kind T r1 = kind T r2 := by unfold kind; rw [hpre _ ok.type_pre]
  rw [← hver, ← hkind] at hrest w2
  obtain ⟨hdet, htail⟩ := encFields_inj _ r1 r2 _ _ w1.2 w2.2 hrest
  refine ⟨by unfold hashedNames specOf; rw [hver, hkind], fun f hf => ?_⟩
  rcases mem_hashedNames.1 hf with hf | hf | hf
  · exact hpre f hf
  · exact hdet f hf
  · have hl := ok.tail_le
    match hT : T.tail, hl, hf with
    | [g], _, hf =>
      have : f = g := by simpa using hf
      subst this
      simpa [tailBytes, hT] using htail

theorem get_set (r : Rec) (f g : String) (v : Bytes) :
    get (set r f v) g = if g = f then v else get r g :=
  get_cons f v r g

theorem get_set_ne (r : Rec) {f g : String} (v : Bytes) (h : g ≠ f) : get (set r f v) g = get r g := by
  rw [get_set]; simp [h]

theorem get_set_eq (r : Rec) (f : String) (v : Bytes) : get (set r f v) f = v := by
  rw [get_set]; simp

theorem encFields_congr (s : Spec) (r1 r2 : Rec) (h : ∀ f ∈ s.map (·.1), get r1 f = get r2 f) :
    encFields s r1 = encFields s r2 := by
  induction s with
  | nil => rfl
  | cons p s ih =>
    obtain ⟨f, w⟩ := p
    rw [List.map_cons, List.forall_mem_cons] at h
    simp only [encFields]
    rw [h.1, ih h.2]

theorem hashInput_congr (T : Tables) (r r' : Rec)
    (hv : get r' "Version" = get r "Version") (ht : get r' "Type" = get r "Type")
    (h : ∀ f ∈ hashedNames T r, get r' f = get r f) : hashInput T r' = hashInput T r := by
  have hver : version r' = version r := by unfold version; rw [hv]
  have hkind : kind T r' = kind T r := by unfold kind; rw [ht]
  unfold hashInput tailBytes
  rw [hver, hkind,
    encFields_congr T.pre r' r fun f hf => h f (mem_hashedNames.2 (.inl hf)),
    encFields_congr (T.details (version r) (kind T r)) r' r fun f hf =>
      h f (mem_hashedNames.2 (.inr (.inl hf))),
    List.flatMap_def, List.flatMap_def,
    List.map_congr_left fun g hg => h g (mem_hashedNames.2 (.inr (.inr hg)))]

/-- Under `TablesOK` Version and Type are themselves hashed: agreement on a list of names that
contains the hashed ones is enough. -/
theorem hashInput_eq_of_agree {T : Tables} (ok : TablesOK T) {r r' : Rec} {names : List String}
    (hsub : ∀ f ∈ hashedNames T r, f ∈ names) (hag : ∀ f ∈ names, get r' f = get r f) :
    hashInput T r' = hashInput T r :=
  hashInput_congr T r r' (hag _ (hsub _ (mem_hashedNames.2 (.inl ok.version_pre))))
    (hag _ (hsub _ (mem_hashedNames.2 (.inl ok.type_pre)))) fun f hf => hag f (hsub f hf)

/-- The converse of injectivity: this is exactly where tamper evidence fails for a field the code
forgot to hash. -/
theorem hashInput_set_unhashed (T : Tables) (r : Rec) (f : String) (v : Bytes)
    (hv : f ≠ "Version") (ht : f ≠ "Type") (hf : f ∉ hashedNames T r) :
    hashInput T (set r f v) = hashInput T r :=
  hashInput_congr T r (set r f v) (get_set_ne r v (Ne.symm hv)) (get_set_ne r v (Ne.symm ht))
    fun _ hg => get_set_ne r v fun h => hf (h ▸ hg)

section Chain
variable {α β : Type} (hash prev : α → β) (seed : β)

/-- Chain condition by position: the first entry points to the seed, every later entry to the hash
of its predecessor. -/
def ChainIdx (L : List α) : Prop :=
  (∀ e, L[0]? = some e → prev e = seed) ∧
  (∀ (i : Nat) (a b : α), L[i]? = some a → L[i+1]? = some b → prev b = hash a)

theorem ChainIdx.pred {h p : α → β} {s : β} {L : List α} (hc : ChainIdx h p s L) {j : Nat} {b : α}
    (hb : L[j+1]? = some b) : ∃ c, L[j]? = some c ∧ p b = h c := by
  obtain ⟨hlt, _⟩ := List.getElem?_eq_some_iff.1 hb
  have hj : L[j]? = some (L[j]'(Nat.lt_of_succ_lt hlt)) := List.getElem?_eq_getElem _
  exact ⟨_, hj, hc.2 j _ b hj hb⟩

theorem ChainIdx.nil {h p : α → β} {s : β} : ChainIdx h p s [] :=
  ⟨nofun, nofun⟩

theorem ChainIdx.cons {h p : α → β} {s : β} {e : α} {es : List α} (h1 : p e = s)
    (h2 : ChainIdx h p (h e) es) : ChainIdx h p s (e :: es) := by
  refine ⟨fun x hx => ?_, fun i a b ha hb => ?_⟩
  · rw [List.getElem?_cons_zero] at hx
    cases hx; exact h1
  · rw [List.getElem?_cons_succ] at hb
    cases i with
    | zero =>
      rw [List.getElem?_cons_zero] at ha
      cases ha; exact h2.1 b hb
    | succ i =>
      rw [List.getElem?_cons_succ] at ha
      exact h2.2 i a b ha hb

/-- Two chains from the same seed over a class `P` of entries whose hash determines the predecessor
pointer and never equals the seed carry equal hashes only at equal positions: walk both back to the
seed in step. -/
theorem chain_pos_unique (P : α → Prop) (L L' : List α)
    (hI : ∀ a b, P a → P b → hash a = hash b → prev a = prev b) (hS : ∀ a, P a → hash a ≠ seed)
    (hP : ∀ a ∈ L, P a) (hP' : ∀ a ∈ L', P a)
    (hc : ChainIdx hash prev seed L) (hc' : ChainIdx hash prev seed L') :
    ∀ (i j : Nat) (a b : α), L[i]? = some a → L'[j]? = some b → hash a = hash b → i = j := by
  intro i
  induction i with
  | zero =>
    intro j a b ha hb heq
    cases j with
    | zero => rfl
    | succ j =>
      obtain ⟨c, hcj, h2⟩ := hc'.pred hb
      have h3 := hI a b (hP a (List.mem_of_getElem? ha)) (hP' b (List.mem_of_getElem? hb)) heq
      exact absurd (by rw [← h2, ← h3, hc.1 a ha]) (hS c (hP' c (List.mem_of_getElem? hcj)))
  | succ i ih =>
    intro j a b ha hb heq
    obtain ⟨a0, ha0, h1⟩ := hc.pred ha
    have h3 := hI a b (hP a (List.mem_of_getElem? ha)) (hP' b (List.mem_of_getElem? hb)) heq
    cases j with
    | zero => exact absurd (by rw [← h1, h3, hc'.1 b hb]) (hS a0 (hP a0 (List.mem_of_getElem? ha0)))
    | succ j =>
      obtain ⟨c, hcj, h2⟩ := hc'.pred hb
      rw [ih j a0 c ha0 hcj (by rw [← h1, ← h2, h3])]

end Chain

/-- The three fields of an entry that `sealEntry` fills in: the stored hash, the predecessor pointer
and the entry signature. -/
def hashOf (e : Rec) : Bytes := get e "Hash"
def prevOf (e : Rec) : Bytes := get e "PreviousHash"
def sigOf (e : Rec) : Bytes := get e "SignatureEd25519"

/-- The predecessor pointer `ValidateEntry` demands in state `s`: the hash of the seed text `"pithos"`
from the first entry, the stored hash of the previous entry from every other. -/
def expectedPrev (C : Crypto) (s : VState) : Bytes := if s.index = 0 then C.H pithos else s.prev

theorem stepGround_ok {T : Tables} {C : Crypto} {bs : Nat} {s s' : VState} {e : Rec}
    (h : stepGround T C bs s e = .ok s') : s'.index = s.index + 1 ∧ s'.prev = hashOf e := by
  unfold stepGround at h
  by_cases h1 : kind T e = 1
  · rw [if_pos h1] at h
    obtain ⟨_, h⟩ := check_ok_iff.1 h
    cases h; exact ⟨rfl, rfl⟩
  · rw [if_neg h1] at h
    by_cases h2 : kind T e = 2
    · rw [if_pos h2] at h
      simp only [check_ok_iff] at h
      obtain ⟨_, _, _, _, h⟩ := h
      cases h; exact ⟨rfl, rfl⟩
    · rw [if_neg h2] at h
      cases h; exact ⟨rfl, rfl⟩

/-- `ValidateEntry` is four checks local to the entry and the previous hash, then the grounding
bookkeeping; read from left to right by C27 (what acceptance establishes) and from right to left by
C26 (what the writer has to establish). -/
theorem step_eq_ok_iff {T : Tables} {C : Crypto} {bs : Nat} {s s' : VState} {e : Rec} :
    step T C bs s e = .ok s' ↔
      C.H (hashInput T e) = hashOf e ∧ (s.index = 0 → get e "Type" = T.tGenesis) ∧
      prevOf e = expectedPrev C s ∧ sigOk C.vEd (hashOf e) (sigOf e) = true ∧
      stepGround T C bs s e = .ok s' := by
  simp only [step, stepWith, check_ok_iff, expectedPrev, hashOf, prevOf, sigOf]
  by_cases h0 : s.index = 0 <;> simp [h0]

theorem runFrom_ok {T : Tables} {C : Crypto} {bs : Nat} :
    ∀ (L : List Rec) (s s' : VState), runFrom T C bs s L = .ok s' →
      (∀ e ∈ L, C.H (hashInput T e) = hashOf e) ∧ ChainIdx hashOf prevOf (expectedPrev C s) L ∧
      (∀ e ∈ L, sigOk C.vEd (hashOf e) (sigOf e) = true) := by
  intro L
  induction L with
  | nil => intro s s' _; exact ⟨by simp, .nil, by simp⟩
  | cons e es ih =>
    intro s s' h
    unfold runFrom at h
    split at h
    · cases h
    · rename_i s1 hs1
      obtain ⟨hH, _, hP, hS, hg⟩ := step_eq_ok_iff.1 hs1
      obtain ⟨hi, hp⟩ := stepGround_ok hg
      obtain ⟨a, b, c⟩ := ih s1 s' h
      have hexp : expectedPrev C s1 = hashOf e := by
        unfold expectedPrev; rw [hi, hp]; simp
      rw [hexp] at b
      exact ⟨List.forall_mem_cons.2 ⟨hH, a⟩, .cons hP b, List.forall_mem_cons.2 ⟨hS, c⟩⟩

theorem runFrom_append {T : Tables} {C : Crypto} (bs : Nat) (A B : List Rec) (s : VState) :
    runFrom T C bs s (A ++ B) =
      match runFrom T C bs s A with
      | .ok s' => runFrom T C bs s' B
      | .error e => .error e := by
  induction A generalizing s with
  | nil => rfl
  | cons a A ih =>
    simp only [List.cons_append, runFrom]
    split
    · rfl
    · exact ih _

theorem accepts_iff {T : Tables} {C : Crypto} {bs : Nat} {L : List Rec} :
    accepts T C bs L = true ↔ ∃ s, runFrom T C bs {} L = .ok s := by
  unfold accepts run
  split <;> simp [*]

theorem accepts_facts {T : Tables} {C : Crypto} {bs : Nat} {L : List Rec} (h : accepts T C bs L = true) :
    (∀ e ∈ L, C.H (hashInput T e) = hashOf e) ∧ ChainIdx hashOf prevOf (C.H pithos) L ∧
    (∀ e ∈ L, sigOk C.vEd (hashOf e) (sigOf e) = true) := by
  obtain ⟨s', hs⟩ := accepts_iff.1 h
  obtain ⟨a, b, c⟩ := runFrom_ok L {} s' hs
  exact ⟨a, by simpa [expectedPrev] using b, c⟩

/-- Least length of an encoding by `s`; C27 uses it to tell every hash input from the six bytes
of the seed text `"pithos"`. -/
def minLen (s : Spec) : Nat := (s.map fun p => if p.2 = 0 then 4 else p.2).sum

theorem encFields_length_ge (s : Spec) (r : Rec) (h : wf s r = true) : minLen s ≤ (encFields s r).length := by
  induction s with
  | nil => simp [minLen]
  | cons p s ih =>
    obtain ⟨f, w⟩ := p
    rw [wf_cons] at h
    have := ih h.2
    have hf := h.1
    unfold wfField at hf
    simp only [encFields, List.length_append, minLen, List.map_cons, List.sum_cons] at *
    unfold encField
    by_cases hw : w = 0
    · simp [hw, be32_length]; omega
    · simp [hw] at hf ⊢; omega

theorem lookup_isSome_iff_mem (a : Rec) (f : String) : (a.lookup f).isSome = true ↔ f ∈ a.map (·.1) := by
  rw [List.lookup_isSome_iff, List.mem_map]
  exact ⟨fun ⟨p, hp, e⟩ => ⟨p, hp, (beq_iff_eq.1 e).symm⟩, fun ⟨p, hp, e⟩ => ⟨p, hp, beq_iff_eq.2 e.symm⟩⟩

theorem get_append_left (a b : Rec) (f : String) (h : f ∈ a.map (·.1)) : get (a ++ b) f = get a f := by
  unfold get
  rw [List.lookup_append, Option.or_of_isSome ((lookup_isSome_iff_mem a f).2 h)]

theorem get_append_right (a b : Rec) (f : String) (h : f ∉ a.map (·.1)) : get (a ++ b) f = get b f := by
  have hn : a.lookup f = none :=
    Option.not_isSome_iff_eq_none.1 fun hs => h ((lookup_isSome_iff_mem a f).1 hs)
  unfold get
  rw [List.lookup_append, hn, Option.none_or]

theorem proj_names (s : Spec) (r : Rec) : (proj s r).map (·.1) = s.map (·.1) := by
  simp [proj]

theorem proj_append (s1 s2 : Spec) (r : Rec) : proj (s1 ++ s2) r = proj s1 r ++ proj s2 r := by
  simp [proj]

theorem binDecode_binEncode (T : BinTables)
    (hv : "Version" ∈ T.pre.map (·.1)) (ht : "Type" ∈ T.pre.map (·.1))
    (r : Rec) (hw : wf (binSpec T r) r = true) (rest : Bytes) :
    binDecode T (binEncode T r ++ rest) = some (proj (binSpec T r) r, rest) := by
  unfold binSpec at hw
  rw [wf_append, wf_append] at hw
  obtain ⟨w1, w2, w3⟩ := hw
  unfold binDecode binEncode
  simp only [List.append_assoc]
  rw [decFields_encFields T.pre r w1]
  have hver : version (proj T.pre r) = version r := by
    unfold version; rw [get_proj T.pre r _ hv]
  have hkind : T.kind (proj T.pre r) = T.kind r := by
    unfold BinTables.kind; rw [get_proj T.pre r _ ht]
  simp only [hver, hkind]
  rw [decFields_encFields _ r w2]
  simp only []
  rw [decFields_encFields T.tail r w3]
  simp [binSpec, proj_append]

theorem binEncode_ne_nil (T : BinTables) (r : Rec) (hw : wf (binSpec T r) r = true)
    (hlong : 0 < minLen T.pre) : binEncode T r ≠ [] := by
  unfold binSpec at hw
  rw [wf_append] at hw
  have := encFields_length_ge T.pre r hw.1
  intro h
  have hl := congrArg List.length h
  unfold binEncode at hl
  simp only [List.length_append, List.length_nil] at hl
  omega

theorem binDecodeAll_roundtrip (T : BinTables)
    (hv : "Version" ∈ T.pre.map (·.1)) (ht : "Type" ∈ T.pre.map (·.1)) (hlong : 0 < minLen T.pre)
    (L : List Rec) (hw : ∀ r ∈ L, wf (binSpec T r) r = true) :
    binDecodeAll T L.length (L.flatMap (binEncode T)) = some (L.map fun r => proj (binSpec T r) r) := by
  induction L with
  | nil => simp [binDecodeAll]
  | cons r L ih =>
    have hr := hw r (by simp)
    have hne := binEncode_ne_nil T r hr hlong
    simp only [List.flatMap_cons, List.length_cons, binDecodeAll]
    have : (binEncode T r ++ List.flatMap (binEncode T) L).isEmpty = false := by
      cases h : binEncode T r with
      | nil => exact absurd h hne
      | cons a t => rfl
    rw [this]
    simp only [Bool.false_eq_true, if_false]
    rw [binDecode_binEncode T hv ht r hr]
    simp only [ih (fun r hr => hw r (by simp [hr]))]
    simp

theorem lookup_jsonWrite_not_mem (lf : Leaf) (s : JSpec) (r : Rec) (p : String)
    (h : p ∉ s.map (·.2.1)) : (jsonWrite lf s r).lookup p = none := by
  induction s with
  | nil => rfl
  | cons x s ih =>
    obtain ⟨f, q, om, c⟩ := x
    have hpq : p ≠ q := by intro h'; apply h; simp [h']
    have hm : p ∉ s.map (·.2.1) := by intro h'; apply h; simp [h']
    have hb : (p == q) = false := by simpa using hpq
    simp only [jsonWrite]
    split
    · exact ih hm
    · simp only [List.lookup, hb]; exact ih hm

theorem lookup_jsonWrite (lf : Leaf) (s : JSpec) (r : Rec) (f p c : String) (om : Bool)
    (hmem : (f, p, om, c) ∈ s) (hnd : (s.map (·.2.1)).Nodup) :
    (jsonWrite lf s r).lookup p =
      if om && omitted c (get r f) then none else some (lf.enc c (get r f)) := by
  induction s with
  | nil => simp at hmem
  | cons x s ih =>
    obtain ⟨f', q, om', c'⟩ := x
    simp only [List.map_cons, List.nodup_cons] at hnd
    rcases List.mem_cons.1 hmem with h | h
    · cases h
      simp only [jsonWrite]
      split
      · exact lookup_jsonWrite_not_mem lf s r p hnd.1
      · simp [List.lookup]
    · have hpq : p ≠ q := by
        intro h'
        apply hnd.1
        rw [← h']
        exact List.mem_map_of_mem (f := fun x : String × String × Bool × String => x.2.1) h
      have hb : (p == q) = false := by simpa using hpq
      simp only [jsonWrite]
      split
      · exact ih h hnd.2
      · simp only [List.lookup, hb]; exact ih h hnd.2

/-- **JSON serializer round trip** (structure of the encoding; leaf codecs are parameters):
if every field the decoder reads is written under the same path with the same codec, no path is
used twice, the leaf codecs round-trip, and an omitted value is the Go zero value, then decoding
what was encoded returns every read field unchanged. -/
theorem json_roundtrip (lf : Leaf) (zero : String → Bytes) (sW sR : JSpec) (r : Rec)
    (hleaf : ∀ c b, lf.dec c (lf.enc c b) = b)
    (hnd : (sW.map (·.2.1)).Nodup)
    (hsub : ∀ x ∈ sR, ∃ om, (x.1, x.2.1, om, x.2.2.2) ∈ sW)
    (hzero : ∀ x ∈ sW, x.2.2.1 = true → omitted x.2.2.2 (get r x.1) = true → get r x.1 = zero x.1) :
    ∀ f ∈ sR.map (·.1), get (jsonRead lf zero sR (jsonWrite lf sW r)) f = get r f := by
  induction sR with
  | nil => intro f hf; simp at hf
  | cons x sR ih =>
    obtain ⟨g, p, om0, c⟩ := x
    intro f hf
    rw [List.map_cons, List.mem_cons] at hf
    rw [jsonRead, get_cons]
    split
    · subst f
      obtain ⟨om, hmem⟩ := hsub (g, p, om0, c) List.mem_cons_self
      rw [lookup_jsonWrite lf sW r g p c om hmem hnd]
      by_cases ho : (om && omitted c (get r g)) = true
      · rw [if_pos ho]
        rw [Bool.and_eq_true] at ho
        exact (hzero _ hmem ho.1 ho.2).symm
      · rw [if_neg ho]
        exact hleaf c _
    · exact ih (fun x hx => hsub x (List.mem_cons_of_mem _ hx)) f (hf.resolve_left ‹_›)

end Pithos.AuditLog
