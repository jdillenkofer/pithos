/-
Lemmas about `Pithos.Model.MetaFine` (the statement-level optimistic-lock protocol on one key).

Method: `stepThread` is characterised once by the relation `TStep` (`stepThread_spec`); all theorems
are invariants of `step` (three kinds of schedule step: `step_cases`; the threads after one:
`forall_setThread`) carried along an arbitrary schedule (`exec` is a fold: `List.foldlRecOn`):
  * `InvB`  — no hypotheses: programs constant, the log is a chain, one commit per thread, acknowledged
              writers have a log entry;
  * `Inv`   — initial row id below the id counter: versions of a row id only grow and new rows get
              fresh ids, so "same id and version" means "same row" (`RegOK`); hence the CAS facts;
  * `Inv2`  — appenders and non-empty putters with fresh part ids: an appender's commit extends
              exactly the current content.
-/
import Pithos.Model.MetaFine
import Pithos.Lemmas.ListFacts

namespace Pithos.MetaFine

theorem length_setThread (ts : List Thread) (i : Nat) (l : Loc) :
    (setThread ts i l).length = ts.length := by
  simp [setThread]

theorem getElem?_setThread (ts : List Thread) (i : Nat) (l : Loc) (j : Nat) :
    (setThread ts i l)[j]? = (ts[j]?).map fun t => if j = i then { t with loc := l } else t := by
  simp [setThread, List.getElem?_mapIdx]

theorem getElem?_setThread_self {ts : List Thread} {i : Nat} {l : Loc} {t : Thread}
    (h : ts[i]? = some t) : (setThread ts i l)[i]? = some { t with loc := l } := by
  simp [getElem?_setThread, h]

theorem getElem?_setThread_ne {ts : List Thread} {i : Nat} {l : Loc} {j : Nat} (h : j ≠ i) :
    (setThread ts i l)[j]? = ts[j]? := by
  rw [getElem?_setThread]
  cases ts[j]? <;> simp [h]

/-- One atomic step of a thread, as a relation with one constructor per kind of step. -/
inductive TStep (sz : PartId → Nat) (tid : Nat) (d : Db) : Prog → Loc → Db → Loc → Option Commit → Prop
  | stutter (p l) : TStep sz tid d p l d l none
  | fail (p l r) (hl : ∀ r', l ≠ .done r') (hput : ∀ new c, p = .put new c → r ≠ .ok) (happ : ∀ o, r ≠ .okAt o) :
      TStep sz tid d p l d (.done r) none
  | delNothing (im l) (hl : ∀ r', l ≠ .done r') : TStep sz tid d (.del im) l d (.done .ok) none
  | putRead (new c)
      (him : ∀ e, c = .im e → ∃ r, d.row = some r ∧ r.parts = e)
      (hinm : c = .inm → d.row = none) :
      TStep sz tid d (.put new c) .start d (.seen d.row) none
  | delRead (im r) (hrow : d.row = some r) (him : ∀ e, im = some e → r.parts = e) :
      TStep sz tid d (.del im) .start d (.seen (some r)) none
  | putUpd (new c sc r k) (hk : 0 < k) (hrow : d.row = some r) (hid : r.id = sc.id)
      (hver : c ≠ .none → r.ver = sc.ver) :
      TStep sz tid d (.put new c) (.seen (some sc))
        { d with row := some ⟨r.id, r.ver + k, new⟩ } (.done .ok)
        (some ⟨tid, some r, some ⟨r.id, r.ver + k, new⟩⟩)
  | putIns (new c) (hrow : d.row = none) :
      TStep sz tid d (.put new c) (.seen none)
        { row := some ⟨d.nextId, 1, new⟩, nextId := d.nextId + 1 } (.done .ok)
        (some ⟨tid, none, some ⟨d.nextId, 1, new⟩⟩)
  | delCommit (im sc r) (hrow : d.row = some r) (hid : r.id = sc.id)
      (hver : im.isSome → r.ver = sc.ver) :
      TStep sz tid d (.del im) (.seen (some sc)) { d with row := none } (.done .ok)
        (some ⟨tid, some r, none⟩)
  | appRead1 (new off) (hoff : ∀ n, off = some n → n = sizeOf sz (partsOf d.row)) :
      TStep sz tid d (.append new off) .start d (.r1 d.row) none
  | appRead2 (new off c1) : TStep sz tid d (.append new off) (.r1 c1) d (.r2 c1 d.row) none
  | appRead3 (new off c1 sc p3) (hg : guard sc d = true → partsOf d.row = p3)
      (hpre : p3 <+: partsOf c1 ++ [new]) :
      TStep sz tid d (.append new off) (.r2 c1 (some sc)) d (.r3 c1 sc p3) none
  | appIns (new off c1) (hrow : d.row = none) :
      TStep sz tid d (.append new off) (.r2 c1 none)
        { row := some ⟨d.nextId, 1, partsOf c1 ++ [new]⟩, nextId := d.nextId + 1 }
        (.done (.okAt (sizeOf sz (partsOf c1))))
        (some ⟨tid, none, some ⟨d.nextId, 1, partsOf c1 ++ [new]⟩⟩)
  | appCas (new off c1 sc p3 r) (hrow : d.row = some r) (hid : r.id = sc.id) (hver : r.ver = sc.ver) :
      TStep sz tid d (.append new off) (.r3 c1 sc p3)
        { d with row := some ⟨r.id, r.ver + 1, r.parts ++ (partsOf c1 ++ [new]).drop p3.length⟩ }
        (.done (.okAt (sizeOf sz (partsOf c1))))
        (some ⟨tid, some r, some ⟨r.id, r.ver + 1, r.parts ++ (partsOf c1 ++ [new]).drop p3.length⟩⟩)

theorem guard_iff (c : Cell) (d : Db) :
    guard c d = true ↔ ∃ r, d.row = some r ∧ r.id = c.id ∧ r.ver = c.ver := by
  unfold guard
  cases d.row <;> simp

theorem TStep.error {sz tid d p l r} (hl : ∀ r', l ≠ .done r')
    (hr : r = .precondition ∨ r = .invalidOffset ∨ r = .internal) :
    TStep sz tid d p l d (.done r) none := by
  rcases hr with rfl | rfl | rfl
  all_goals exact .fail _ _ _ hl nofun nofun

theorem TStep.ite {sz tid d p l} {c : Prop} [Decidable c] {x y : Db × Loc × Option Commit}
    (hx : c → TStep sz tid d p l x.1 x.2.1 x.2.2) (hy : ¬c → TStep sz tid d p l y.1 y.2.1 y.2.2) :
    TStep sz tid d p l (if c then x else y).1 (if c then x else y).2.1 (if c then x else y).2.2 := by
  split
  · exact hx ‹_›
  · exact hy ‹_›

theorem stepThread_spec (sz : PartId → Nat) (tid : Nat) (d : Db) (t : Thread) :
    TStep sz tid d t.prog t.loc (stepThread sz tid d t).1 (stepThread sz tid d t).2.1
      (stepThread sz tid d t).2.2 := by
  obtain ⟨p, l⟩ := t
  obtain ⟨row, nid⟩ := d
  cases p with
  | put new c =>
    cases l with
    | start =>
      cases c with
      | none => exact .putRead _ _ nofun nofun
      | inm =>
        cases row with
        | none => exact .putRead _ _ nofun fun _ => rfl
        | some r => exact .error nofun (.inl rfl)
      | im e =>
        cases row with
        | none => exact .error nofun (.inl rfl)
        | some r =>
          simp only [stepThread]
          exact .ite (fun he => .putRead _ _ (fun e' h => ⟨r, rfl, by cases h; simpa using he⟩) nofun)
            fun _ => .error nofun (.inl rfl)
    | seen s =>
      cases s with
      | some sc =>
        simp only [stepThread]
        refine .ite (fun hc => .ite (fun hg => ?_) fun _ => .error nofun (.inl rfl)) fun hc => ?_
        · -- conditional: the guarded statement
          obtain ⟨r, hr, hid, hver⟩ := (guard_iff sc _).1 hg
          cases hr
          rw [← hid, ← hver]
          exact .putUpd new c sc r 3 (by omega) rfl hid fun _ => hver
        · -- unconditional: update by id
          have hc : c = .none := by simpa using hc
          subst hc
          cases row with
          | none => exact .error nofun (.inr (.inr rfl))
          | some r =>
            refine .ite (fun hid => ?_) fun _ => .error nofun (.inr (.inr rfl))
            exact .putUpd new .none sc r 2 (by omega) rfl (by simpa using hid) (fun h => absurd rfl h)
      | none =>
        cases row with
        | none => exact .putIns new c rfl
        | some r =>
          refine .error nofun ?_
          show (if (c == .inm) = true then Res.precondition else .internal) = _ ∨ _
          split
          · exact .inl rfl
          · exact .inr (.inr rfl)
    | _ => exact .stutter _ _
  | del im =>
    cases l with
    | start =>
      cases im with
      | none =>
        cases row with
        | none => exact .delNothing _ _ nofun
        | some r => exact .delRead _ _ rfl nofun
      | some e =>
        cases row with
        | none => exact .error nofun (.inl rfl)
        | some r =>
          simp only [stepThread]
          exact .ite (fun he => .delRead _ _ rfl fun e' h => by cases h; simpa using he) fun _ => .error nofun (.inl rfl)
    | seen s =>
      cases s with
      | none => exact .delNothing _ _ nofun
      | some sc =>
        cases im with
        | none =>
          -- unconditional: delete by id, which may match nothing
          cases row with
          | none => exact .delNothing _ _ nofun
          | some r =>
            simp only [stepThread]
            refine .ite (fun h => nomatch h) fun _ => .ite (fun hid => ?_) fun _ => ?_
            · exact .delCommit none sc r rfl (by simpa using hid) nofun
            · exact .delNothing _ _ nofun
        | some e =>
          simp only [stepThread]
          refine .ite (fun _ => .ite (fun hg => ?_) fun _ => ?_) fun h => absurd rfl h
          · obtain ⟨r, hr, hid, hver⟩ := (guard_iff sc _).1 hg
            cases hr
            exact .delCommit (some e) sc r rfl hid fun _ => hver
          · exact .error nofun (.inl rfl)
    | _ => exact .stutter _ _
  | append new off =>
    cases l with
    | start =>
      cases off with
      | none => exact .appRead1 _ _ nofun
      | some n =>
        simp only [stepThread]
        exact .ite (fun hn => .appRead1 _ _ fun m h => by cases h; simpa using hn) fun _ => .error nofun (.inr (.inl rfl))
    | r1 c1 => exact .appRead2 _ _ _
    | r2 c1 c2 =>
      cases c2 with
      | none =>
        cases row with
        | none => exact .appIns new off c1 rfl
        | some r => exact .error nofun (.inr (.inr rfl))
      | some sc =>
        -- read 3 returns the part rows of the row id read before; under the guard that is the current row
        simp only [stepThread]
        refine .ite (fun hp => .appRead3 _ _ _ _ _ (fun hg => ?_) (List.isPrefixOf_iff_prefix.1 hp)) fun _ =>
          .error nofun (.inr (.inr rfl))
        obtain ⟨r, hr, hid, _⟩ := (guard_iff sc _).1 hg
        cases hr
        simp [hid, partsOf]
    | r3 c1 sc p3 =>
      simp only [stepThread]
      refine .ite (fun hg => ?_) fun _ => .error nofun (.inr (.inl rfl))
      obtain ⟨r, hr, hid, hver⟩ := (guard_iff sc _).1 hg
      cases hr
      rw [← hid, ← hver]
      exact .appCas new off c1 sc p3 r rfl hid hver
    | _ => exact .stutter _ _

/-- How a commit changes the database. -/
inductive DbChange (d d' : Db) : Prop
  | upd (r r' : Cell) (h : d.row = some r) (h' : d'.row = some r') (hid : r'.id = r.id)
      (hver : r.ver < r'.ver) (hn : d'.nextId = d.nextId)
  | ins (r' : Cell) (h : d.row = none) (h' : d'.row = some r') (hid : r'.id = d.nextId)
      (hn : d'.nextId = d.nextId + 1)
  | del (h' : d'.row = none) (hn : d'.nextId = d.nextId)

theorem TStep.noCommit {sz tid d p l d' l' c} (h : TStep sz tid d p l d' l' c) (hc : c = none) :
    d' = d := by
  cases h
  case putUpd | putIns | delCommit | appIns | appCas => cases hc
  all_goals rfl

theorem TStep.commit {sz tid d p l d' l' c} (h : TStep sz tid d p l d' l' c) {cm : Commit}
    (hc : c = some cm) :
    DbChange d d' ∧ cm = ⟨tid, d.row, d'.row⟩ ∧ (∃ r, l' = .done r) ∧ (∀ r, l ≠ .done r) := by
  cases h
  case putUpd new c sc r k hk hrow hid hver =>
    cases hc
    exact ⟨.upd r _ hrow rfl rfl (Nat.lt_add_of_pos_right hk) rfl, by rw [hrow], ⟨_, rfl⟩, nofun⟩
  case putIns new c hrow | appIns new off c1 hrow =>
    cases hc
    exact ⟨.ins _ hrow rfl rfl rfl, by rw [hrow], ⟨_, rfl⟩, nofun⟩
  case delCommit im sc r hrow hid hver =>
    cases hc
    exact ⟨.del rfl rfl, by rw [hrow], ⟨_, rfl⟩, nofun⟩
  case appCas new off c1 sc p3 r hrow hid hver =>
    cases hc
    exact ⟨.upd r _ hrow rfl rfl (Nat.lt_succ_self _) rfl, by rw [hrow], ⟨_, rfl⟩, nofun⟩
  all_goals cases hc

/-- The cells a thread holds in its registers. -/
def regs : Loc → List Cell
  | .seen c => c.toList
  | .r1 c => c.toList
  | .r2 c1 c2 => c1.toList ++ c2.toList
  | .r3 c1 c2 _ => c1.toList ++ [c2]
  | _ => []

/-- A register is consistent with the database: its id is not fresh, and if the row still has that
id, the row's version is at least the register's, with equality only for the same row. -/
def RegOK (d : Db) (c : Cell) : Prop :=
  c.id < d.nextId ∧ ∀ r, d.row = some r → r.id = c.id → c.ver ≤ r.ver ∧ (c.ver = r.ver → r = c)

def RowId (d : Db) : Prop := ∀ c, d.row = some c → c.id < d.nextId

theorem DbChange.row {d d'} (h : DbChange d d') : d.nextId ≤ d'.nextId ∧ ∀ r', d'.row = some r' →
    (r'.id = d.nextId ∧ d.nextId < d'.nextId) ∨ ∃ r, d.row = some r ∧ r'.id = r.id ∧ r.ver < r'.ver := by
  cases h with
  | upd r r' h h' hid hver hn =>
    refine ⟨Nat.le_of_eq hn.symm, fun x hx => .inr ⟨r, h, ?_⟩⟩
    rw [h'] at hx; cases hx
    exact ⟨hid, hver⟩
  | ins r' h h' hid hn =>
    refine ⟨by omega, fun x hx => .inl ?_⟩
    rw [h'] at hx; cases hx
    exact ⟨hid, by omega⟩
  | del h' hn => exact ⟨Nat.le_of_eq hn.symm, fun x hx => by rw [h'] at hx; cases hx⟩

theorem DbChange.rowId {d d'} (h : DbChange d d') (hr : RowId d) : RowId d' := by
  intro c hc
  rcases h.row.2 c hc with ⟨hid, hn⟩ | ⟨r, hrow, hid, _⟩
  · omega
  · have := hr r hrow; have := h.row.1; omega

theorem DbChange.regOK {d d'} (h : DbChange d d') {c : Cell} (hc : RegOK d c) : RegOK d' c := by
  refine ⟨Nat.lt_of_lt_of_le hc.1 h.row.1, fun x hx hxid => ?_⟩
  rcases h.row.2 x hx with ⟨hid, _⟩ | ⟨r, hrow, hid, hver⟩
  · have := hc.1; omega
  · -- the register's version is at most the old row's, which is below the new one
    have := hc.2 r hrow (by omega)
    omega

theorem DbChange.guard_false {d d'} (h : DbChange d d') {c : Cell} (hc : RegOK d c) :
    guard c d' = false := by
  cases hg : guard c d' with
  | false => rfl
  | true =>
    obtain ⟨x, hx, hxid, hxver⟩ := (guard_iff c d').1 hg
    rcases h.row.2 x hx with ⟨hid, _⟩ | ⟨r, hrow, hid, hver⟩
    · have := hc.1; omega
    · have := (hc.2 r hrow (by omega)).1; omega

theorem RegOK.of_row {d : Db} (hr : RowId d) {c : Cell} (h : d.row = some c) : RegOK d c :=
  ⟨hr c h, fun r hr' _ => by simp_all⟩

theorem RegOK.guard {d : Db} {c : Cell} (h : RegOK d c) (hg : guard c d = true) : d.row = some c := by
  obtain ⟨x, hx, hxid, hxver⟩ := (guard_iff c d).1 hg
  have := (h.2 x hx hxid).2 hxver.symm
  simp_all

theorem TStep.forall_regs {sz tid d p l d' l' c} (h : TStep sz tid d p l d' l' c) {P : Cell → Prop}
    (hold : ∀ x ∈ regs l, P x) (hrow : ∀ x, d.row = some x → P x) : ∀ x ∈ regs l', P x := by
  intro x hx
  cases h
  case stutter | appRead3 => exact hold x hx
  case putRead | appRead1 => exact hrow x (Option.mem_toList.1 hx)
  case delRead hr _ => exact hrow x (by rw [hr, List.mem_singleton.1 hx])
  case appRead2 => exact (List.mem_append.1 hx).elim (hold x) fun h => hrow x (Option.mem_toList.1 h)
  all_goals cases hx

/-- Conditional writers only proceed past their read with a row of the named content
(If-None-Match: with no row). -/
def CondOK : Prog → Loc → Prop
  | .put _ (.im e), .seen s => ∃ c, s = some c ∧ c.parts = e
  | .put _ .inm, .seen s => s = none
  | .del (some e), .seen s => ∃ c, s = some c ∧ c.parts = e
  | _, _ => True

theorem CondOK.of_loc {p : Prog} {l : Loc} (h : ∀ s, l ≠ .seen s) : CondOK p l := by
  cases l
  case seen s => exact absurd rfl (h s)
  all_goals cases p <;> simp [CondOK]

theorem TStep.condOK {sz tid d p l d' l' c} (h : TStep sz tid d p l d' l' c) (hc : CondOK p l) :
    CondOK p l' := by
  cases h
  case stutter => exact hc
  case putRead new c him hinm =>
    cases c with
    | none => trivial
    | inm => exact hinm rfl
    | im e => exact him e rfl
  case delRead im r hrow him =>
    cases im with
    | none => trivial
    | some e => exact ⟨r, rfl, him e rfl⟩
  all_goals exact .of_loc nofun

/-- What an appender knows after read 3. -/
def R3OK (d : Db) : Prog → Loc → Prop
  | .append new _, .r3 c1 c2 p3 => (guard c2 d = true → partsOf d.row = p3) ∧ p3 <+: partsOf c1 ++ [new]
  | _, _ => True

theorem R3OK.of_loc {d : Db} {p : Prog} {l : Loc} (h : ∀ c1 c2 p3, l ≠ .r3 c1 c2 p3) : R3OK d p l := by
  cases l
  case r3 => exact absurd rfl (h _ _ _)
  all_goals cases p <;> trivial

theorem TStep.r3OK {sz tid d p l d' l' c} (h : TStep sz tid d p l d' l' c) (hc : R3OK d p l)
    (hn : c = none) : R3OK d' p l' := by
  cases h
  case stutter => exact hc
  case appRead3 hg hpre => exact ⟨hg, hpre⟩
  case putUpd | putIns | delCommit | appIns | appCas => cases hn
  all_goals exact .of_loc (by intro _ _ _ h; cases h)

theorem R3OK.change {d d' : Db} (h : DbChange d d') {p : Prog} {l : Loc}
    (hreg : ∀ x ∈ regs l, RegOK d x) (hc : R3OK d p l) : R3OK d' p l := by
  cases l
  case r3 c1 c2 p3 =>
    cases p
    case append new off =>
      -- the guard with the version read before the change cannot hold after it
      refine ⟨fun hg => ?_, hc.2⟩
      rw [h.guard_false (hreg c2 (by simp [regs]))] at hg; cases hg
    all_goals trivial
  all_goals exact .of_loc (by intro _ _ _ h; cases h)

/-- A committer that names a condition replaces the very row it saw: `CondOK` holds of what its log
entry records as replaced. -/
theorem TStep.casOK {sz tid d p l d' l' cm} (h : TStep sz tid d p l d' l' (some cm))
    (hreg : ∀ x ∈ regs l, RegOK d x) (hcond : CondOK p l) : CondOK p (.seen cm.before) := by
  have same : ∀ {sc r : Cell}, sc ∈ regs l → d.row = some r → r.id = sc.id → r.ver = sc.ver → r = sc :=
    fun hsc hrow hid hver => ((hreg _ hsc).2 _ hrow hid).2 hver.symm
  cases h
  case putUpd new c sc r k hk hrow hid hver =>
    by_cases hc : c = .none
    · subst hc; trivial
    · cases same (List.mem_singleton_self sc) hrow hid (hver hc); exact hcond
  case putIns => exact hcond
  case delCommit im sc r hrow hid hver =>
    cases im with
    | none => trivial
    | some e => cases same (List.mem_singleton_self sc) hrow hid (hver rfl); exact hcond
  case appIns | appCas => trivial

theorem TStep.ackPut_none {sz tid d p l d' l'} (h : TStep sz tid d p l d' l' none) {new : List PartId}
    {cd : Cond} (hp : p = .put new cd) (hl : l' = .done .ok) : l = .done .ok := by
  cases h
  case stutter => exact hl
  case fail => exact absurd (Loc.done.inj hl) (‹∀ new c, _ = Prog.put new c → _› _ _ hp)
  case putRead => cases hl
  all_goals cases hp

theorem TStep.ackApp_none {sz tid d p l d' l'} (h : TStep sz tid d p l d' l' none) {o : Nat}
    (hl : l' = .done (.okAt o)) : l = .done (.okAt o) := by
  cases h
  case stutter => exact hl
  case fail => exact absurd (Loc.done.inj hl) (‹∀ o, _ ≠ Res.okAt o› o)
  all_goals cases hl

theorem TStep.ackPut_commit {sz tid d p l d' l' cm} (h : TStep sz tid d p l d' l' (some cm))
    {new : List PartId} {cd : Cond} (hp : p = .put new cd) : ∃ a, cm.after = some a ∧ a.parts = new := by
  cases h
  case putUpd | putIns => cases hp; exact ⟨_, rfl, rfl⟩
  all_goals cases hp

theorem step_none {sz : PartId → Nat} {s : State} {i : Nat} (h : s.threads[i]? = none) :
    step sz s i = s := by
  simp [step, h]

theorem step_some {sz : PartId → Nat} {s : State} {i : Nat} {t : Thread} (h : s.threads[i]? = some t) :
    ∃ d' l' c, TStep sz i s.db t.prog t.loc d' l' c ∧
      step sz s i = { db := d', threads := setThread s.threads i l', log := s.log ++ c.toList } := by
  refine ⟨_, _, _, stepThread_spec sz i s.db t, ?_⟩
  simp [step, h]

theorem exec_nil (sz : PartId → Nat) (s : State) : exec sz s [] = s := rfl

theorem forall_setThread {ts : List Thread} {i : Nat} {l : Loc} {t : Thread} (ht : ts[i]? = some t)
    {P : Nat → Thread → Prop} (hi : P i { t with loc := l })
    (ho : ∀ j u, ts[j]? = some u → P j u) : ∀ j u, (setThread ts i l)[j]? = some u → P j u := by
  intro j u hu
  by_cases hji : j = i
  · subst hji
    rw [getElem?_setThread_self ht] at hu
    cases hu; exact hi
  · rw [getElem?_setThread_ne hji] at hu
    exact ho j u hu

theorem step_cases (sz : PartId → Nat) (s : State) (i : Nat) :
    step sz s i = s ∨ ∃ t, s.threads[i]? = some t ∧
      ((∃ l', TStep sz i s.db t.prog t.loc s.db l' none ∧
          step sz s i = { s with threads := setThread s.threads i l' }) ∨
       (∃ d' r cm, TStep sz i s.db t.prog t.loc d' (.done r) (some cm) ∧ DbChange s.db d' ∧
          cm = ⟨i, s.db.row, d'.row⟩ ∧ (∀ r, t.loc ≠ .done r) ∧
          step sz s i = { db := d', threads := setThread s.threads i (.done r), log := s.log ++ [cm] })) := by
  cases ht : s.threads[i]? with
  | none => exact .inl (step_none ht)
  | some t =>
    obtain ⟨d', l', c, hT, hs⟩ := step_some (sz := sz) ht
    refine .inr ⟨t, rfl, ?_⟩
    cases c with
    | none =>
      cases hT.noCommit rfl
      exact .inl ⟨l', hT, by rw [hs, Option.toList_none, List.append_nil]⟩
    | some cm =>
      obtain ⟨hch, hcm, ⟨r, rfl⟩, hl⟩ := hT.commit rfl
      exact .inr ⟨d', r, cm, hT, hch, hcm, hl, hs⟩

/-- The log is the linear history of the row. -/
def Chain : Option Cell → List Commit → Option Cell → Prop
  | a, [], b => a = b
  | a, c :: cs, b => c.before = a ∧ Chain c.after cs b

theorem Chain.append {a b c : Option Cell} {l1 l2 : List Commit} (h1 : Chain a l1 b)
    (h2 : Chain b l2 c) : Chain a (l1 ++ l2) c := by
  induction l1 generalizing a with
  | nil => simp [Chain] at h1; subst h1; simpa using h2
  | cons x xs ih => simp [Chain] at h1 ⊢; exact ⟨h1.1, ih h1.2⟩

theorem Chain.snoc {a b : Option Cell} {l : List Commit} (h : Chain a l b) (c : Commit)
    (hb : c.before = b) : Chain a (l ++ [c]) c.after :=
  h.append ⟨hb, rfl⟩

theorem Chain.split {a c : Option Cell} {l1 l2 : List Commit} (h : Chain a (l1 ++ l2) c) :
    ∃ b, Chain a l1 b ∧ Chain b l2 c := by
  induction l1 generalizing a with
  | nil => exact ⟨a, by simp [Chain], by simpa using h⟩
  | cons x xs ih =>
    simp [Chain] at h
    obtain ⟨b, hb1, hb2⟩ := ih h.2
    exact ⟨b, by simp [Chain, h.1, hb1], hb2⟩

/-- The basic invariant (no assumption at all). -/
structure InvB (row0 : Option Cell) (progs : List Prog) (s : State) : Prop where
  prog : ∀ i : Nat, (s.threads[i]?).map Thread.prog = progs[i]?
  chain : Chain row0 s.log s.db.row
  logDone : ∀ cm ∈ s.log, ∃ (t : Thread) (r : Res), s.threads[cm.tid]? = some t ∧ t.loc = .done r
  nodup : (s.log.map (·.tid)).Nodup
  ackPut : ∀ (i : Nat) (t : Thread), s.threads[i]? = some t → ∀ new c, t.prog = .put new c → t.loc = .done .ok →
    ∃ cm ∈ s.log, cm.tid = i ∧ ∃ a, cm.after = some a ∧ a.parts = new
  ackApp : ∀ (i : Nat) (t : Thread), s.threads[i]? = some t → ∀ o, t.loc = .done (.okAt o) → ∃ cm ∈ s.log, cm.tid = i

/-- The core invariant (the initial row id is not fresh). -/
structure Inv (row0 : Option Cell) (progs : List Prog) (s : State) : Prop where
  base : InvB row0 progs s
  rowId : RowId s.db
  reg : ∀ (i : Nat) (t : Thread), s.threads[i]? = some t → ∀ x ∈ regs t.loc, RegOK s.db x
  cond : ∀ (i : Nat) (t : Thread), s.threads[i]? = some t → CondOK t.prog t.loc
  r3 : ∀ (i : Nat) (t : Thread), s.threads[i]? = some t → R3OK s.db t.prog t.loc
  cas : ∀ cm ∈ s.log, ∀ p, progs[cm.tid]? = some p → CondOK p (.seen cm.before)

theorem init_loc {row : Option Cell} {nextId : Nat} {progs : List Prog} {i : Nat} {t : Thread}
    (h : (init row nextId progs).threads[i]? = some t) : t.loc = .start := by
  simp only [init, List.getElem?_map] at h
  cases hp : progs[i]? <;> simp [hp] at h
  subst h; rfl

theorem invB_init (row : Option Cell) (nextId : Nat) (progs : List Prog) :
    InvB row progs (init row nextId progs) := by
  constructor
  · intro i; simp [init, List.getElem?_map]; cases progs[i]? <;> simp
  · simp [init, Chain]
  · simp [init]
  · simp [init]
  · intro i t h new c _ hl; simp [init_loc h] at hl
  · intro i t h o hl; simp [init_loc h] at hl

theorem inv_init (row : Option Cell) (nextId : Nat) (progs : List Prog)
    (hid : ∀ c, row = some c → c.id < nextId) : Inv row progs (init row nextId progs) := by
  constructor
  · exact invB_init row nextId progs
  · exact hid
  · intro i t h x hx; simp [init_loc h, regs] at hx
  · intro i t h; rw [init_loc h]; exact .of_loc nofun
  · intro i t h; rw [init_loc h]; exact .of_loc (by intro _ _ _ h; cases h)
  · simp [init]

theorem InvB.prog_mem {row0 progs s} (h : InvB row0 progs s) {i : Nat} {t : Thread}
    (ht : s.threads[i]? = some t) : progs[i]? = some t.prog := by
  have := h.prog i
  rw [ht] at this
  exact this.symm

theorem InvB.not_in_log {row0 progs s} (h : InvB row0 progs s) {i : Nat} {t : Thread}
    (ht : s.threads[i]? = some t) (hl : ∀ r, t.loc ≠ .done r) : ∀ cm ∈ s.log, cm.tid ≠ i := by
  intro cm hcm he
  obtain ⟨t', r, ht', hr⟩ := h.logDone cm hcm
  rw [he, ht] at ht'
  cases ht'
  exact hl r hr

theorem TStep.of_done {sz tid d p l d' l' c} (h : TStep sz tid d p l d' l' c) {r : Res}
    (hl : l = .done r) : l' = l ∧ c = none ∧ d' = d := by
  cases h
  case stutter => exact ⟨rfl, rfl, rfl⟩
  case fail | delNothing => exact absurd hl (‹∀ r', _ ≠ Loc.done r'› r)
  all_goals cases hl

theorem step_done {sz : PartId → Nat} {s : State} {j : Nat} {u : Thread} {r : Res} (hu : s.threads[j]? = some u)
    (hr : u.loc = .done r) (i : Nat) : (step sz s i).threads[j]? = some u := by
  cases ht : s.threads[i]? with
  | none => rw [step_none ht]; exact hu
  | some t =>
    obtain ⟨d', l', c, hT, hs⟩ := step_some (sz := sz) ht
    rw [hs]
    by_cases hj : j = i
    · subst hj
      rw [ht] at hu; cases hu
      rw [getElem?_setThread_self ht, (hT.of_done hr).1]
    · rw [getElem?_setThread_ne hj]; exact hu

theorem InvB.step {row0 progs s} (sz : PartId → Nat) (h : InvB row0 progs s) (i : Nat) :
    InvB row0 progs (step sz s i) := by
  rcases step_cases sz s i with hs | ⟨t, ht, hcase⟩
  · rw [hs]; exact h
  have hprog : ∀ l' (j : Nat), ((setThread s.threads i l')[j]?).map Thread.prog = progs[j]? := by
    intro l' j
    rw [← h.prog j, getElem?_setThread]
    cases s.threads[j]? with
    | none => rfl
    | some u => by_cases hj : j = i <;> simp [hj]
  have hold : ∀ cm ∈ s.log, ∃ (t : Thread) (r : Res), (MetaFine.step sz s i).threads[cm.tid]? = some t ∧ t.loc = .done r :=
    fun cm hcm => let ⟨u, r, hu, hr⟩ := h.logDone cm hcm; ⟨u, r, step_done hu hr i, hr⟩
  rcases hcase with ⟨l', hT, hs⟩ | ⟨d', r, cm, hT, hch, hcm, hl, hs⟩
  · rw [hs] at hold ⊢
    refine ⟨hprog l', h.chain, hold, h.nodup, ?_, ?_⟩
    · exact forall_setThread ht (fun new cd hp hl => h.ackPut _ _ ht _ _ hp (hT.ackPut_none hp hl)) h.ackPut
    · exact forall_setThread ht (fun o hl => h.ackApp _ _ ht _ (hT.ackApp_none hl)) h.ackApp
  · have hni := h.not_in_log ht hl
    rw [hs] at hold ⊢
    refine ⟨hprog _, ?_, ?_, ?_, ?_, ?_⟩
    · have := h.chain.snoc cm (by rw [hcm])
      rw [hcm] at this ⊢
      exact this
    · intro cm' hcm'
      rcases List.mem_append.1 hcm' with hm | hm
      · exact hold cm' hm
      · cases List.mem_singleton.1 hm
        rw [hcm]
        exact ⟨_, r, getElem?_setThread_self ht, rfl⟩
    · rw [List.map_append, List.nodup_append]
      refine ⟨h.nodup, by simp, ?_⟩
      intro a ha b hb
      simp at hb ha
      obtain ⟨cm', hm, rfl⟩ := ha
      subst hb
      rw [hcm]
      exact hni cm' hm
    · refine forall_setThread ht (fun new cd hp _ => ⟨cm, by simp, by rw [hcm], hT.ackPut_commit hp⟩)
        fun j u hu new cd hp hl2 => ?_
      obtain ⟨cm', hm, hx⟩ := h.ackPut j u hu new cd hp hl2
      exact ⟨cm', by simp [hm], hx⟩
    · refine forall_setThread ht (fun o _ => ⟨cm, by simp, by rw [hcm]⟩) fun j u hu o hl2 => ?_
      obtain ⟨cm', hm, hx⟩ := h.ackApp j u hu o hl2
      exact ⟨cm', by simp [hm], hx⟩

theorem Inv.step {row0 progs s} (sz : PartId → Nat) (h : Inv row0 progs s) (i : Nat) :
    Inv row0 progs (step sz s i) := by
  have hB := h.base.step sz i
  rcases step_cases sz s i with hs | ⟨t, ht, ⟨l', hT, hs⟩ | ⟨d', r, cm, hT, hch, hcm, hl, hs⟩⟩
  · rw [hs]; exact h
  · rw [hs] at hB ⊢
    refine ⟨hB, h.rowId, ?_, ?_, ?_, h.cas⟩
    · exact forall_setThread ht (hT.forall_regs (h.reg _ _ ht) fun _ hx => RegOK.of_row h.rowId hx) h.reg
    · exact forall_setThread ht (hT.condOK (h.cond _ _ ht)) h.cond
    · exact forall_setThread ht (hT.r3OK (h.r3 _ _ ht) rfl) h.r3
  · rw [hs] at hB ⊢
    refine ⟨hB, hch.rowId h.rowId, ?_, ?_, ?_, ?_⟩
    · exact forall_setThread ht (fun x hx => nomatch hx) fun j u hu x hx => hch.regOK (h.reg j u hu x hx)
    · exact forall_setThread ht (hT.condOK (h.cond _ _ ht)) h.cond
    · exact forall_setThread ht (.of_loc (by intro _ _ _ h; cases h)) fun j u hu =>
        (h.r3 j u hu).change hch (h.reg j u hu)
    · intro cm' hcm' p hp
      rcases List.mem_append.1 hcm' with hm | hm
      · exact h.cas cm' hm p hp
      · -- the new entry is that of thread `i`, whose program is `t.prog`
        cases List.mem_singleton.1 hm
        rw [hcm, h.base.prog_mem ht] at hp
        cases hp
        exact hT.casOK (h.reg _ _ ht) (h.cond _ _ ht)

theorem InvB.exec {row0 progs s} (sz : PartId → Nat) (h : InvB row0 progs s) (sched : List Nat) :
    InvB row0 progs (exec sz s sched) :=
  List.foldlRecOn sched _ h fun _ hs i _ => hs.step sz i

theorem Inv.exec {row0 progs s} (sz : PartId → Nat) (h : Inv row0 progs s) (sched : List Nat) :
    Inv row0 progs (exec sz s sched) :=
  List.foldlRecOn sched _ h fun _ hs i _ => hs.step sz i

theorem prog_const (sz row nextId progs sched) (i : Nat) :
    ((exec sz (init row nextId progs) sched).threads[i]?).map (·.prog) = progs[i]? :=
  ((invB_init row nextId progs).exec sz sched).prog i

/-- **cas_no_lost_update**: for ARBITRARY schedules, a conditional writer that was acknowledged replaced
exactly a row with the parts (= ETag) it named; an If-None-Match writer replaced nothing. -/
theorem cas_no_lost_update (sz : PartId → Nat) (row : Option Cell) (nextId : Nat) (progs : List Prog) (sched : List Nat)
    (hid : ∀ c, row = some c → c.id < nextId) :
    ∀ cm ∈ (exec sz (init row nextId progs) sched).log,
      (∀ new e, progs[cm.tid]? = some (.put new (.im e)) → ∃ b, cm.before = some b ∧ b.parts = e) ∧
      (∀ e, progs[cm.tid]? = some (.del (some e)) → ∃ b, cm.before = some b ∧ b.parts = e) ∧
      (∀ new, progs[cm.tid]? = some (.put new .inm) → cm.before = none) := by
  intro cm hcm
  have h := ((inv_init row nextId progs hid).exec sz sched).cas cm hcm
  exact ⟨fun new e hp => h _ hp, fun e hp => h _ hp, fun new hp => h _ hp⟩

/-- What an appender read first (`P`) against the current content: still a prefix of it, or a put has
replaced the content since, and then it begins with a part that `P` does not have. -/
def PrefixOrReplaced (P cur : List PartId) : Prop := P <+: cur ∨ ∃ x, cur.head? = some x ∧ x ∉ P

theorem PrefixOrReplaced.refl (P : List PartId) : PrefixOrReplaced P P := Or.inl (List.prefix_refl P)

/-- A commit adds `news` to the content or replaces the content by it; `P` has seen none of them. -/
theorem PrefixOrReplaced.commit {P cur base news : List PartId} (h : PrefixOrReplaced P cur)
    (hb : base = cur ∨ base = []) (hne : news ≠ []) (hnew : ∀ x ∈ news, x ∉ P) : PrefixOrReplaced P (base ++ news) := by
  rcases hb with rfl | rfl
  · rcases h with h | ⟨x, hx, hxP⟩
    · exact .inl (h.trans (List.prefix_append base news))
    · refine .inr ⟨x, ?_, hxP⟩
      cases base with
      | nil => simp at hx
      | cons a as => simpa using hx
  · cases news with
    | nil => exact absurd rfl hne
    | cons y ys => exact .inr ⟨y, rfl, hnew y (List.mem_cons_self ..)⟩

/-- At the commit of an appender that read `P` first, the prefix check says `cur <+: P ++ [new]`. -/
theorem PrefixOrReplaced.eq_of_prefix {P cur : List PartId} {new : PartId} (hj : PrefixOrReplaced P cur)
    (hpre : cur <+: P ++ [new]) (hnew : new ∉ cur) : cur = P := by
  have h1 : cur <+: P := by
    rcases List.prefix_concat_iff.1 hpre with h | h
    · exact absurd (by simp [h]) hnew
    · exact h
  rcases hj with h2 | ⟨x, hx, hxP⟩
  · exact List.IsPrefix.eq_of_length_le h1 h2.length_le
  · exfalso
    cases cur with
    | nil => simp at hx
    | cons a as =>
      simp at hx; subst hx
      exact hxP (h1.subset (by simp))

/-- The programs the append theorems admit: appends and puts of non-empty content. A delete between
an appender's reads makes it re-create the deleted content, and the empty content is a prefix of
every list, so after a put of no parts the prefix check lets a stale append through
(`C12Concurrent.append_resurrects_deleted_object`, `append_over_empty_replacement`). -/
def AppendOrPut : Prog → Prop
  | .append _ _ => True
  | .put new _ => new ≠ []
  | .del _ => False

theorem AppendOrPut.news_ne_nil : ∀ {p : Prog}, AppendOrPut p → p.news ≠ []
  | .append _ _, _ => List.cons_ne_nil _ _
  | .put _ _, h => h

/-- The part ids the programs bring in are pairwise distinct and none of them is in the initial row. -/
def Fresh (row : Option Cell) (progs : List Prog) : Prop :=
  (progs.flatMap Prog.news).Nodup ∧ ∀ x ∈ progs.flatMap Prog.news, x ∉ partsOf row

theorem Fresh.disjoint {row : Option Cell} {progs : List Prog} (hf : Fresh row progs) {i j : Nat}
    {p q : Prog} {x : PartId} (hi : progs[i]? = some p) (hj : progs[j]? = some q) (hij : i ≠ j)
    (hx : x ∈ p.news) : x ∉ q.news :=
  nodup_flatMap_disjoint hf.1 hi hj hij hx

theorem Fresh.not_row {row : Option Cell} {progs : List Prog} (hf : Fresh row progs) {i : Nat}
    {p : Prog} {x : PartId} (hi : progs[i]? = some p) (hx : x ∈ p.news) : x ∉ partsOf row :=
  hf.2 x (List.mem_flatMap.2 ⟨p, List.mem_of_getElem? hi, hx⟩)

/-- The part ids a log entry brought in (those of its thread's program). -/
def newsOf (progs : List Prog) (cm : Commit) : List PartId := (progs[cm.tid]?.map Prog.news).getD []

theorem mem_newsOf {progs : List Prog} {cm : Commit} {x : PartId} :
    x ∈ newsOf progs cm ↔ ∃ p, progs[cm.tid]? = some p ∧ x ∈ p.news := by
  unfold newsOf
  cases progs[cm.tid]? <;> simp

/-- The part ids that have entered the history: the initial ones and those of committed writers. -/
def Known (row0 : Option Cell) (progs : List Prog) (log : List Commit) (x : PartId) : Prop :=
  x ∈ partsOf row0 ++ log.flatMap (newsOf progs)

theorem Known.mono {row0 progs log x} (h : Known row0 progs log x) (cm : Commit) :
    Known row0 progs (log ++ [cm]) x := by
  unfold Known
  rw [List.flatMap_append, ← List.append_assoc]
  exact List.mem_append_left _ h

theorem Known.new {row0 progs log x} {cm : Commit} {p : Prog} (hp : progs[cm.tid]? = some p)
    (hx : x ∈ p.news) : Known row0 progs (log ++ [cm]) x :=
  List.mem_append_right _ (List.mem_flatMap.2 ⟨cm, List.mem_append_right _ (List.mem_singleton_self cm),
    mem_newsOf.2 ⟨p, hp, hx⟩⟩)

theorem Fresh.not_known {row0 : Option Cell} {progs : List Prog} (hf : Fresh row0 progs) {i : Nat}
    {p : Prog} {x : PartId} (hi : progs[i]? = some p) (hx : x ∈ p.news) {log : List Commit}
    (hlog : ∀ cm ∈ log, cm.tid ≠ i) : ¬ Known row0 progs log x := by
  intro h
  rcases List.mem_append.1 h with h | h
  · exact hf.not_row hi hx h
  · obtain ⟨cm, hm, hxc⟩ := List.mem_flatMap.1 h
    obtain ⟨q, hq, hxq⟩ := mem_newsOf.1 hxc
    exact hf.disjoint hi hq (fun e => hlog cm hm e.symm) hx hxq

/-- the first read of an appender -/
def c1of : Loc → Option (Option Cell)
  | .r1 c => some c
  | .r2 c _ => some c
  | .r3 c _ _ => some c
  | _ => none

theorem TStep.c1of_new {sz tid d p l d' l' c} (h : TStep sz tid d p l d' l' c) {c1 : Option Cell}
    (hc : c1of l' = some c1) :
    c1of l = some c1 ∨
      (c1 = d.row ∧ ∀ new off n, p = .append new off → off = some n → n = sizeOf sz (partsOf d.row)) := by
  cases h
  case stutter | appRead2 | appRead3 => exact .inl hc
  case appRead1 hoff =>
    cases hc
    exact .inr ⟨rfl, fun _ _ n hp ho => hoff n (by cases hp; exact ho)⟩
  all_goals cases hc

theorem TStep.commit_content {sz tid d p l d' l' cm} (h : TStep sz tid d p l d' l' (some cm))
    (hr3 : R3OK d p l) (hfresh : ∀ x ∈ p.news, x ∉ partsOf d.row)
    (h1 : ∀ c1, c1of l = some c1 → PrefixOrReplaced (partsOf c1) (partsOf d.row) ∧
      ∀ new off n, p = .append new off → off = some n → n = sizeOf sz (partsOf c1)) :
    ∃ base, partsOf d'.row = base ++ p.news ∧ (base = partsOf d.row ∨ base = []) ∧
      ∀ new off, p = .append new off → base = partsOf d.row ∧
        l' = .done (.okAt (sizeOf sz (partsOf d.row))) ∧ ∀ n, off = some n → n = sizeOf sz (partsOf d.row) := by
  cases h
  case putUpd | putIns | delCommit => exact ⟨[], rfl, .inr rfl, nofun⟩
  case appIns new off c1 hrow =>
    -- no row: the empty content is a prefix of anything
    have hcur : partsOf d.row = partsOf c1 := by
      have hj := (h1 c1 rfl).1
      rw [hrow] at hj ⊢
      exact hj.eq_of_prefix (new := new) List.nil_prefix nofun
    refine ⟨partsOf d.row, by rw [hcur]; rfl, .inl rfl, fun _ _ e => ?_⟩
    cases e
    exact ⟨rfl, by rw [hcur], fun n hn => hcur ▸ (h1 c1 rfl).2 _ _ n rfl hn⟩
  case appCas new off c1 sc p3 r hrow hid hver =>
    -- the guard holds, so read 3 returned the current content, a prefix of what was read first plus `new`
    have hp3 := hr3.1 ((guard_iff sc d).2 ⟨r, hrow, hid, hver⟩)
    have hcur : partsOf d.row = partsOf c1 :=
      (h1 c1 rfl).1.eq_of_prefix (hp3 ▸ hr3.2) (hfresh new (List.mem_singleton_self new))
    have hr : r.parts = partsOf c1 := by rw [← hcur, hrow]; rfl
    refine ⟨partsOf d.row, ?_, .inl rfl, fun _ _ e => ?_⟩
    · rw [← hp3, hcur]
      simp [partsOf, hr, Prog.news]
    · cases e
      exact ⟨rfl, by rw [hcur], fun n hn => hcur ▸ (h1 c1 rfl).2 _ _ n rfl hn⟩

/-- What a log entry of an appender says. -/
def ExactOK (sz : PartId → Nat) (threads : List Thread) (progs : List Prog) (cm : Commit) : Prop :=
  ∀ new off, progs[cm.tid]? = some (.append new off) →
    partsOf cm.after = partsOf cm.before ++ [new] ∧
    (∃ t, threads[cm.tid]? = some t ∧ t.loc = .done (.okAt (sizeOf sz (partsOf cm.before)))) ∧
    (∀ n, off = some n → n = sizeOf sz (partsOf cm.before))

/-- The invariant of the append theorems (appenders and non-empty putters, fresh part ids). What
an appender read first stays known, related to the current content by `PrefixOrReplaced`, and of
the size of the offset it named. -/
structure Inv2 (sz : PartId → Nat) (row0 : Option Cell) (progs : List Prog) (s : State) : Prop where
  core : Inv row0 progs s
  known : ∀ x ∈ partsOf s.db.row, Known row0 progs s.log x
  read1 : ∀ (i : Nat) (t : Thread), s.threads[i]? = some t → ∀ c1, c1of t.loc = some c1 →
    (∀ x ∈ partsOf c1, Known row0 progs s.log x) ∧ PrefixOrReplaced (partsOf c1) (partsOf s.db.row) ∧
    ∀ new off n, t.prog = .append new off → off = some n → n = sizeOf sz (partsOf c1)
  exact : ∀ cm ∈ s.log, ExactOK sz s.threads progs cm

theorem inv2_init (sz : PartId → Nat) (row : Option Cell) (nextId : Nat) (progs : List Prog)
    (hid : ∀ c, row = some c → c.id < nextId) : Inv2 sz row progs (init row nextId progs) := by
  refine ⟨inv_init row nextId progs hid, fun x hx => List.mem_append_left _ hx, ?_, by simp [init]⟩
  intro i t h c1 hc
  simp [init_loc h, c1of] at hc

theorem Inv2.step {sz : PartId → Nat} {row0 progs s} (hp : ∀ p ∈ progs, AppendOrPut p)
    (hf : Fresh row0 progs) (h : Inv2 sz row0 progs s) (i : Nat) :
    Inv2 sz row0 progs (step sz s i) := by
  have h1 := h.core.step sz i
  have hold : ∀ cm ∈ s.log, ExactOK sz (MetaFine.step sz s i).threads progs cm := fun cm hcm new off hpa =>
    let ⟨e1, ⟨u, hu, hul⟩, e3⟩ := h.exact cm hcm new off hpa; ⟨e1, ⟨u, step_done hu hul i, hul⟩, e3⟩
  rcases step_cases sz s i with hs | ⟨t, ht, ⟨l', hT, hs⟩ | ⟨d', r, cm, hT, hch, hcm, hl, hs⟩⟩
  · rw [hs]; exact h
  · rw [hs] at hold h1 ⊢
    refine ⟨h1, h.known, ?_, hold⟩
    refine forall_setThread ht (fun c1 hc => ?_) h.read1
    rcases hT.c1of_new hc with hc' | ⟨rfl, hn⟩
    · exact h.read1 _ _ ht _ hc'
    · exact ⟨h.known, PrefixOrReplaced.refl _, hn⟩
  · have hpi := h.core.base.prog_mem ht
    have hni := h.core.base.not_in_log ht hl
    have hpcm : progs[cm.tid]? = some t.prog := by rw [hcm]; exact hpi
    have hfresh : ∀ x ∈ t.prog.news, x ∉ partsOf s.db.row :=
      fun x hx hxr => hf.not_known hpi hx hni (h.known x hxr)
    have hne := (hp _ (List.mem_of_getElem? hpi)).news_ne_nil
    obtain ⟨base, hcn, hbase, happ⟩ := hT.commit_content (h.core.r3 _ _ ht) hfresh
      fun c1 hc => (h.read1 _ _ ht c1 hc).2
    rw [hs] at hold h1 ⊢
    refine ⟨h1, ?_, ?_, ?_⟩
    · intro x hx
      rcases List.mem_append.1 (hcn ▸ hx) with hx | hx
      · rcases hbase with rfl | rfl
        · exact (h.known x hx).mono cm
        · cases hx
      · exact Known.new hpcm hx
    · refine forall_setThread ht (fun c1 hc => nomatch hc) fun j u hu c1 hc => ?_
      obtain ⟨hk, hj, ho⟩ := h.read1 j u hu c1 hc
      refine ⟨fun x hx => (hk x hx).mono cm, ?_, ho⟩
      rw [hcn]
      -- no register has seen the parts the commit brings in
      exact hj.commit hbase hne fun y hy hyP => hf.not_known hpi hy hni (hk y hyP)
    · intro cm' hcm' new off hpa
      rcases List.mem_append.1 hcm' with hm | hm
      · exact hold cm' hm new off hpa
      · cases List.mem_singleton.1 hm
        rw [hpcm] at hpa
        obtain ⟨hb, e2, e3⟩ := happ new off (Option.some.inj hpa)
        rw [hcm]
        exact ⟨by rw [hcn, hb, Option.some.inj hpa]; rfl, ⟨_, getElem?_setThread_self ht, Loc.done.inj e2 ▸ rfl⟩, e3⟩

theorem Inv2.exec {sz : PartId → Nat} {row0 progs s} (hp : ∀ p ∈ progs, AppendOrPut p)
    (hf : Fresh row0 progs) (h : Inv2 sz row0 progs s) (sched : List Nat) :
    Inv2 sz row0 progs (exec sz s sched) :=
  List.foldlRecOn sched _ h fun _ hs i _ => hs.step hp hf i

/-- **append_commit_exact**: with appenders and (non-empty) putters only, for ARBITRARY schedules, an
acknowledged append extended exactly the row that was current at its commit, at the offset it reports. -/
theorem append_commit_exact (sz row nextId progs sched)
    (hid : ∀ c, row = some c → c.id < nextId) (hp : ∀ p ∈ progs, AppendOrPut p) (hf : Fresh row progs) :
    ∀ cm ∈ (exec sz (init row nextId progs) sched).log, ∀ new off, progs[cm.tid]? = some (.append new off) →
      partsOf cm.after = partsOf cm.before ++ [new] ∧
      (∃ t, (exec sz (init row nextId progs) sched).threads[cm.tid]? = some t ∧ t.loc = .done (.okAt (sizeOf sz (partsOf cm.before)))) ∧
      (∀ n, off = some n → n = sizeOf sz (partsOf cm.before)) :=
  ((inv2_init sz row nextId progs hid).exec hp hf sched).exact

theorem chain_parts {progs : List Prog} {a b : Option Cell} {l : List Commit} (h : Chain a l b)
    (hl : ∀ cm ∈ l, partsOf cm.after = partsOf cm.before ++ newsOf progs cm) :
    partsOf b = partsOf a ++ l.flatMap (newsOf progs) := by
  induction l generalizing a with
  | nil => simp [Chain] at h; simp [h]
  | cons c cs ih =>
    simp only [Chain] at h
    have h1 := hl c (by simp)
    have h2 := ih h.2 (fun cm hm => hl cm (by simp [hm]))
    rw [h2, h1, h.1]
    simp

theorem chain_parts_split {progs : List Prog} {a b : Option Cell} {l1 l2 : List Commit} {cm : Commit}
    (h : Chain a (l1 ++ cm :: l2) b)
    (hl : ∀ c ∈ l1 ++ cm :: l2, partsOf c.after = partsOf c.before ++ newsOf progs c) :
    partsOf cm.before = partsOf a ++ l1.flatMap (newsOf progs) ∧
      partsOf b = partsOf cm.after ++ l2.flatMap (newsOf progs) := by
  obtain ⟨_, hc1, rfl, hc2⟩ := h.split
  exact ⟨chain_parts hc1 fun c hc => hl c (by simp [hc]), chain_parts hc2 fun c hc => hl c (by simp [hc])⟩

theorem nodup_split_tids {l1 l2 : List Commit} {cm : Commit}
    (h : ((l1 ++ cm :: l2).map (·.tid)).Nodup) :
    (∀ c ∈ l1, c.tid ≠ cm.tid) ∧ (∀ c ∈ l2, c.tid ≠ cm.tid) := by
  rw [List.map_append, List.map_cons, List.nodup_append, List.nodup_cons] at h
  obtain ⟨_, ⟨h2, _⟩, h3⟩ := h
  constructor
  · intro c hc
    exact h3 c.tid (List.mem_map.2 ⟨c, hc, rfl⟩) cm.tid (by simp)
  · intro c hc he
    exact h2 (List.mem_map.2 ⟨c, hc, he⟩)

/-- **no_lost_append**: appenders only, ARBITRARY schedules: the final content is the initial content
followed by the acknowledged appends in commit order; every acknowledged append occurs exactly once, at
its accepted offset; an append that was not acknowledged does not occur. -/
theorem no_lost_append (sz row nextId progs sched)
    (hid : ∀ c, row = some c → c.id < nextId) (ha : ∀ p ∈ progs, ∃ new off, p = .append new off) (hf : Fresh row progs) :
    let s := exec sz (init row nextId progs) sched
    partsOf s.db.row = partsOf row ++ (s.log.flatMap fun cm => (progs[cm.tid]?.map Prog.news).getD []) ∧
    (∀ (i : Nat) (t : Thread) new off o, s.threads[i]? = some t → t.prog = .append new off → t.loc = .done (.okAt o) →
        (partsOf s.db.row).count new = 1 ∧ ∃ pre post, partsOf s.db.row = pre ++ new :: post ∧ sizeOf sz pre = o) ∧
    (∀ (i : Nat) (t : Thread) new off, s.threads[i]? = some t → t.prog = .append new off → (∀ o, t.loc ≠ .done (.okAt o)) → new ∉ partsOf s.db.row) := by
  intro s
  have hp : ∀ p ∈ progs, AppendOrPut p := by
    intro p hpm
    obtain ⟨new, off, rfl⟩ := ha p hpm
    trivial
  have h2 : Inv2 sz row progs s := (inv2_init sz row nextId progs hid).exec hp hf sched
  have hB := h2.core.base
  have hlog : ∀ cm ∈ s.log, partsOf cm.after = partsOf cm.before ++ newsOf progs cm := by
    intro cm hcm
    obtain ⟨t, r, ht, _⟩ := hB.logDone cm hcm
    have hpm := hB.prog_mem ht
    obtain ⟨new, off, hpr⟩ := ha _ (List.mem_of_getElem? hpm)
    rw [hpr] at hpm
    rw [(h2.exact cm hcm new off hpm).1]
    simp [newsOf, hpm, Prog.news]
  have hall := chain_parts hB.chain hlog
  refine ⟨hall, ?_, ?_⟩
  · intro i t new off o ht hpr hl
    obtain ⟨cm, hcm, rfl⟩ := hB.ackApp _ t ht o hl
    have hpm : progs[cm.tid]? = some (.append new off) := hpr ▸ hB.prog_mem ht
    obtain ⟨e1, ⟨t', ht', hl'⟩, _⟩ := h2.exact cm hcm new off hpm
    cases ht.symm.trans ht'
    have ho : o = sizeOf sz (partsOf cm.before) := by simpa [hl] using hl'
    -- the log around the entry: no other entry is of this thread, so none brings in `new`
    obtain ⟨l1, l2, hsplit⟩ := List.append_of_mem hcm
    obtain ⟨hn1, hn2⟩ := nodup_split_tids (hsplit ▸ hB.nodup)
    obtain ⟨hpre, hpost⟩ := chain_parts_split (hsplit ▸ hB.chain) (hsplit ▸ hlog)
    have hnew : new ∈ (Prog.append new off).news := List.mem_singleton_self new
    have hnot1 : new ∉ partsOf cm.before := hpre ▸ hf.not_known hpm hnew hn1
    have hnot2 : new ∉ l2.flatMap (newsOf progs) := fun h => hf.not_known hpm hnew hn2 (List.mem_append_right _ h)
    have hshape : partsOf s.db.row = partsOf cm.before ++ new :: l2.flatMap (newsOf progs) := by
      rw [hpost, e1]; simp
    refine ⟨?_, partsOf cm.before, l2.flatMap (newsOf progs), hshape, ho.symm⟩
    rw [hshape, List.count_append, List.count_cons_self, List.count_eq_zero.2 hnot1,
      List.count_eq_zero.2 hnot2]
  · intro i t new off ht hpr hl
    have hpm : progs[i]? = some (.append new off) := hpr ▸ hB.prog_mem ht
    -- a log entry of thread `i` would mean that it was acknowledged
    have hni : ∀ cm ∈ s.log, cm.tid ≠ i := by
      rintro cm hcm rfl
      obtain ⟨_, ⟨t', ht', hl'⟩, _⟩ := h2.exact cm hcm new off hpm
      cases ht.symm.trans ht'
      exact hl _ hl'
    rw [hall]
    exact hf.not_known hpm (List.mem_singleton_self new) hni

/-- non-vacuity: a two-appender race satisfying the hypotheses of the append theorems; appender 0
wins, appender 1 loses the version race at its commit (`InvalidWriteOffset`). -/
example :
    (∀ p ∈ [Prog.append 2 none, .append 3 none], AppendOrPut p) ∧
    Fresh (some ⟨0, 1, [1]⟩) [.append 2 none, .append 3 none] ∧
    (let s := exec (fun _ => 1) (init (some ⟨0, 1, [1]⟩) 1 [.append 2 none, .append 3 none])
        [0, 0, 0, 1, 1, 1, 0, 1]
     s.db.row = some ⟨0, 2, [1, 2]⟩ ∧
     s.threads.map (·.loc) = [.done (.okAt 1), .done .invalidOffset] ∧ s.log.map (·.tid) = [0]) := by
  refine ⟨by simp [AppendOrPut], ⟨by decide, by decide⟩, by decide⟩

/-- non-vacuity: the same race, but appender 1 reads the part rows (read 3) after appender 0 has
committed: the prefix check fails (`internal`). -/
example :
    (∀ p ∈ [Prog.append 2 none, .append 3 none], AppendOrPut p) ∧
    Fresh (some ⟨0, 1, [1]⟩) [.append 2 none, .append 3 none] ∧
    (let s := exec (fun _ => 1) (init (some ⟨0, 1, [1]⟩) 1 [.append 2 none, .append 3 none])
        [0, 0, 0, 1, 1, 0, 1]
     s.db.row = some ⟨0, 2, [1, 2]⟩ ∧
     s.threads.map (·.loc) = [.done (.okAt 1), .done .internal] ∧ s.log.map (·.tid) = [0]) := by
  refine ⟨by simp [AppendOrPut], ⟨by decide, by decide⟩, by decide⟩

end Pithos.MetaFine
