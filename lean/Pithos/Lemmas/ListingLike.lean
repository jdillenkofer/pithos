/-
SQLite `LIKE` against a byte prefix: for a prefix without `%`, `_` and ASCII letters,
`key LIKE prefix || '%'` holds exactly for the keys that start with the prefix, byte for byte.
`C06.FilterExact`, the hypothesis C06 is stated under, is defined here. Core Lean only.
-/
import Pithos.Model.Listing

namespace Pithos.Listing
open Pithos.S3List (Key)

/-- Bytes that `LIKE` treats literally and case-sensitively: everything except `%`, `_` and the
ASCII letters. -/
def likeSafeByte (b : UInt8) : Bool :=
  b != 0x25 && b != 0x5F && !(0x41 ≤ b && b ≤ 0x5A) && !(0x61 ≤ b && b ≤ 0x7A)

def LikeSafe (pfx : Key) : Bool := pfx.all likeSafeByte

end Pithos.Listing

namespace Pithos.C06
open Pithos.Listing Pithos.S3List

/-- The prefix predicate is byte-exact: either the statement is the exact form, or it is `LIKE`
and the prefix contains no `%`, no `_` and no ASCII letter. -/
def FilterExact (f : PrefixFilter) (pfx : Key) : Prop := f = .exact ∨ LikeSafe pfx = true

end Pithos.C06

namespace Pithos.Listing
open Pithos.S3List (Key)
open Pithos.C06 (FilterExact)

theorem asciiLower_toNat (b : UInt8) : (asciiLower b).toNat = if 0x41 ≤ b.toNat ∧ b.toNat ≤ 0x5A then b.toNat + 0x20 else b.toNat := by
  unfold asciiLower
  have hb := b.toNat_lt
  by_cases h : (0x41 ≤ b && b ≤ 0x5A) = true
  · have h' : 0x41 ≤ b.toNat ∧ b.toNat ≤ 0x5A := by
      simp only [Bool.and_eq_true, decide_eq_true_eq, UInt8.le_iff_toNat_le] at h
      exact h
    rw [if_pos h, if_pos h', UInt8.toNat_add]
    have : (0x20 : UInt8).toNat = 0x20 := rfl
    rw [this]; omega
  · have h' : ¬ (0x41 ≤ b.toNat ∧ b.toNat ≤ 0x5A) := by
      simp only [Bool.and_eq_true, decide_eq_true_eq, UInt8.le_iff_toNat_le] at h
      exact h
    rw [if_neg h, if_neg h']

theorem likeByteEq_of_safe {c : UInt8} (hc : likeSafeByte c = true) (d : UInt8) :
    likeByteEq c d = (c == d) := by
  cases hcd : c == d with
  | true => simp [likeByteEq, hcd]
  | false =>
    -- `c` is no letter, so folding case makes no other byte equal to it
    have hlow : asciiLower c ≠ asciiLower d := by
      intro heq
      have hcn : c.toNat ≠ d.toNat := fun h => (by simpa using hcd : c ≠ d) (UInt8.toNat_inj.mp h)
      have h1 := congrArg UInt8.toNat heq
      rw [asciiLower_toNat, asciiLower_toNat] at h1
      simp only [likeSafeByte, Bool.and_eq_true, bne_iff_ne, ne_eq, Bool.not_eq_true',
        Bool.and_eq_false_imp, decide_eq_true_eq, decide_eq_false_iff_not, UInt8.le_iff_toNat_le] at hc
      obtain ⟨⟨⟨h25, h5f⟩, hup⟩, hlo⟩ := hc
      have e41 : (0x41 : UInt8).toNat = 0x41 := rfl
      have e5a : (0x5A : UInt8).toNat = 0x5A := rfl
      have e61 : (0x61 : UInt8).toNat = 0x61 := rfl
      have e7a : (0x7A : UInt8).toNat = 0x7A := rfl
      rw [e41, e5a] at hup
      rw [e61, e7a] at hlo
      split at h1 <;> split at h1 <;> omega
    simp [likeByteEq, hcd, hlow]

theorem likeStar_of_nil {k : Key → Bool} (h : k [] = true) (s : Key) : likeStar k s = true := by
  induction s with
  | nil => simpa [likeStar] using h
  | cons d s ih => simp [likeStar, ih]

theorem sqliteLike_eq_isPrefixOf (pfx : Key) (h : LikeSafe pfx = true) (k : Key) :
    sqliteLike (pfx ++ [0x25]) k = pfx.isPrefixOf k := by
  induction pfx generalizing k with
  | nil =>
    simp only [List.nil_append, sqliteLike, beq_self_eq_true, if_true, List.isPrefixOf]
    exact likeStar_of_nil (by simp) k
  | cons c p ih =>
    simp only [LikeSafe, List.all_cons, Bool.and_eq_true] at h
    have hc := h.1
    have hc25 : (c == 0x25) = false := by
      simp only [likeSafeByte, Bool.and_eq_true, bne_iff_ne, ne_eq] at hc
      simpa using hc.1.1.1
    have hc5f : (c == 0x5F) = false := by
      simp only [likeSafeByte, Bool.and_eq_true, bne_iff_ne, ne_eq] at hc
      simpa using hc.1.1.2
    cases k with
    | nil => simp [sqliteLike, hc25, hc5f, List.isPrefixOf]
    | cons d k' =>
      simp only [List.cons_append, sqliteLike, hc25, hc5f, Bool.false_eq_true, if_false,
        List.isPrefixOf, likeByteEq_of_safe hc d]
      rw [ih h.2 k']

theorem matchPrefix_eq_isPrefixOf (f : PrefixFilter) (pfx : Key)
    (h : FilterExact f pfx) (k : Key) : matchPrefix f pfx k = pfx.isPrefixOf k := by
  cases f with
  | exact => rfl
  | like =>
    rcases h with h | h
    · cases h
    · exact sqliteLike_eq_isPrefixOf pfx h k

end Pithos.Listing
