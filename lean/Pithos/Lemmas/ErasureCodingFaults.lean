/-
One stripe of the read/heal loop of the erasure-coding store under faults (helpers for C17).
A shard reader is *honest* (`HonestFrom`) when every frame it yields is the true frame of that stripe: it
may stop early (missing, truncated, detectably corrupted), but it never lies, and nothing frame-like follows
the last true frame. Over `HonestReaders` (all honest, those of a fixed non-empty set `I` intact) one stripe
either fails for want of `d` payloads or delivers exactly that stripe and leaves honest readers
(`loop_step`); the MDS property is needed only when a data reader is not intact. The induction over the
stripes is `loop_honest` in `Pithos.Lemmas.ErasureCodingHeal`. What the loop keeps per shard is a function
`f` of the shard index, and the list the model wants is `(List.range c.n).map f`: no lengths to carry, and a
step of the loop is `List.map_map`.
The file closes with the same notions at the level of `read`: the answer of a shard store is honest
(`ShardHonest`: missing, unusable at open, or an honest reader behind the shard header) or intact
(`shardIntact`, `opened_intact`); and the read of a part none of whose shards exists (`read_absent`, for C15).
-/
import Pithos.Lemmas.ErasureCoding

namespace Pithos.EC
open Pithos.Codec

section
variable {c : Cfg} {code : Code} {H : Bytes → Bytes}

/-- the true payload of shard `k` for stripe `x` -/
def truePayload (c : Cfg) (code : Code) (x : Bytes) (k : Nat) : Bytes := (stripeShards c code x).getD k []

/-- Honest reader of shard `k`, positioned at stripe `j` with the true stripes `xs` still to come. -/
def HonestFrom (c : Cfg) (code : Code) (H : Bytes → Bytes) (k : Nat) : Nat → List Bytes → Bytes → Prop
  | j, [], r => readFrame H j r = .eof
  | j, x :: xs, r =>
    match readFrame H j r with
    | .eof => True
    | .bad => True
    | .ok db p rest => db = x.length ∧ p = truePayload c code x k ∧ HonestFrom c code H k (j + 1) xs rest

theorem honestFrom_cons_ok {k j : Nat} {x : Bytes} {xs : List Bytes}
    {r : Bytes} {db : Nat} {p rest : Bytes} (h : readFrame H j r = .ok db p rest) :
    HonestFrom c code H k j (x :: xs) r ↔
      db = x.length ∧ p = truePayload c code x k ∧ HonestFrom c code H k (j + 1) xs rest := by
  simp only [HonestFrom, h]

theorem HonestFrom.prefix {k : Nat} (t : Bytes) :
    ∀ {xs : List Bytes} {j : Nat} {r : Bytes}, HonestFrom c code H k j xs (r ++ t) → HonestFrom c code H k j xs r := by
  intro xs
  induction xs with
  | nil =>
    intro j r h
    simp only [HonestFrom, readFrame_eof_iff, List.length_append] at h ⊢
    omega
  | cons x xs ih =>
    intro j r h
    cases hf : readFrame H j r with
    | eof => simp only [HonestFrom, hf]
    | bad => simp only [HonestFrom, hf]
    | ok db p rest =>
      rw [honestFrom_cons_ok (readFrame_append hf t)] at h
      exact (honestFrom_cons_ok hf).2 ⟨h.1, h.2.1, ih h.2.2⟩

/-- MDS: whenever at least `d` shards are present and every present shard is the true one, the code
recovers the data shards. (The whole codeword, which the repaired heal path needs, is `MDSAll` in
`Pithos.Lemmas.ErasureCodingHeal`.) -/
structure MDS (c : Cfg) (code : Code) : Prop where
  reconstruct_ok : ∀ (data : List Bytes) (L : Nat) (avail : List (Option Bytes)),
    data.length = c.d → (∀ x ∈ data, x.length = L) → avail.length = c.n →
    (∀ k, k < c.n → avail.getD k none = none ∨ avail.getD k none = some ((data ++ code.parity c.d c.p data).getD k [])) →
    c.d ≤ (avail.filter Option.isSome).length →
    code.reconstruct c.d c.p avail = some data

/-- every present shard is the true one -/
def TrueOrNone (all : List Bytes) (avail : List (Option Bytes)) : Prop :=
  avail.length = all.length ∧ ∀ k, k < all.length → avail.getD k none = none ∨ avail.getD k none = some (all.getD k [])

theorem true_of_mem {all : List Bytes} {avail : List (Option Bytes)} (h : TrueOrNone all avail) {b : Bytes}
    (hb : b ∈ avail.filterMap id) : ∃ i, i < all.length ∧ b = all.getD i [] := by
  rw [List.mem_filterMap] at hb
  obtain ⟨o, ho, hob⟩ := hb
  obtain ⟨i, hi, hio⟩ := List.getElem_of_mem ho
  have hi' : i < all.length := h.1 ▸ hi
  have hg : avail.getD i none = o := by
    rw [List.getD_eq_getElem?_getD, List.getElem?_eq_getElem hi, hio]; rfl
  refine ⟨i, hi', ?_⟩
  rcases h.2 i hi' with h1 | h1
  · rw [hg] at h1; subst h1; cases hob
  · rw [hg] at h1; subst h1; exact (Option.some.inj hob).symm

theorem sameSizes_of_true {all : List Bytes} {avail : List (Option Bytes)} {L : Nat}
    (hL : ∀ s ∈ all, s.length = L) (h : TrueOrNone all avail) : sameSizes avail = true := by
  have hmem : ∀ b ∈ avail.filterMap id, b.length = L := by
    intro b hb
    obtain ⟨i, hi, rfl⟩ := true_of_mem h hb
    exact hL _ (getD_mem all i [] hi)
  unfold sameSizes
  cases hfm : avail.filterMap id with
  | nil => rfl
  | cons a t =>
    simp only [List.all_eq_true, beq_iff_eq]
    intro b hb
    rw [hmem b (by rw [hfm]; exact List.mem_cons_of_mem _ hb), hmem a (by rw [hfm]; exact List.mem_cons_self)]

theorem take_all_present {all : List Bytes} {avail : List (Option Bytes)} {d : Nat} (hd : d ≤ all.length)
    (h : TrueOrNone all avail) (hp : ∀ k, k < d → avail.getD k none ≠ none) :
    (avail.take d).all Option.isSome = true ∧ (avail.take d).filterMap id = all.take d := by
  have hEq : avail.take d = (all.take d).map some := by
    apply List.ext_getElem
    · simp [h.1]
    · intro i h1 h2
      have hid : i < d := by simp at h1; omega
      have hia : i < all.length := by omega
      have hiv : i < avail.length := by rw [h.1]; exact hia
      rcases h.2 i hia with h3 | h3
      · exact absurd h3 (hp i hid)
      · simp only [List.getElem_take, List.getElem_map]
        rw [List.getD_eq_getElem?_getD, List.getElem?_eq_getElem hiv] at h3
        rw [List.getD_eq_getElem?_getD, List.getElem?_eq_getElem hia] at h3
        simpa using h3
  rw [hEq]
  constructor
  · rw [List.all_eq_true]
    intro o ho
    obtain ⟨b, _, rfl⟩ := List.mem_map.1 ho
    rfl
  · rw [List.filterMap_map]
    induction all.take d with
    | nil => rfl
    | cons a t ih => simp

theorem dataOf_true (wf : WF c code H) {x : Bytes}
    {avail : List (Option Bytes)} (hd : MDS c code ∨ ∀ k, k < c.d → avail.getD k none ≠ none)
    (h : TrueOrNone (stripeShards c code x) avail)
    (hcount : c.d ≤ (avail.filter Option.isSome).length) :
    dataOf c code avail = some (stripe c.d x) := by
  obtain ⟨shl, shs⟩ := stripeShards_spec wf x
  unfold dataOf
  by_cases hall : (avail.take c.d).all Option.isSome = true
  · simp only [hall, if_true]
    have hp : ∀ k, k < c.d → avail.getD k none ≠ none := by
      intro k hk hn
      have hm := getD_mem (avail.take c.d) k none (by simp [h.1, shl, Cfg.n]; omega)
      rw [List.getD_eq_getElem?_getD, List.getElem?_take_of_lt hk, ← List.getD_eq_getElem?_getD, hn] at hm
      cases List.all_eq_true.1 hall _ hm
    have := (take_all_present (by rw [shl]; simp [Cfg.n]) h hp).2
    rw [this]
    simp [stripeShards, stripe_length]
  · have mds : MDS c code :=
      hd.resolve_right fun hp => hall (take_all_present (by rw [shl]; simp [Cfg.n]) h hp).1
    simp only [hall]
    apply mds.reconstruct_ok (stripe c.d x) (shardLen c.d x.length) avail (stripe_length c.d x)
      (stripe_shard_length c.d x) (by rw [h.1, shl])
    · intro k hk
      have := h.2 k (by rw [shl]; exact hk)
      simpa [stripeShards] using this
    · exact hcount

/-- a reader as the stripe loop holds it: closed, or honest -/
def ReaderOK (c : Cfg) (code : Code) (H : Bytes → Bytes) (k j : Nat) (xs : List Bytes) : Option Bytes → Prop
  | none => True
  | some r => HonestFrom c code H k j xs r

/-- What `stripesOf` yields (`stripesOK_stripesOf`): no stripe is empty or longer than `d * stripe` bytes, so
the fields of every true frame pass the frame reader's checks (`truePayload_bounds`). -/
def StripesOK (c : Cfg) (xs : List Bytes) : Prop := ∀ x ∈ xs, x ≠ [] ∧ x.length ≤ c.d * c.stripe

theorem truePayload_bounds (wf : WF c code H) {k : Nat} (hk : k < c.n)
    {x : Bytes} (hx : x ≠ [] ∧ x.length ≤ c.d * c.stripe) :
    FrameOK x.length (truePayload c code x k) := by
  have hx1 : 1 ≤ x.length := by
    cases x with
    | nil => exact absurd rfl hx.1
    | cons _ _ => simp
  obtain ⟨shl, shs⟩ := stripeShards_spec wf x
  have hL1 : 1 ≤ shardLen c.d x.length := shardLen_pos wf.d_pos hx1
  have hLle : shardLen c.d x.length < c.stripe + 1 :=
    Nat.div_lt_of_lt_mul (by have := hx.2; have := wf.d_pos; rw [Nat.mul_add, Nat.mul_one]; omega)
  have hxlt : x.length < 4294967296 := by have := wf.stripeData_lt; omega
  have := wf.stripe_lt
  have hk' : k < (stripeShards c code x).length := by rw [shl]; exact hk
  have hlen : (truePayload c code x k).length = shardLen c.d x.length := shs _ (getD_mem _ k [] hk')
  unfold FrameOK
  omega

theorem readFrame_true (wf : WF c code H) {k : Nat} (hk : k < c.n)
    (j : Nat) {x : Bytes} (hx : x ≠ [] ∧ x.length ≤ c.d * c.stripe) (rest : Bytes) :
    readFrame H j (frame H j x.length (truePayload c code x k) ++ rest) = .ok x.length (truePayload c code x k) rest := by
  exact readFrame_frame wf.hash_len j _ (truePayload_bounds wf hk hx)

-- `HonestFrom` is kept folded: normalising a type `HonestFrom … (x :: xs) (frame … ++ …)` would run the frame reader
attribute [local irreducible] HonestFrom in
theorem honest_frames_then (wf : WF c code H) {k : Nat} (hk : k < c.n)
    (xs2 : List Bytes) (g : Bytes) :
    ∀ (xs1 : List Bytes) (j : Nat), StripesOK c xs1 → HonestFrom c code H k (j + xs1.length) xs2 g →
      HonestFrom c code H k j (xs1 ++ xs2) (framesFrom c code H k j xs1 ++ g) := by
  intro xs1
  induction xs1 with
  | nil => intro j _ hg; exact hg
  | cons y ys ih =>
    intro j hs hg
    rw [List.cons_append, framesFrom, List.append_assoc]
    have h := readFrame_true wf hk j (hs y List.mem_cons_self) (framesFrom c code H k (j + 1) ys ++ g)
    unfold truePayload at h
    refine (honestFrom_cons_ok h).2 ⟨rfl, rfl, ih (j + 1) (fun z hz => hs z (List.mem_cons_of_mem _ hz)) ?_⟩
    rw [show j + 1 + ys.length = j + (ys.length + 1) by omega]
    exact hg

theorem honest_intact (c : Cfg) (code : Code) (H : Bytes → Bytes) (wf : WF c code H) (k : Nat) (hk : k < c.n) :
    ∀ (xs : List Bytes) (j : Nat), StripesOK c xs → HonestFrom c code H k j xs (framesFrom c code H k j xs) := by
  intro xs j hs
  have := honest_frames_then wf hk [] [] xs j hs (readFrame_nil H _)
  rw [List.append_nil, List.append_nil] at this
  exact this

theorem step_reader {k j : Nat} {x : Bytes} {xs : List Bytes} {r : Option Bytes}
    (h : ReaderOK c code H k j (x :: xs) r) :
    (FrameRead.payload (r.map (readFrame H j)) = none ∨ FrameRead.payload (r.map (readFrame H j)) = some (truePayload c code x k)) ∧
    ReaderOK c code H k (j + 1) xs (FrameRead.rest (r.map (readFrame H j))) ∧
    (∀ db, FrameRead.dataBytes (r.map (readFrame H j)) = some db → db = x.length) := by
  cases r with
  | none => exact ⟨Or.inl rfl, trivial, fun db h => by cases h⟩
  | some b =>
    simp only [ReaderOK, HonestFrom] at h
    simp only [Option.map_some]
    cases hf : readFrame H j b with
    | eof => exact ⟨Or.inl rfl, trivial, fun db h => by cases h⟩
    | bad => exact ⟨Or.inl rfl, trivial, fun db h => by cases h⟩
    | ok db p rest =>
      rw [hf] at h
      obtain ⟨h1, h2, h3⟩ := h
      refine ⟨Or.inr (by simp [FrameRead.payload, h2]), h3, fun db' hdb => ?_⟩
      simp only [FrameRead.dataBytes, Option.some.injEq] at hdb
      omega

/-- what the readers `r` show for stripe `j` -/
def framesAt (c : Cfg) (H : Bytes → Bytes) (j : Nat) (r : Nat → Option Bytes) : List (Option FrameRead) :=
  (List.range c.n).map fun k => (r k).map (readFrame H j)

theorem map_framesAt {β : Type} (c : Cfg) (H : Bytes → Bytes) (j : Nat) (r : Nat → Option Bytes) (f : Option FrameRead → β) :
    (framesAt c H j r).map f = (List.range c.n).map fun k => f ((r k).map (readFrame H j)) := by
  rw [framesAt, List.map_map]; rfl

/-- the heal accumulator of shard `k` after one stripe -/
def haccNext (c : Cfg) (code : Code) (H : Bytes → Bytes) (fix : Fix) (healing : Nat → Bool) (j : Nat) (x : Bytes)
    (avail : List (Option Bytes)) (hacc : Nat → Bytes) (k : Nat) : Bytes :=
  if healing k then hacc k ++ frame H j x.length (healPayload c code fix avail (stripe c.d x) k) else hacc k

/-- The readers of the stripe loop at stripe `j`, the true stripes `xs` still to come: none of them
lies, those that `I` marks are intact, and `I` marks at least one. `I` stays the same along the loop: an
intact reader stays intact. -/
structure HonestReaders (c : Cfg) (code : Code) (H : Bytes → Bytes) (I : Nat → Bool) (j : Nat) (xs : List Bytes)
    (r : Nat → Option Bytes) : Prop where
  stripes : StripesOK c xs
  honest : ∀ k, k < c.n → ReaderOK c code H k j xs (r k)
  intact : ∀ k, k < c.n → I k = true → r k = some (framesFrom c code H k j xs)
  marked : ∃ k0, k0 < c.n ∧ I k0 = true

section
variable {I : Nat → Bool} {j : Nat} {x : Bytes} {xs : List Bytes}
  {r : Nat → Option Bytes}

theorem HonestReaders.intact_step (wf : WF c code H) (h : HonestReaders c code H I j (x :: xs) r) {k : Nat} (hk : k < c.n)
    (hI : I k = true) :
    (r k).map (readFrame H j) = some (.ok x.length (truePayload c code x k) (framesFrom c code H k (j + 1) xs)) := by
  rw [h.intact k hk hI]
  exact congrArg some (readFrame_true wf hk j (h.stripes x List.mem_cons_self) _)

theorem HonestReaders.next (wf : WF c code H) (h : HonestReaders c code H I j (x :: xs) r) :
    HonestReaders c code H I (j + 1) xs fun k => FrameRead.rest ((r k).map (readFrame H j)) :=
  ⟨fun y hy => h.stripes y (List.mem_cons_of_mem _ hy), fun k hk => (step_reader (h.honest k hk)).2.1,
    fun k hk hI => by rw [h.intact_step wf hk hI]; rfl, h.marked⟩

theorem HonestReaders.available (wf : WF c code H) (h : HonestReaders c code H I j (x :: xs) r) :
    (List.range c.n).countP I ≤ (((framesAt c H j r).map FrameRead.payload).filter Option.isSome).length := by
  rw [map_framesAt, ← List.countP_eq_length_filter, List.countP_map]
  exact List.countP_mono_left fun k hk hI => by
    simp only [Function.comp_apply, h.intact_step wf (List.mem_range.1 hk) hI]; rfl

theorem HonestReaders.payloads_true (wf : WF c code H) (h : HonestReaders c code H I j (x :: xs) r) :
    TrueOrNone (stripeShards c code x) ((framesAt c H j r).map FrameRead.payload) := by
  have shl := (stripeShards_spec wf x).1
  rw [map_framesAt]
  refine ⟨by rw [List.length_map, List.length_range, shl], fun k hk => ?_⟩
  rw [getD_range_map (shl ▸ hk)]
  exact (step_reader (h.honest k (shl ▸ hk))).1

theorem HonestReaders.intact_mem (wf : WF c code H) (h : HonestReaders c code H I j (x :: xs) r) :
    ∃ k0, some (FrameRead.ok x.length (truePayload c code x k0) (framesFrom c code H k0 (j + 1) xs)) ∈ framesAt c H j r := by
  obtain ⟨k0, hk0n, hk0⟩ := h.marked
  exact ⟨k0, List.mem_map.2 ⟨k0, List.mem_range.2 hk0n, h.intact_step wf hk0n hk0⟩⟩

theorem HonestReaders.dataBytes_eq (wf : WF c code H) (h : HonestReaders c code H I j (x :: xs) r) :
    ((framesAt c H j r).findSome? FrameRead.dataBytes).getD 0 = x.length := by
  cases hfs : (framesAt c H j r).findSome? FrameRead.dataBytes with
  | none =>
    obtain ⟨k0, hmem⟩ := h.intact_mem wf
    cases (List.findSome?_eq_none_iff.1 hfs) _ hmem
  | some db =>
    obtain ⟨o, ho, hod⟩ := List.exists_of_findSome?_eq_some hfs
    obtain ⟨k, hk, rfl⟩ := List.mem_map.1 ho
    exact (step_reader (h.honest k (List.mem_range.1 hk))).2.2 db hod

/-- One stripe. The statement branches on the loop's own test (fewer than `d` payloads), so that `loop_honest`
can split on it: in the first branch it meets `HonestReaders.available`, in the second it goes on by induction. -/
theorem loop_step (wf : WF c code H) (fix : Fix) (healing : Nat → Bool) (f : Nat) (acc : Bytes) (hacc : Nat → Bytes)
    (hd : MDS c code ∨ ∀ k, k < c.d → I k = true) (hr : HonestReaders c code H I j (x :: xs) r) :
    if (((framesAt c H j r).map FrameRead.payload).filter Option.isSome).length < c.d then
      (loop c code H fix ((List.range c.n).map healing) (f + 1) j ((List.range c.n).map r) acc
        ((List.range c.n).map hacc)).failed = true
    else loop c code H fix ((List.range c.n).map healing) (f + 1) j ((List.range c.n).map r) acc ((List.range c.n).map hacc) =
      loop c code H fix ((List.range c.n).map healing) f (j + 1)
        ((List.range c.n).map fun k => FrameRead.rest ((r k).map (readFrame H j))) (acc ++ x)
        ((List.range c.n).map (haccNext c code H fix healing j x ((framesAt c H j r).map FrameRead.payload) hacc)) := by
  obtain ⟨k0, hk0mem⟩ := hr.intact_mem wf
  have htrue := hr.payloads_true wf
  have hany : (framesAt c H j r).any FrameRead.seen = true := List.any_eq_true.2 ⟨_, hk0mem, rfl⟩
  have hsame : sameSizes ((framesAt c H j r).map FrameRead.payload) = true :=
    sameSizes_of_true (stripeShards_spec wf x).2 htrue
  have e : ((List.range c.n).map r).map (Option.map (readFrame H j)) = framesAt c H j r := by
    rw [framesAt, List.map_map]; rfl
  rw [loop, e]
  simp only [hany, Bool.not_true, Bool.false_eq_true, if_false, hr.dataBytes_eq wf, hsame]
  by_cases hav : (((framesAt c H j r).map FrameRead.payload).filter Option.isSome).length < c.d
  · -- the intact reader shows a valid frame, so this is not the repaired "enough readers ended" end
    have hsome : ((framesAt c H j r).map FrameRead.payload).any Option.isSome = true :=
      List.any_eq_true.2 ⟨_, List.mem_map.2 ⟨_, hk0mem, rfl⟩, rfl⟩
    simp only [hav, if_true, hsome, Bool.not_true, Bool.and_false, Bool.false_and, Bool.false_eq_true, if_false]
  · simp only [hav, if_false]
    rw [dataOf_true wf (hd.imp_right fun hi k hk hn => by
      have hkn := Nat.lt_of_lt_of_le hk (Nat.le_add_right c.d c.p)
      rw [map_framesAt, getD_range_map (n := c.n) hkn, hr.intact_step wf hkn (hi k hk)] at hn
      cases hn) htrue (by omega)]
    simp only
    rw [unstripe_stripe x wf.d_pos, map_framesAt c H j r FrameRead.rest, List.length_map, List.length_range,
      ← List.map_prod_left_eq_zip, List.map_map]
    congr 1
    exact List.map_congr_left fun k hk => by
      simp only [Function.comp_apply, getD_range_map (List.mem_range.1 hk), haccNext]

theorem loop_done (fix : Fix) (healing : Nat → Bool) (f : Nat) (acc : Bytes) (hacc : Nat → Bytes)
    (hok : ∀ k, k < c.n → ReaderOK c code H k j [] (r k)) :
    loop c code H fix ((List.range c.n).map healing) (f + 1) j ((List.range c.n).map r) acc ((List.range c.n).map hacc)
      = ⟨acc, false, (List.range c.n).map fun k => if healing k then some (hacc k) else none, []⟩ := by
  have hany : (((List.range c.n).map r).map (Option.map (readFrame H j))).any FrameRead.seen = false := by
    rw [List.map_map, List.any_eq_false]
    intro o ho
    obtain ⟨k, hk, rfl⟩ := List.mem_map.1 ho
    have := hok k (List.mem_range.1 hk)
    simp only [Function.comp_apply]
    cases hr : r k with
    | none => simp [FrameRead.seen]
    | some b =>
      rw [hr] at this
      simp only [ReaderOK, HonestFrom] at this
      simp [FrameRead.seen, this]
  rw [loop]
  simp only [hany, Bool.not_false, if_true]
  rw [List.zip_map', List.map_map]
  rfl

end

/-- None of the shards exists. As the code is, `GetPart` does not answer not-found: it
"heals" — writes the shard streams of the EMPTY part to every shard store — and returns an empty
stream. With the repair it answers not-found and writes nothing. -/
theorem read_absent (c : Cfg) (code : Code) (H : Bytes → Bytes) (fix : Fix) :
    read c code H fix (List.replicate c.n none) =
      if fix.notFoundWhenAllMissing then .notFound
      else if fix.failWhenTooFewOpen && decide (0 < c.d) then .result ⟨[], true, List.replicate c.n none, []⟩
      else .result ⟨[], false, (List.range c.n).map (fun k => some (shardStream c code H k [])), []⟩ := by
  have hop : opened c (List.replicate c.n none) = fun _ => none := funext fun k => by
    rw [opened, List.getD_eq_getElem?_getD, List.getElem?_replicate]
    split <;> rfl
  have hstream : ∀ k, shardStream c code H k [] = shardHeader c k := fun k => by
    simp [shardStream, stripesOf, chunks_nil, framesFrom]
  have hall : (List.replicate c.n (none : Option Bytes)).all Option.isNone = true := by simp
  have hfil : (((List.range c.n).map fun _ => (none : Option Bytes)).filter Option.isSome).length = 0 := by simp
  obtain ⟨f, hf⟩ : ∃ f, fuelFor ((List.range c.n).map fun _ => (none : Option Bytes)) = f + 1 := ⟨_, rfl⟩
  -- no reader is open: the loop ends at once, every shard is marked for healing and gets its header
  have hloop := loop_done (c := c) (code := code) (H := H) (j := 0) (r := fun _ => none) fix (fun _ => true) f []
    (shardHeader c) fun _ _ => trivial
  rw [read_eq fix List.length_replicate, hop, hall, Bool.and_true, hfil, hf]
  simp only [Option.isNone_none]
  rw [hloop]
  simp only [hstream, List.map_const', List.length_range, if_true]

/-- A shard store's answer is honest w.r.t. the part `b`: missing, unusable at open, or an honest reader.
A theorem that mentions `ShardHonest … (some (shardStream …))` marks it `local irreducible`: normalising such
a type would otherwise run `openShard` on the stream. -/
def ShardHonest (c : Cfg) (code : Code) (H : Bytes → Bytes) (b : Bytes) (k : Nat) (s : Option Bytes) : Prop :=
  ReaderOK c code H k 0 (stripesOf c b) (openShard c k s)

/-- store `k` answers with exactly the stream `PutPart` wrote to it -/
def shardIntact (c : Cfg) (code : Code) (H : Bytes → Bytes) (b : Bytes) (streams : List (Option Bytes)) (k : Nat) : Bool :=
  decide (streams.getD k none = some (shardStream c code H k b))

theorem exists_intact (wf : WF c code H) {b : Bytes} {streams : List (Option Bytes)}
    (hfew : c.d ≤ (List.range c.n).countP (shardIntact c code H b streams)) :
    ∃ k0, k0 < c.n ∧ streams.getD k0 none = some (shardStream c code H k0 b) := by
  obtain ⟨k0, hk0, hq⟩ := List.countP_pos_iff.1 (Nat.lt_of_lt_of_le wf.d_pos hfew)
  exact ⟨k0, List.mem_range.1 hk0, of_decide_eq_true hq⟩

theorem stripesOK_stripesOf (wf : WF c code H) (b : Bytes) :
    StripesOK c (stripesOf c b) :=
  fun x hx => chunks_mem _ b (Nat.mul_pos wf.d_pos (by have := wf.stripe_ge; omega)) x hx

theorem opened_intact (wf : WF c code H) (b : Bytes)
    (streams : List (Option Bytes)) (k : Nat) (hk : k < c.n) (h : shardIntact c code H b streams k = true) :
    opened c streams k = some (framesFrom c code H k 0 (stripesOf c b)) := by
  rw [opened, of_decide_eq_true h]
  exact openShard_stream wf hk _

end

end Pithos.EC
