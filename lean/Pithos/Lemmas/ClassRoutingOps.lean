/-
Every operation of the routing model preserves the invariant (`apply_inv`), and the facts about
the transition loop the C14 theorems need (`moveParts_rows`, `moveParts_same_store`). With a fault
plan a call fails or behaves exactly as without one (`applyF_dichotomy`), so the invariant also
survives faulty runs (`runF_inv`). The closing `namespace Pithos.C14Routing` block holds what the
theorems of Props/C14Routing are read off: under the invariant every entity reads back its recorded
contents (`readable_of_inv`), the entity a commit leaves (`commit_target`), and what a successful
transition does (`transition_spec`).
-/
import Pithos.Lemmas.ClassRoutingTxn
import Pithos.Lemmas.ListFacts

namespace Pithos.ClassRouting

theorem lookupStore_mem {m : List (String × String)} {cls n : String} (h : lookupStore m cls = some n) :
    (cls, n) ∈ m := by
  induction m with
  | nil => simp [lookupStore] at h
  | cons x xs ih =>
    obtain ⟨c, n'⟩ := x
    simp only [lookupStore] at h
    split at h
    · rename_i hc
      cases h
      subst hc
      exact List.mem_cons_self
    · exact List.mem_cons_of_mem _ (ih h)

theorem storeFor_mem {s : State} (h : Inv s) (cls : String) : storeFor s.cmap cls ∈ s.stores := by
  unfold storeFor
  cases hl : lookupStore s.cmap cls with
  | none => exact h.defStore
  | some n =>
    simp only []
    split
    · exact h.defStore
    · rename_i hne
      rcases h.cfgOk cls n (lookupStore_mem hl) with h1 | h1
      · exact absurd h1 hne
      · exact h1

theorem findEnt_some {s : State} {t : Nat} {e : Ent} (h : findEnt s t = some e) : e ∈ s.ents ∧ e.id = t := by
  unfold findEnt at h
  exact ⟨List.mem_of_find?_eq_some h, by simpa using List.find?_some h⟩

theorem parts_sub_rows {s : State} {e : Ent} (he : e ∈ s.ents) : ∀ r ∈ e.parts, r ∈ rows s :=
  fun _ hr => mem_rows.mpr ⟨e, he, hr⟩

theorem partsOf_find_list {L : List Ent} {t : Nat} {e : Ent} (hnd : (L.map (·.id)).Nodup)
    (hf : L.find? (·.id == t) = some e) : (L.filter (·.id == t)).flatMap (·.parts) = e.parts := by
  induction L with
  | nil => simp at hf
  | cons x xs ih =>
    simp only [List.map_cons, List.nodup_cons] at hnd
    by_cases hx : x.id = t
    · have hfx : (x :: xs).find? (·.id == t) = some x := by simp [hx]
      rw [hfx] at hf
      cases hf
      have hnone : xs.filter (·.id == t) = [] := by
        rw [List.filter_eq_nil_iff]
        intro y hy
        simp only [beq_iff_eq]
        intro hyt
        apply hnd.1
        rw [List.mem_map]
        exact ⟨y, hy, by rw [hyt, hx]⟩
      simp [hx, hnone]
    · have hfx : (x :: xs).find? (·.id == t) = xs.find? (·.id == t) := by simp [hx]
      rw [hfx] at hf
      simp [hx, ih hnd.2 hf]

theorem partsOf_find {s : State} (h : Inv s) {t : Nat} {e : Ent} (hf : findEnt s t = some e) :
    partsOf s t = e.parts := partsOf_find_list h.ids hf

theorem Txn.partsOf_eq {s0 s : State} {acq pend : List Nat} {news : List NewPart}
    (h : Txn s0 s acq pend news) (t : Nat) : partsOf s t = partsOf s0 t := by
  unfold partsOf; rw [h.mid.ents]

theorem Txn.commit_replace {s0 s s' : State} {acq : List Nat} {news : List NewPart} {t : Nat}
    {cls : Option String} {ps : List PartRow} (h0 : Inv s0) (h : Txn s0 s acq [] news) (hps : ps = newRows news)
    (hc : commit s t (partsOf s t) news (some ⟨t, cls, ps⟩) = some s') : Inv s' := by
  subst hps
  rw [h.partsOf_eq] at hc
  exact commit_inv h0 h (fun e he => by cases he; rfl) (keep := []) (.refl _) (.refl _) hc

theorem isSort : InsertionSort (fun r x : PartRow => r.seq < x.seq) insertSeq (List.foldr insertSeq []) :=
  ⟨fun _ => rfl, fun _ _ _ => rfl, rfl, fun _ _ => rfl⟩

theorem perm_insertSeq (r : PartRow) (l : List PartRow) : (insertSeq r l).Perm (l ++ [r]) :=
  (isSort.perm_ins r l).trans (List.perm_append_comm (l₁ := [r]))

theorem commit_edit_inv {s0 s s' : State} {acq : List Nat} {np : NewPart} {e : Ent} {t : Nat}
    {old ps keep : List PartRow} (h0 : Inv s0) (h : Txn s0 s acq [] [np]) (hf : findEnt s0 t = some e)
    (hold : (keep ++ old).Perm e.parts) (hnew : ps.Perm (keep ++ [np.row]))
    (hc : commit s t old [np] (some { e with parts := ps }) = some s') : Inv s' :=
  commit_inv (ent := some { e with parts := ps }) h0 h (fun x hx => by cases hx; exact (findEnt_some hf).2)
    (by rw [partsOf_find h0 hf]; exact hold) hnew hc

theorem commit_slot_inv {s0 s s' : State} {acq : List Nat} {np : NewPart} {e : Ent} {u n : Nat}
    (h0 : Inv s0) (h : Txn s0 s acq [] [np]) (hf : findEnt s0 u = some e)
    (hc : commit s u (e.parts.filter fun r => r.seq == n) [np]
      (some { e with parts := insertSeq np.row (e.parts.filter fun r => r.seq != n) }) = some s') : Inv s' :=
  commit_edit_inv h0 h hf
    (by simpa [bne] using List.filter_append_perm (fun r : PartRow => r.seq != n) e.parts)
    (perm_insertSeq _ _) hc

theorem keepAll_txn {s0 s : State} {acq : List Nat} (h0 : Inv s0) :
    ∀ (ps : List PartRow) (i : Nat) (pend : List Nat) (news : List NewPart),
      (∀ r ∈ ps, r ∈ rows s0) → Txn s0 s acq pend news →
      Txn s0 s acq (pend ++ ps.map (·.pid)) (news ++ (renumFrom i ps).map (⟨·, true⟩)) := by
  intro ps
  induction ps with
  | nil => intro i pend news _ h; simpa [renumFrom] using h
  | cons r rs ih =>
    intro i pend news hps h
    have hk := keep_txn h0 h (List.forall_mem_cons.1 hps).1 i
    have := ih (i + 1) _ _ (List.forall_mem_cons.1 hps).2 hk
    simpa [renumFrom, List.append_assoc] using this

theorem minPid_mem {l : List PartRow} {p : Nat} (h : minPid l = some p) : ∃ r ∈ l, r.pid = p := by
  induction l generalizing p with
  | nil => simp [minPid] at h
  | cons x xs ih =>
    unfold minPid at h
    cases hm : minPid xs with
    | none =>
      rw [hm] at h
      cases h
      exact ⟨x, List.mem_cons_self, rfl⟩
    | some m =>
      rw [hm] at h
      simp only [Option.some.injEq] at h
      split at h
      · exact ⟨x, List.mem_cons_self, h⟩
      · obtain ⟨r, hr, hrp⟩ := ih hm
        exact ⟨r, List.mem_cons_of_mem _ hr, by rw [hrp, h]⟩

theorem gc_phys_live {s : State} {p : Nat} (hp : 0 < refs s p) (st : SName) : (gc s).phys st p = s.phys st p := by
  show (if s.stores.contains st && !decide (0 < refs s p) then none else s.phys st p) = _
  simp [hp]

theorem gc_idx_some {s : State} {st : SName} {c p : Nat} (hp : (gc s).idx st c = some p) :
    (s.idx st c = some p ∧ 0 < refs s p) ∨
    minPid ((rows s).filter fun r => r.store == st && r.content == c) = some p := by
  have hp' : (match (match s.idx st c with
      | some p => if decide (0 < refs s p) then some p else none
      | none => none) with
    | some p => some p
    | none => minPid ((rows s).filter fun r => r.store == st && r.content == c)) = some p := hp
  cases hi : s.idx st c with
  | none => rw [hi] at hp'; exact Or.inr hp'
  | some q =>
    rw [hi] at hp'
    dsimp only at hp'
    by_cases hq : 0 < refs s q
    · rw [if_pos (decide_eq_true hq)] at hp'
      cases hp'
      exact Or.inl ⟨rfl, hq⟩
    · rw [if_neg (by simpa using hq)] at hp'
      exact Or.inr hp'

theorem gc_inv {s : State} (h : Inv s) : Inv (gc s) := by
  have hphys : ∀ r ∈ rows s, ∀ st, (gc s).phys st r.pid = s.phys st r.pid :=
    fun r hr => gc_phys_live (pc_pos.mpr ⟨r, hr, rfl⟩)
  refine { h with held := ?_, cnt := fun p => rfl, idxOk := ?_, physFresh := ?_ }
  · intro r hr
    have := h.held r hr
    exact ⟨this.1, by rw [hphys r hr]; exact this.2⟩
  · intro st c p hp
    rcases gc_idx_some hp with ⟨hi, hl⟩ | hmin
    · rw [gc_phys_live hl]
      exact h.idxOk st c p hi
    · obtain ⟨r, hr, hrp⟩ := minPid_mem hmin
      rw [List.mem_filter] at hr
      obtain ⟨hr, hsc⟩ := hr
      simp only [Bool.and_eq_true, beq_iff_eq] at hsc
      rw [← hrp, hphys r hr, ← hsc.1, ← hsc.2]
      exact (h.held r hr).2
  · intro st p hp
    show (if s.stores.contains st && !decide (0 < refs s p) then none else s.phys st p) = none
    split
    · rfl
    · exact h.physFresh st p hp

theorem flatMap_rename (L : List Ent) (u t : Nat) :
    (L.map fun e => if e.id == u then { e with id := t } else e).flatMap (·.parts) = L.flatMap (·.parts) := by
  induction L with
  | nil => rfl
  | cons x xs ih =>
    simp only [List.map_cons, List.flatMap_cons, ih]
    congr 1
    split <;> rfl

theorem Inv.of_ents {s : State} (h : Inv s) {L : List Ent} (hrows : L.flatMap (·.parts) = rows s)
    (hids : (L.map (·.id)).Nodup) : Inv { s with ents := L } := by
  have hrows' : rows { s with ents := L } = rows s := hrows
  refine { h with held := ?_, cnt := ?_, ids := hids }
  · intro r hr; rw [hrows'] at hr; exact h.held r hr
  · intro p; rw [refs_eq, hrows']; exact h.cnt p

theorem rename_inv {s : State} (h : Inv s) {u t : Nat} (ht : ∀ e ∈ s.ents, e.id ≠ t) :
    Inv { s with ents := s.ents.map fun e => if e.id == u then { e with id := t } else e } := by
  refine h.of_ents (flatMap_rename s.ents u t) ?_
  have : (s.ents.map fun e => if e.id == u then { e with id := t } else e).map (·.id) =
      (s.ents.map (·.id)).map fun i => if i = u then t else i := by
    rw [List.map_map, List.map_map]
    apply List.map_congr_left
    intro e _
    simp only [Function.comp]
    by_cases he : e.id = u <;> simp [he]
  rw [this]
  apply nodup_rename h.ids
  intro hm
  obtain ⟨e, he, het⟩ := List.mem_map.1 hm
  exact ht e he het

theorem delete_inv {s s' : State} {t : Nat} (h : Inv s) (hc : commit s t (partsOf s t) [] none = some s') :
    Inv s' :=
  commit_inv h (Txn.start h) (fun _ he => by cases he) (keep := []) (.refl _) (.refl _) hc

theorem coveredShared_some {se : Ent} {covered : Option Nat} {st : SName} {r : PartRow}
    (h : coveredShared se covered st = some r) : r ∈ se.parts ∧ r.store = st := by
  unfold coveredShared at h
  cases covered with
  | none => cases h
  | some i =>
    simp only [] at h
    cases hg : se.parts[i]? with
    | none => rw [hg] at h; cases h
    | some x =>
      rw [hg] at h
      simp only [] at h
      split at h
      · rename_i hx
        cases h
        exact ⟨List.mem_of_getElem? hg, hx⟩
      · cases h

theorem transitionWith_some {mv : SName → State → List PartRow → Nat → Option (State × List NewPart)}
    {s s' : State} {t : Nat} {cls : String} (ha : transitionWith mv s t cls = some s') :
    ∃ e s1 news s2, cls ∈ validClasses ∧ findEnt s t = some e ∧
      mv (storeFor s.cmap cls) s e.parts 0 = some (s1, news) ∧
      tryAddRefs s1 (sharedIds (storeFor s.cmap cls) e.parts) = some s2 ∧
      commit s2 t (partsOf s2 t) news (some { e with cls := some cls, parts := news.map (·.row) }) = some s' := by
  revert ha
  fun_cases transitionWith mv s t cls
  case case4 hv e hf s1 news hmv s2 hadd => exact fun ha => ⟨e, s1, news, s2, hv, hf, hmv, hadd, ha⟩
  all_goals nofun

theorem copyWith_some {cp : SName → State → List PartRow → Nat → Option (State × List NewPart)}
    {s s' : State} {src t : Nat} {cls : Option String} (ha : copyWith cp s src t cls = some s') :
    ∃ e s1 news s2, findEnt s src = some e ∧
      cp (storeFor s.cmap (effective cls)) s e.parts 0 = some (s1, news) ∧
      tryAddRefs s1 (sharedIds (storeFor s.cmap (effective cls)) e.parts) = some s2 ∧
      commit s2 t (partsOf s2 t) news (some ⟨t, cls, news.map (·.row)⟩) = some s' := by
  revert ha
  fun_cases copyWith cp s src t cls
  case case4 e hf s1 news hcp s2 hadd => exact fun ha => ⟨e, s1, news, s2, hf, hcp, hadd, ha⟩
  all_goals nofun

theorem apply_inv {s s' : State} {op : Op} (h : Inv s) (ha : apply s op = some s') : Inv s' := by
  cases op with
  | put t cls c =>
    simp only [apply] at ha
    obtain ⟨acq', htx⟩ := writeFresh_txn (Txn.start h) (storeFor_mem h (effective cls)) c 0
    exact htx.commit_replace h rfl ha
  | append t c =>
    simp only [apply] at ha
    split at ha
    · cases ha
    · rename_i e hf
      split at ha
      · cases ha
      · obtain ⟨acq', htx⟩ :=
          writeFresh_txn (Txn.start h) (storeFor_mem h (effective e.cls)) c e.parts.length
        exact commit_edit_inv h htx hf (by rw [List.append_nil]) (.refl _) ha
  | appendNew src t c =>
    simp only [apply] at ha
    split at ha
    · cases ha
    · rename_i e hf
      have hk := keepAll_txn h e.parts 0 [] [] (parts_sub_rows (findEnt_some hf).1) (Txn.start h)
      obtain ⟨acq', htx⟩ :=
        writeFresh_txn hk (storeFor_mem h (effective e.cls)) c e.parts.length
      simp only [List.nil_append] at htx
      split at ha
      · cases ha
      · rename_i s2 hadd
        exact (addRefs_txn htx hadd).commit_replace h (by simp [newRows, Function.comp_def]) ha
  | copy src t cls =>
    obtain ⟨e, s1, news, s2, hf, hcp, hadd, hc⟩ := copyWith_some (cp := copyParts) ha
    obtain ⟨acq', htx⟩ := copyParts_txn h (storeFor_mem h (effective cls)) (parts_sub_rows (findEnt_some hf).1)
      (Txn.start h) hcp
    simp only [List.nil_append] at htx
    exact (addRefs_txn htx hadd).commit_replace h rfl hc
  | transition t cls =>
    obtain ⟨e, s1, news, s2, _, hf, hmv, hadd, hc⟩ := transitionWith_some (mv := moveParts) ha
    obtain ⟨he, hid⟩ := findEnt_some hf
    have htx := moveParts_txn h (storeFor_mem h cls) (parts_sub_rows he) (Txn.start h) hmv
    simp only [List.nil_append] at htx
    subst hid
    exact (addRefs_txn htx hadd).commit_replace h rfl hc
  | delete t =>
    simp only [apply] at ha
    exact delete_inv h ha
  | mpu u cls =>
    simp only [apply] at ha
    split at ha
    · cases ha
    · rename_i hnone
      cases ha
      refine h.of_ents (by simp [rows, List.flatMap_append]) ?_
      rw [List.map_append, List.nodup_append]
      refine ⟨h.ids, by simp, ?_⟩
      intro a ha b hb hab
      rw [List.mem_singleton.1 hb] at hab
      obtain ⟨e, he, heu⟩ := List.mem_map.1 ha
      exact hnone (List.find?_isSome.2 ⟨e, he, by simp [heu, hab]⟩)
  | uploadPart u n c =>
    simp only [apply] at ha
    split at ha
    · cases ha
    · rename_i e hf
      obtain ⟨acq', htx⟩ := writeFresh_txn (Txn.start h) (storeFor_mem h (effective e.cls)) c n
      exact commit_slot_inv h htx hf ha
  | uploadPartCopy u n src covered c =>
    simp only [apply] at ha
    split at ha
    · cases ha
    · rename_i e hf
      split at ha
      · cases ha
      · rename_i se hfs
        split at ha
        · rename_i r hcs
          have hr : r ∈ rows s := parts_sub_rows (findEnt_some hfs).1 r (coveredShared_some hcs).1
          have hk := keep_txn h (Txn.start h) hr n
          simp only [List.nil_append] at hk
          split at ha
          · cases ha
          · rename_i s1 hadd
            exact commit_slot_inv h (addRefs_txn hk hadd) hf ha
        · obtain ⟨acq', htx⟩ := writeFresh_txn (Txn.start h) (storeFor_mem h (effective e.cls)) c n
          exact commit_slot_inv h htx hf ha
  | complete u t =>
    simp only [apply] at ha
    split at ha
    · cases ha
    · split at ha
      · cases ha
      · split at ha
        · cases ha
        · rename_i s1 hc
          cases ha
          -- the released entity `t` is gone, so the upload row can take its id
          refine rename_inv (delete_inv h hc) fun x hx => ?_
          rw [(commit_some hc).2.2.2.1] at hx
          simp only [Option.toList_none, List.append_nil, List.mem_filter, bne_iff_ne, ne_eq] at hx
          exact hx.2
  | remap m =>
    simp only [apply] at ha
    split at ha
    · rename_i hall
      cases ha
      refine { h with cfgOk := ?_ }
      intro c n hcn
      rw [List.all_eq_true] at hall
      have := hall (c, n) hcn
      simp only [Bool.and_eq_true, Bool.or_eq_true, beq_iff_eq, List.contains_iff_mem] at this
      exact this.2
    · cases ha
  | gc =>
    simp only [apply, Option.some.injEq] at ha
    subst ha
    exact gc_inv h

theorem step_inv {s : State} (h : Inv s) (op : Op) : Inv (step s op).1 := by
  unfold step
  cases ha : apply s op with
  | none => exact h
  | some s' => exact apply_inv h ha

theorem run_inv {s : State} (h : Inv s) (ops : List Op) : Inv (run s ops) :=
  List.foldlRecOn ops _ h fun _ hs op _ => step_inv hs op

theorem init_inv {stores : List SName} {cmap : List (String × String)} (hdef : "" ∈ stores)
    (hcfg : ∀ c n, (c, n) ∈ cmap → n = defaultStoreName ∨ n ∈ stores) : Inv (init stores cmap) :=
  { held := by intro r hr; simp [rows, init] at hr
    cnt := by intro p; simp [refs, rows, init]
    idxOk := by intro st c p hp; simp [init] at hp
    physFresh := by intro st p _; rfl
    ids := by simp [init]
    defStore := hdef
    cfgOk := hcfg }

theorem moveParts_rows {dst : SName} {ps : List PartRow} {s : State} {i : Nat} {s' : State} {ns : List NewPart}
    (hm : moveParts dst s ps i = some (s', ns)) :
    (∀ n ∈ ns, n.row.store = dst) ∧ ns.map (·.row.content) = ps.map (·.content) := by
  fun_induction moveParts dst s ps i generalizing s' ns <;> cases hm
  case case1 => exact ⟨nofun, rfl⟩
  case case2 s r rs i hst s1 ns1 hrec ih =>
    exact ⟨List.forall_mem_cons.2 ⟨hst, (ih hrec).1⟩, congrArg (r.content :: ·) (ih hrec).2⟩
  case case5 s r rs i hst s2 p hcp s1 ns1 hrec ih =>
    exact ⟨List.forall_mem_cons.2 ⟨rfl, (ih hrec).1⟩, congrArg (r.content :: ·) (ih hrec).2⟩

theorem moveParts_same_store {dst : SName} {ps : List PartRow} {s : State} {i : Nat} {s' : State}
    {ns : List NewPart} (hall : ∀ r ∈ ps, r.store = dst) (hm : moveParts dst s ps i = some (s', ns)) :
    s' = s ∧ ns.map (·.row.pid) = ps.map (·.pid) ∧ (∀ n ∈ ns, n.pre = true) ∧ sharedIds dst ps = ps.map (·.pid) := by
  fun_induction moveParts dst s ps i generalizing s' ns <;> cases hm
  case case1 => exact ⟨rfl, rfl, nofun, rfl⟩
  case case2 s r rs i hst s1 ns1 hrec ih =>
    obtain ⟨a, b, c, d⟩ := ih (List.forall_mem_cons.1 hall).2 hrec
    exact ⟨a, congrArg (r.pid :: ·) b, List.forall_mem_cons.2 ⟨rfl, c⟩,
      by rw [sharedIds_cons_eq dst r rs hst, d]; rfl⟩
  case case5 s r rs i hst s2 p hcp s1 ns1 hrec ih => exact absurd (List.forall_mem_cons.1 hall).1 hst

/-- The plan makes one of the next `n` copy steps fail: an open/read/put fault planned for one of them. -/
def strikes (flt : Option Fault) (n : Nat) : Bool :=
  match flt with
  | some f => f.aborts && decide (f.step < n)
  | none => false

theorem copyPartF_eq (flt : Option Fault) (s : State) (src : SName) (sp : Nat) (dst : SName) (n : Nat) :
    (copyPartF flt s src sp dst).1 = (if strikes flt 1 then none else copyPart s src sp dst) ∧
    strikes flt (n + 1) = (strikes flt 1 || strikes (copyPartF flt s src sp dst).2 n) := by
  unfold copyPartF
  cases flt with
  | none => exact ⟨rfl, rfl⟩
  | some f =>
    by_cases h0 : f.step = 0
    · cases hab : f.aborts <;> simp [strikes, h0, hab]
    · have : ¬ f.step < 1 := by omega
      simp only [if_neg h0, strikes, this, decide_false, Bool.and_false, Bool.false_or]
      refine ⟨rfl, congrArg (f.aborts && ·) (decide_eq_decide.2 ?_)⟩
      show f.step < n + 1 ↔ f.step - 1 < n
      omega

theorem crossCount_cons (dst : SName) (r : PartRow) (rs : List PartRow) :
    crossCount dst (r :: rs) = crossCount dst rs + if r.store = dst then 0 else 1 := by
  by_cases h : r.store = dst <;> simp [crossCount, h]

theorem movePartsF_eq (dst : SName) :
    ∀ (ps : List PartRow) (flt : Option Fault) (s : State) (i : Nat),
      movePartsF dst flt s ps i = if strikes flt (crossCount dst ps) then none else moveParts dst s ps i := by
  intro ps
  induction ps with
  | nil => intro flt s i; cases flt <;> simp [strikes, crossCount, movePartsF, moveParts]
  | cons r rs ih =>
    intro flt s i
    unfold movePartsF moveParts
    rw [crossCount_cons]
    by_cases hst : r.store = dst
    · rw [if_pos hst, if_pos hst, if_pos hst, ih]
      cases strikes flt (crossCount dst rs) <;> rfl
    · obtain ⟨h1, h2⟩ := copyPartF_eq flt s r.store r.pid dst (crossCount dst rs)
      rw [if_neg hst, if_neg hst, if_neg hst, h1, h2]
      cases strikes flt 1
      · simp only [Bool.false_eq_true, if_false, Bool.false_or]
        cases copyPart s r.store r.pid dst with
        | none => simp
        | some res =>
          simp only [ih]
          cases strikes (copyPartF flt s r.store r.pid dst).2 (crossCount dst rs) <;> rfl
      · rfl

theorem cons_dichotomy {x y : Option (State × List NewPart)} (n : NewPart) :
    x = none ∨ x = y →
    (match x with | some (s', ns) => some (s', n :: ns) | none => none) = none ∨
    (match x with | some (s', ns) => some (s', n :: ns) | none => none) =
      (match y with | some (s', ns) => some (s', n :: ns) | none => none) :=
  fun h => h.elim (fun h => Or.inl (by rw [h])) (fun h => Or.inr (by rw [h]))

/-- The copy loop shares parts on the way, so the number of its copy steps is not read off the rows;
for it only: it fails or is the plain loop. -/
theorem copyPartsF_dichotomy (dst : SName) :
    ∀ (ps : List PartRow) (flt : Option Fault) (s : State) (i : Nat),
      copyPartsF dst flt s ps i = none ∨ copyPartsF dst flt s ps i = copyParts dst s ps i := by
  intro ps
  induction ps with
  | nil => intro flt s i; exact Or.inr rfl
  | cons r rs ih =>
    intro flt s i
    unfold copyPartsF copyParts
    by_cases hst : r.store = dst
    · rw [if_pos hst, if_pos hst]
      exact cons_dichotomy _ (ih flt s (i + 1))
    · rw [if_neg hst, if_neg hst]
      cases tryShare s dst r.content with
      | mk s1 o =>
        cases o with
        | some q => exact cons_dichotomy _ (ih flt s1 (i + 1))
        | none =>
          dsimp only
          rw [(copyPartF_eq flt s1 r.store r.pid dst 0).1]
          cases strikes flt 1
          · cases copyPart s1 r.store r.pid dst with
            | none => exact Or.inl rfl
            | some res => exact cons_dichotomy _ (ih _ (tryIndex res.1 dst r.content res.2) (i + 1))
          · exact Or.inl rfl

theorem applyF_transition (s : State) (t : Nat) (cls : String) (flt : Option Fault) :
    applyF s (.transition t cls) flt =
      if (findEnt s t).any (fun e => strikes flt (crossCount (storeFor s.cmap cls) e.parts)) then none
      else apply s (.transition t cls) := by
  simp only [applyF, apply, transitionWith]
  cases findEnt s t with
  | none => simp
  | some e =>
    simp only [movePartsF_eq, Option.any_some]
    cases strikes flt (crossCount (storeFor s.cmap cls) e.parts) <;> simp

theorem applyF_dichotomy (s : State) (op : Op) (flt : Option Fault) :
    applyF s op flt = none ∨ applyF s op flt = apply s op := by
  cases op with
  | transition t cls => rw [applyF_transition]; split <;> simp
  | copy src t cls =>
    simp only [applyF, apply, copyWith]
    cases hf : findEnt s src with
    | none => left; rfl
    | some e =>
      simp only []
      rcases copyPartsF_dichotomy (storeFor s.cmap (effective cls)) e.parts flt s 0 with h | h
      · left; rw [h]
      · right; rw [h]
  | _ => right; rfl

theorem stepF_cases (s : State) (op : Op) (flt : Option Fault) :
    stepF s op flt = (s, false) ∨ ∃ s', apply s op = some s' ∧ stepF s op flt = (s', true) := by
  unfold stepF
  rcases applyF_dichotomy s op flt with hd | hd
  · rw [hd]; exact Or.inl rfl
  · rw [hd]
    cases apply s op with
    | none => exact Or.inl rfl
    | some s' => exact Or.inr ⟨s', rfl, rfl⟩

theorem stepF_inv {s : State} (h : Inv s) (op : Op) (flt : Option Fault) : Inv (stepF s op flt).1 := by
  rcases stepF_cases s op flt with h1 | ⟨s', ha, h1⟩
  · rw [h1]; exact h
  · rw [h1]; exact apply_inv h ha

theorem runF_inv {s : State} (h : Inv s) (ops : List (Op × Option Fault)) : Inv (runF s ops) := by
  induction ops generalizing s with
  | nil => exact h
  | cons o ops ih => exact ih (stepF_inv h o.1 o.2)

end Pithos.ClassRouting

namespace Pithos.C14Routing
open Pithos.ClassRouting

theorem step_true {s s' : State} {op : Op} (h : step s op = (s', true)) : apply s op = some s' := by
  unfold step at h
  cases ha : apply s op with
  | none => rw [ha] at h; simp at h
  | some x => rw [ha] at h; simp only [Prod.mk.injEq, and_true] at h; rw [h]

theorem readable_of_inv {s : State} (h : Inv s) : ∀ e ∈ s.ents, Readable s e := by
  intro e he
  unfold Readable readBack
  apply List.map_congr_left
  intro r hr
  have := h.held r (parts_sub_rows he r hr)
  rw [if_pos this.1, this.2]

theorem commit_target {s s' : State} {t : Nat} {old : List PartRow} {news : List NewPart} {ent : Ent}
    (hid : ent.id = t) (hc : commit s t old news (some ent) = some s') :
    ent ∈ s'.ents ∧ (∀ x ∈ s'.ents, x.id = t → x = ent) ∧
    (∀ x, x.id ≠ t → (x ∈ s'.ents ↔ x ∈ s.ents)) := by
  obtain ⟨_, _, _, hents, _⟩ := commit_some hc
  have hmemiff : ∀ x, x ∈ s'.ents ↔ (x ∈ s.ents ∧ x.id ≠ t) ∨ x = ent := by
    intro x
    rw [hents]
    simp [List.mem_append, List.mem_filter]
  refine ⟨(hmemiff ent).mpr (Or.inr rfl), ?_, ?_⟩
  · intro x hx hxt
    rcases (hmemiff x).mp hx with hx | hx
    · exact absurd hxt hx.2
    · exact hx
  · intro x hxt
    rw [hmemiff]
    constructor
    · intro hx
      rcases hx with hx | hx
      · exact hx.1
      · exact absurd (hx ▸ hid) hxt
    · intro hx
      exact Or.inl ⟨hx, hxt⟩

theorem transition_spec {s s' : State} {t : Nat} {cls : String} (h : Inv s)
    (hstep : step s (.transition t cls) = (s', true)) :
    ∃ (e : Ent) (ps : List PartRow), findEnt s t = some e ∧
      { e with cls := some cls, parts := ps } ∈ s'.ents ∧
      (∀ x ∈ s'.ents, x.id = t → x = { e with cls := some cls, parts := ps }) ∧
      (∀ x, x.id ≠ t → (x ∈ s'.ents ↔ x ∈ s.ents)) ∧
      (∀ r ∈ ps, r.store = storeFor s.cmap cls) ∧
      ps.map (·.content) = e.parts.map (·.content) ∧
      ((∀ r ∈ e.parts, r.store = storeFor s.cmap cls) →
        ps.map (·.pid) = e.parts.map (·.pid) ∧ s'.reg = s.reg ∧ s'.idx = s.idx ∧ s'.phys = s.phys) := by
  obtain ⟨e, s1, news, s2, _, hf, hmv, hadd, hc⟩ := transitionWith_some (step_true hstep)
  obtain ⟨he, hid⟩ := findEnt_some hf
  have htx := addRefs_txn (moveParts_txn h (storeFor_mem h cls) (parts_sub_rows he) (Txn.start h) hmv) hadd
  rw [htx.partsOf_eq, partsOf_find h hf] at hc
  obtain ⟨hmem, huniq, hothers⟩ := commit_target (ent := { e with cls := some cls, parts := news.map (·.row) }) hid hc
  refine ⟨e, _, hf, hmem, huniq, fun x hx => htx.mid.ents ▸ hothers x hx, List.forall_mem_map.2 (moveParts_rows hmv).1,
    (List.map_map ..).trans (moveParts_rows hmv).2, fun hsame => ?_⟩
  obtain ⟨rfl, hpids, hpre, hshared⟩ := moveParts_same_store hsame hmv
  rw [hshared] at hadd
  -- the closing TryAddPartReferences took one more reference per row, the commit gives them back
  obtain ⟨hpos, rfl⟩ := tryAddRefs_some hadd
  obtain ⟨hreg, hidx, hphys⟩ := commit_giveback hc (by simpa [freshPids] using hpre)
    fun p hp => Nat.lt_add_of_pos_left (hpos p (List.count_pos_iff.1 hp))
  exact ⟨(List.map_map ..).trans hpids, funext fun p => (hreg p).trans (Nat.add_sub_cancel ..), hidx, hphys⟩

end Pithos.C14Routing
