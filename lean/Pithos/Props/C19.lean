/-
C19 — caches never serve bytes that were not stored.

Model: `Pithos.Model.Cache` (hand-written; the sequential machine is tied to the real GenericCache + LFU +
checkers by the T2 differential of harness/cmd/verifharness/c19.go, call order of the persistor included;
the atomic-step machines are tied by scripted overlaps). Tables: `Pithos.Gen.CacheLocks` (T1, regenerated).

The LFU policy: no panic, one heap entry per key, every tracked key has a heap entry — for all operation
sequences. GenericCache sequentially: a Get returns only what a Set of that key stored.
GenericCache + persistor, all interleavings of the atomic steps (`Conc`): `get_returns_completed_set`.
The cache part store (`Part`): `getpart_returns_only_put_bytes` (all interleavings),
`getpart_bytes_or_notfound_partial` (calls that do not overlap), negation witness for the late fill.
Lock discipline, as `decide` obligations over the extracted call table.

The invariants and step relations under these theorems are in `Pithos.Lemmas.CacheLfu` (the LFU policy and the
sequential cache) and `Pithos.Lemmas.CacheMachines` (the two atomic-step machines).
-/
import Pithos.Lemmas.CacheLfu
import Pithos.Lemmas.CacheMachines
import Pithos.Gen.CacheLocks

namespace Pithos.C19
open Pithos.Cache

/-- **seq_no_panic_repaired.** GenericCache over the guarded LFU policy (or evictnothing): no operation
sequence panics, whatever the sizes and limits. -/
theorem seq_no_panic_repaired (d : Bool) (l : Limit) (ops : List Seq.Op) :
    Seq.Out.panic ∉ (Seq.run true d (Seq.init (.lfu (Lfu.init l))) ops).2 ∧
    Seq.Out.panic ∉ (Seq.run true d (Seq.init .nothing) ops).2 :=
  ⟨seq_run_no_panic l true d ops _ ⟨linv_init l, rfl⟩ (fun _ _ => Or.inl rfl),
   seq_run_no_panic l true d ops _ trivial (fun _ _ => Or.inl rfl)⟩

/-- **seq_no_panic_asis_partial.** GenericCache over the LFU policy as it is: no operation sequence
panics provided every item offered fits the cache on its own (size ≤ size limit; key limit ≥ 1). -/
theorem seq_no_panic_asis_partial (d : Bool) (l : Limit) (ops : List Seq.Op) (hfit : ∀ op ∈ ops, opFits l op) :
    Seq.Out.panic ∉ (Seq.run false d (Seq.init (.lfu (Lfu.init l))) ops).2 :=
  seq_run_no_panic l false d ops _ ⟨linv_init l, rfl⟩ (fun op h => Or.inr (hfit op h))

/-- **Witness** (known finding `C19.lfu-pop-empty-heap-panic`, replayed on the real code as directed
case 0): one 20-byte item under a 10-byte limit pops the empty heap. -/
theorem asis_panics_on_oversized_item :
    (Seq.run false false (Seq.init (.lfu (Lfu.init (.size 10)))) [.set 0 1020 20 true]).2 = [.panic] := by decide +kernel

/-- …also with a key limit of 0, and on the streamed path after the value has been stored. -/
theorem asis_panics_on_zero_key_limit :
    (Seq.run false false (Seq.init (.lfu (Lfu.init (.keys 0)))) [.set 0 1004 4 false]).2 = [.panic] := by decide +kernel

/-- Non-vacuity of `seq_no_panic_asis_partial`: a history with re-sets, evictions and a failing reader
meets the hypothesis. -/
example : ∀ op ∈ ([.set 0 1005 5 true, .set 0 2005 5 false, .set 1 3008 8 true, .setFail 2 4 true, .get 0, .remove 1] : List Seq.Op),
    opFits (.size 10) op := by
  intro op hop
  simp only [List.mem_cons, List.not_mem_nil, or_false] at hop
  rcases hop with rfl | rfl | rfl | rfl | rfl | rfl <;> simp [opFits, fits]

/-- **Witness** (design §10 "LFU pushes a duplicate heap entry when a key is set twice"): true of the
code as it is. It costs LFU accuracy and limit accounting, not the safety property (the theorems above
hold with duplicates). -/
theorem asis_duplicate_heap_entry :
    (match (Seq.run false false (Seq.init (.lfu (Lfu.init (.keys 2)))) [.set 0 1003 3 true, .set 0 2003 3 true]).1.pol with
     | .lfu s => hkeys s.heap
     | .nothing => []) = [0, 0] := by decide +kernel

/-- **lfu_unique_heap_keys.** With the previous entry of a key removed before the push, the LFU heap holds
at most one entry per key after every operation sequence. -/
theorem lfu_unique_heap_keys (g : Bool) (l : Limit) (ops : List Seq.Op) :
    PUnique (Seq.run g true (Seq.init (.lfu (Lfu.init l))) ops).1.pol := by
  have : ∀ (ops : List Seq.Op) (s : Seq.St), PUnique s.pol → PUnique (Seq.run g true s ops).1.pol := by
    intro ops
    induction ops with
    | nil => intro s h; exact h
    | cons op ops ih =>
      intro s h
      -- `PUnique` is `PAll` of this predicate, written out
      exact ih _ (seq_step_pol (fun st => (hkeys st.heap).Nodup) g true (trackSet_unique g) trackGet_unique
        trackRemove_unique s op h)
  exact this ops _ (by simp [PUnique, Seq.init, Lfu.init, hkeys])

/-- **seq_get_returns_set_value.** Sequentially, whatever the policy variant, a Get of `k` that hits returns
a value some earlier `Set(k, ·)` of the history stored. -/
theorem seq_get_returns_set_value (g d : Bool) (p : Policy) (pre : List Seq.Op) (k : Key) (v : Nat)
    (h : (Seq.step g d (Seq.run g d (Seq.init p) pre).1 (.get k)).2 = .hit v) :
    ∃ sz known, Seq.Op.set k v sz known ∈ pre := by
  -- a hit is what the persistor holds, and the persistor of a fresh cache holds only what a Set stored
  have hl := ((seq_step_get g d _ k v).1 h).2
  exact (seq_run_store g d pre (Seq.init p) (k, v) (mem_of_lookup hl)).resolve_left nofun

/-- **failed_set_stores_nothing.** A Set whose reader fails (after any number of bytes) leaves no value under
the key — neither the prefix it managed to read nor the previous value: the next Get misses. -/
theorem failed_set_stores_nothing (g d : Bool) (s : Seq.St) (k : Key) (sz : Nat) (known : Bool)
    (hp : s.poisoned = false) (hnp : (Seq.step g d s (.setFail k sz known)).2 ≠ .panic) :
    Seq.lookup (Seq.step g d s (.setFail k sz known)).1.store k = none := by
  have herase : ∀ st : List (Key × Nat), Seq.lookup (Seq.erase st k) k = none :=
    fun st => (lookup_erase st k k).trans (if_pos rfl)
  unfold Seq.step at hnp ⊢
  simp only [hp, Bool.false_eq_true, if_false] at hnp ⊢
  cases known with
  | false => simp only [Bool.false_eq_true, if_false]; exact herase _
  | true =>
    simp only [if_true] at hnp ⊢
    cases hts : s.pol.trackSet g d k sz with
    | none => simp [hts] at hnp
    | some r => exact herase _

namespace Conc
open Pithos.Cache.Conc

/-- **get_returns_completed_set.** GenericCache over a persistor whose Store/Get/Remove are atomic (a
mutex-protected map; a file renamed into place): for any number of Set (known size or streamed, with
any evictions, also with failing readers), Get and Remove calls started at any program point, and EVERY
interleaving of their atomic steps, each value a Get hands to its caller is the complete value of a Set
of that very key whose store has finished. -/
theorem get_returns_completed_set (ts : List Thread) (hts : ∀ t ∈ ts, fresh t) (sched : List Nat) :
    ∀ p ∈ (run true (init ts) sched).returned,
      ∃ v, p.2 = .full v ∧ (p.1, v) ∈ (run true (init ts) sched).completed := by
  have h0 : GInv (init ts) := by
    refine ⟨⟨?_, ?_⟩, ?_⟩
    · intro p hp; simp [init] at hp
    · intro p hp; simp [init] at hp
    · intro t ht p hp
      rw [handle_fresh t (hts t ht)] at hp
      cases hp
  exact (run_ginv _ sched h0).1.ret

/-- **Witness** (known finding `C19.get-returned-partial-value`; realised on the real filesystem persistor
by scripted schedule 0): with truncate-then-copy, a Get between the two steps of a streamed Set reads a value
no Set ever stored. -/
theorem fs_asis_get_returns_torn_value :
    (run false (init [.set 0 7 false false [] .evict, .get 0 .open_ none]) [0, 0, 1, 1]).returned = [(0, .torn)] := by
  decide +kernel

/-- The same schedule with an atomic store returns nothing at all (a miss): the value is not there yet. -/
example : (run true (init [.set 0 7 false false [] .evict, .get 0 .open_ none]) [0, 1, 1, 0]).returned = [] := by decide +kernel

/-- Non-vacuity: a schedule in which a Get does return the value of a completed streamed Set that evicted another key. -/
example : (run true (init [.set 0 7 false false [3] .evict, .get 0 .open_ none]) [0, 0, 0, 0, 1, 1]).returned = [(0, .full 7)] := by
  decide +kernel

end Conc

namespace Part
open Pithos.Cache.Part

/-- **getpart_returns_only_put_bytes.** For any number of PutPart/GetPart/DeletePart calls on any ids and EVERY
interleaving of their steps (inner store, cache entry, after-commit hook, late fill, fills that FAIL because
the inner reader broke mid-stream or the caller closed early): whatever bytes a GetPart returns for an id were written by some PutPart under that very id — never a foreign or invented value. -/
theorem getpart_returns_only_put_bytes (ts : List Thread) (hts : ∀ t ∈ ts, fresh t) (sched : List Nat) :
    ∀ id v, (id, some v) ∈ (run (init ts) sched).returned → (id, v) ∈ (run (init ts) sched).puts := by
  have h0 : GInv (init ts) := by
    refine ⟨⟨?_, ?_, ?_⟩, ?_⟩
    · intro p hp; simp [init] at hp
    · intro p hp; simp [init] at hp
    · intro id v hp; simp [init] at hp
    · intro t ht p hp
      rw [claim_fresh t (hts t ht)] at hp
      cases hp
  exact (run_ginv _ sched h0).1.ret

/-- The part store without a cache and without faults. -/
def ref : List (Nat × Nat) → List Thread → List (Nat × Option Nat)
  | _, [] => []
  | inner, .put id v _ :: ts => ref (Cache.Part.insert inner id v) ts
  | inner, .get id _ _ _ :: ts => (id, lookup inner id) :: ref inner ts
  | inner, .delete id _ _ :: ts => ref (erase inner id) ts

/-- **failed_fill_caches_nothing.** A GetPart whose source breaks during a cache-miss fill (after any number
of bytes, also 0 or all but the EOF) leaves the cache exactly as it was and hands no bytes to its caller. -/
theorem failed_fill_caches_nothing (s : St) (id : Nat) (hc : Coh s) (hf : getFails s id true = true) :
    (runToEnd s (.get id true .lookup none)).cache = s.cache ∧
    (runToEnd s (.get id true .lookup none)).returned = s.returned := by
  simp only [getFails, Bool.true_and, Bool.and_eq_true, Option.isNone_iff_eq_none, Option.isSome_iff_exists] at hf
  obtain ⟨hl, v, hin⟩ := hf
  rw [runToEnd_get_eq, hl, hin]
  exact ⟨rfl, rfl⟩

/-- The same step-wise, for every interleaving: the `fill` step of a failing GetPart changes nothing. -/
theorem failed_fill_step_caches_nothing (s : St) (id : Nat) (sn : Option Nat) :
    (stepThread s (.get id true .fill sn)).1 = s := by
  cases sn <;> rfl

/-- **getpart_bytes_or_notfound_partial.** When the calls do not overlap (each finishes before the next
starts — in particular no DeletePart/PutPart between a read miss and its late cache fill), and whatever
fills fail on the way, every GetPart that answers at all answers exactly what the inner store holds under
the id at that moment: the bytes stored there, or not-found — never a partial value, never stale after a
delete or an overwrite. -/
theorem getpart_bytes_or_notfound_partial (ts : List Thread) (hts : ∀ t ∈ ts, fresh t) (s : St) (hc : Coh s) :
    (serial s ts).returned = (spec s ts).reverse ++ s.returned := by
  induction ts generalizing s with
  | nil => simp [serial, spec]
  | cons t ts ih =>
    obtain ⟨h1, _, h3⟩ := runToEnd_fresh s t (hts t (by simp))
    have := ih (fun t' ht' => hts t' (by simp [ht'])) (runToEnd s t) fun id => h1 id (hc id)
    simp only [serial]
    rw [this, h3 hc]
    cases t with
    | get id fl pc sn => simp only [spec]; split <;> simp
    | put => simp [spec]
    | delete => simp [spec]

/-- Without faults the answers are those of the part store without any cache. -/
theorem spec_eq_ref (ts : List Thread) (hts : ∀ t ∈ ts, fresh t)
    (hnf : ∀ id fl pc sn, Thread.get id fl pc sn ∈ ts → fl = false) (s : St) (hc : Coh s) :
    spec s ts = ref s.inner ts := by
  induction ts generalizing s with
  | nil => rfl
  | cons t ts ih =>
    obtain ⟨h1, h2, _⟩ := runToEnd_fresh s t (hts t (by simp))
    have := ih (fun t' ht' => hts t' (by simp [ht'])) (fun id fl pc sn hm => hnf id fl pc sn (by simp [hm])) (runToEnd s t)
      fun id => h1 id (hc id)
    cases t with
    | get id fl pc sn =>
      have hfl := hnf id fl pc sn (by simp)
      subst hfl
      simp only [spec, ref, getFails, Bool.false_and, Bool.false_eq_true, if_false, List.singleton_append]
      rw [this, h2]
    | put id v pc => simp only [spec, ref, List.nil_append]; rw [this, h2]
    | delete id cf pc => simp only [spec, ref, List.nil_append]; rw [this, h2]

/-- **delete_window_leaves_no_entry.** DeletePart in the order of the code (inner store first, cache entry
second): whatever GetParts — of this or other ids, with or without failing sources — are served completely
while the delete is in flight between its two steps, once it has returned neither the inner store nor the cache
holds anything under the id, and the cache is coherent again; so (`getpart_bytes_or_notfound_partial`) every later
GetPart of the id answers not-found. -/
theorem delete_window_leaves_no_entry (s : St) (hc : Coh s) (id : Nat) (gs : List Thread)
    (hg : ∀ t ∈ gs, isGet t ∧ fresh t) :
    let s1 := (stepThread s (.delete id false 0)).1
    let s3 := (stepThread (serial s1 gs) (.delete id false 1)).1
    lookup s3.inner id = none ∧ lookup s3.cache id = none ∧ Coh s3 := by
  intro s1 s3
  -- `s1` is `s` with the part erased from the inner store; `s3` is `serial s1 gs` with the cache entry erased
  obtain ⟨hin, hco⟩ := serial_gets gs hg s1
  have hinner : lookup s3.inner id = none := by
    show lookup (serial s1 gs).inner id = none
    rw [hin]
    exact (lookup_erase s.inner id id).trans (if_pos rfl)
  have hcache : lookup s3.cache id = none := (lookup_erase _ id id).trans (if_pos rfl)
  refine ⟨hinner, hcache, fun id' v' h => ?_⟩
  by_cases e : id' = id
  · subst e; rw [hcache] at h; cases h
  · -- between the two steps the cache stays right about every other id
    have h' : lookup (erase (serial s1 gs).cache id) id' = some v' := h
    rw [lookup_erase, if_neg e] at h'
    refine hco id' (fun v hv => ?_) v' h'
    show lookup (erase s.inner id) id' = some v
    rw [lookup_erase, if_neg e]
    exact hc id' v hv

/-- **Witness** (seeded change C19-3; realised on the real cache part store by a gated inner part store): with
the cache entry removed FIRST, a GetPart served while the inner delete is still pending misses, reads the part and
re-fills the cache; after the delete has returned the cache serves the deleted bytes. -/
theorem cache_first_delete_goes_stale :
    let s0 : St := { init [] with inner := [(0, 7)], cache := [(0, 7)], puts := [(0, 7)] }
    let s1 := (stepThread s0 (.delete 0 true 0)).1
    let s3 := (stepThread (serial s1 [.get 0 false .lookup none]) (.delete 0 true 1)).1
    lookup s3.inner 0 = none ∧ (serial s3 [.get 0 false .lookup none]).returned.head? = some (0, some 7) := by decide +kernel

/-- **Witness** (known finding `C19.partstore-late-fill-serves-stale-bytes`; realised on the real cache part
store by scripted schedule 0): a GetPart that missed is still streaming when a DeletePart of the id
completes; its late fill puts the deleted bytes back, and a GetPart issued afterwards returns them although
the inner store has nothing under the id. -/
theorem late_fill_serves_deleted_part :
    let s := run { init [.get 0 false .lookup none, .delete 0 false 0, .get 0 false .lookup none] with inner := [(0, 7)], puts := [(0, 7)] }
      [0, 0, 1, 1, 0, 2]
    s.inner = [] ∧ s.returned = [(0, some 7), (0, some 7)] := by decide +kernel

/-- Non-vacuity of the sequential theorem: the same three calls, not overlapping, answer `7` then not-found. -/
example : (serial { init [] with inner := [(0, 7)], puts := [(0, 7)] }
    [.get 0 false .lookup none, .delete 0 false 0, .get 0 false .lookup none]).returned = [(0, none), (0, some 7)] := by decide +kernel

/-- Non-vacuity of the fault clauses: a fill that fails (nothing returned, nothing cached), then a healthy read
of the complete value, then a failing source that no longer matters because the value is cached. -/
example : (serial { init [] with inner := [(0, 7)], puts := [(0, 7)] }
    [.get 0 true .lookup none, .get 0 false .lookup none, .get 0 true .lookup none]).returned = [(0, some 7), (0, some 7)] := by decide +kernel

end Part

section Locks
open Pithos.Gen.CacheLocks

/-- Every access to the eviction policy's state (heap, checker maps) happens with `GenericCache.mu` held. -/
theorem policy_state_under_mu : ∀ c ∈ calls, c.2.1 = "policy" → c.2.2.2 = true := by decide +kernel

/-- `Get` and `Remove` hold `mu` across their persistor call. -/
theorem get_and_remove_hold_mu : ∀ c ∈ calls, (c.1 = "Get" ∨ c.1 = "Remove") → c.2.2.2 = true := by decide +kernel

/-- The step boundaries of the atomic-step model are those of the code: in `Set` the eviction removals and
`persistor.Store` (and the clean-up Remove after a failed Store) run WITHOUT `mu`; nothing else does. -/
theorem persistor_calls_outside_mu :
    (calls.filter (fun c => c.2.1 == "persistor" && !c.2.2.2)).map (fun c => (c.1, c.2.2.1))
      = [("Set", "Remove"), ("Set", "Store"), ("Set", "Remove"), ("Set", "Remove")] := by decide +kernel

/-- `Set` releases `mu` with plain `Unlock()` calls: a panic under the lock leaves it locked (`poisoned`). -/
theorem set_unlock_is_not_deferred : setUnlockDeferred = false := rfl

/-- The source shapes the model is instantiated from are ones it knows. -/
theorem lfu_variant_recognised :
    (guardedOfCond lfuLoopCond).isSome = true ∧ (dedupeOfRemoves lfuRemovesBeforeLoop).isSome = true := by decide +kernel

/-- The cache part store touches the cache only AFTER the inner store has done its part: DeletePart removes the
entry after the inner delete (`delete_window_leaves_no_entry` is about that order; the other order goes stale:
`Part.cache_first_delete_goes_stale`), PutPart caches after the inner put. -/
theorem partstore_cache_follows_inner : partStoreDeleteCacheFirst = false ∧ partStorePutCacheFirst = false :=
  ⟨rfl, rfl⟩

/-- Race freedom as a checkable discipline: persistor calls made outside `mu` are race-free exactly when the
persistor synchronises itself. `raceFree` is evaluated by the driver on every run (it is `false` for an
in-memory persistor whose map has no mutex: finding `C19.lock-discipline-inmemory-persistor-unsynchronised`). -/
def raceFree : Bool :=
  (calls.all (fun c => c.2.1 != "persistor" || c.2.2.2)) || inmemoryMapAccesses.all (·.2)

theorem raceFree_sound (h : raceFree = true) :
    (∀ c ∈ calls, c.2.1 = "persistor" → c.2.2.2 = true) ∨ (∀ a ∈ inmemoryMapAccesses, a.2 = true) := by
  unfold raceFree at h
  rcases Bool.or_eq_true_iff.1 h with h1 | h1
  · left
    intro c hc hp
    have := List.all_eq_true.1 h1 c hc
    simpa [hp] using this
  · right
    intro a ha
    exact List.all_eq_true.1 h1 a ha

end Locks

end Pithos.C19
