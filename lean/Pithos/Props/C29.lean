/-
C29 — requests signed by standard SigV4 clients are accepted.

Model: `Pithos.Model.Http.SigV4` (`serverCanon` = `generateCanonicalRequest` of pithos,
`sdkCanon` = the canonical request of the AWS SDK for Go v2 signer with the S3 client's settings).
Statements are for *every* request in the image of the S3 client + HTTP transport (`SdkShaped`):
all byte strings as keys, all query multisets, all header lists — no bound. `SdkShaped`, the order
condition `encOrderAgrees (signedQuery …)` and the component-wise equalities behind the theorems
(`serverCanon_eq_sdkCanon`: which switch needs which side condition) are in `Pithos.Lemmas.SigV4`.

Deviations found (both replayed on the implementation by the harness):
 * runs of spaces inside a signed header value were not collapsed — repaired in /repo e6080ab
   (fixes/C29-collapse-header-spaces.patch); the current tree is `Fix.patched`, `Fix.asIs` is the
   tree before that commit;
 * the canonical query is ordered by percent-encoded key/value, the Go SDK orders by decoded
   key/value (recorded as a known finding; no patch proposed).
-/
import Pithos.Lemmas.SigV4

namespace Pithos.C29
open Pithos.SigV4

/-- **canonical_eq_sdk** (ideal server: inner spaces collapsed, query ordered like the SDK).
For every request the S3 client can produce and every choice of signed headers, the server's
canonical request — hence its string to sign and expected signature — is the SDK's. -/
theorem canonical_eq_sdk (c : Crypto) (r : Req) (S : List Bytes) (presigned : Bool)
    (h : SdkShaped c r presigned) :
    canonicalRequest c Fix.ideal r S presigned = (sdkCanon r S presigned).render := by
  unfold canonicalRequest
  rw [serverCanon_eq_sdkCanon c Fix.ideal r S presigned h (Or.inl rfl) (Or.inl rfl)]

/-- **canonical_eq_sdk_patched** (the current tree, /repo e6080ab and later): only the query order
remains as a side condition. -/
theorem canonical_eq_sdk_patched (c : Crypto) (r : Req) (S : List Bytes) (presigned : Bool)
    (h : SdkShaped c r presigned) (ho : encOrderAgrees (signedQuery r.query) = true) :
    canonicalRequest c Fix.patched r S presigned = (sdkCanon r S presigned).render := by
  unfold canonicalRequest
  rw [serverCanon_eq_sdkCanon c Fix.patched r S presigned h (Or.inl rfl) (Or.inr ho)]

/-- **canonical_eq_sdk_partial** (the tree before e6080ab): equality holds when no signed header value
contains a run of spaces and the two query orders agree. -/
theorem canonical_eq_sdk_partial (c : Crypto) (r : Req) (S : List Bytes) (presigned : Bool)
    (h : SdkShaped c r presigned)
    (hc : ∀ h ∈ r.headers, noSpaceRuns h.2 = true)
    (ho : encOrderAgrees (signedQuery r.query) = true) :
    canonicalRequest c Fix.asIs r S presigned = (sdkCanon r S presigned).render := by
  unfold canonicalRequest
  rw [serverCanon_eq_sdkCanon c Fix.asIs r S presigned h (Or.inr hc) (Or.inr ho)]

-- `hdt` is not used in the three theorems below: the date is cut from a timestamp that parses,
-- which has no `/`.
/-- **sdk_signed_accepted** (ideal server). A request of the S3 client's shape that carries the
credential of a configured key for the configured region, a timestamp inside the window, the
SDK's list of signed headers (containing `host` and every `x-amz-*` / `Content-MD5` header it
sent) and the signature the SDK computes with that key's secret is authenticated as that key —
whatever its path, query string, headers and payload mode. -/
theorem sdk_signed_accepted (c : Crypto) (cfg : Config) (r : Req) (p : SigParams)
    (ak secret date : Bytes) (t : Int)
    (hp : parseSigParams r = .ok p) (halg : p.alg = algV4)
    (hcred : p.credential = join [47] [ak, date, cfg.region, b! "s3", b! "aws4_request"])
    (hak : (47 : UInt8) ∉ ak) (hdt : (47 : UInt8) ∉ date) (hrg : (47 : UInt8) ∉ cfg.region)
    (hkey : cfg.creds.find? (fun k => k.accessKey == ak) = some ⟨ak, secret⟩)
    (hts : parseTimestamp p.timestamp = some t) (hdate : date = p.timestamp.take 8)
    (hwin : t - 900 ≤ cfg.now ∧ cfg.now ≤ t + (p.expires : Int))
    (hhost : (parseSignedHeaders p.signedHeaders).contains hostKey = true)
    (hsens : ∀ h ∈ r.headers, mustBeSigned (lower h.1) = true →
      (parseSignedHeaders p.signedHeaders).contains (lower h.1) = true)
    (hshape : SdkShaped c r p.presigned)
    (hstream : ¬ (headerGet r contentSHA256Header = streamingECDSA ∨ headerGet r contentSHA256Header = streamingECDSATrailer))
    (hsig : p.signature = sdkSignature c secret date cfg.region p.timestamp r (parseSignedHeaders p.signedHeaders) p.presigned) :
    checkAuth c Fix.ideal cfg r =
      .ok { accessKey := ak, params := p,
            scope := join [47] [date, cfg.region, b! "s3", b! "aws4_request"],
            signed := parseSignedHeaders p.signedHeaders } :=
  accepted_of_canonical_eq c Fix.ideal cfg r p ak secret date t hp halg hcred hak hrg hkey hts hdate hwin hhost
    hsens (canonical_eq_sdk c r _ p.presigned hshape) hstream hsig

/-- **sdk_signed_accepted_patched** (the current tree): the same, when the two query orders agree. -/
theorem sdk_signed_accepted_patched (c : Crypto) (cfg : Config) (r : Req) (p : SigParams)
    (ak secret date : Bytes) (t : Int)
    (hp : parseSigParams r = .ok p) (halg : p.alg = algV4)
    (hcred : p.credential = join [47] [ak, date, cfg.region, b! "s3", b! "aws4_request"])
    (hak : (47 : UInt8) ∉ ak) (hdt : (47 : UInt8) ∉ date) (hrg : (47 : UInt8) ∉ cfg.region)
    (hkey : cfg.creds.find? (fun k => k.accessKey == ak) = some ⟨ak, secret⟩)
    (hts : parseTimestamp p.timestamp = some t) (hdate : date = p.timestamp.take 8)
    (hwin : t - 900 ≤ cfg.now ∧ cfg.now ≤ t + (p.expires : Int))
    (hhost : (parseSignedHeaders p.signedHeaders).contains hostKey = true)
    (hsens : ∀ h ∈ r.headers, mustBeSigned (lower h.1) = true →
      (parseSignedHeaders p.signedHeaders).contains (lower h.1) = true)
    (hshape : SdkShaped c r p.presigned)
    (horder : encOrderAgrees (signedQuery r.query) = true)
    (hstream : ¬ (headerGet r contentSHA256Header = streamingECDSA ∨ headerGet r contentSHA256Header = streamingECDSATrailer))
    (hsig : p.signature = sdkSignature c secret date cfg.region p.timestamp r (parseSignedHeaders p.signedHeaders) p.presigned) :
    checkAuth c Fix.patched cfg r =
      .ok { accessKey := ak, params := p,
            scope := join [47] [date, cfg.region, b! "s3", b! "aws4_request"],
            signed := parseSignedHeaders p.signedHeaders } :=
  accepted_of_canonical_eq c Fix.patched cfg r p ak secret date t hp halg hcred hak hrg hkey hts hdate hwin hhost
    hsens (canonical_eq_sdk_patched c r _ p.presigned hshape horder) hstream hsig

/-- **sdk_signed_accepted_partial** (the tree before e6080ab): the same, when no signed header value
contains a run of spaces and the two query orders agree. -/
theorem sdk_signed_accepted_partial (c : Crypto) (cfg : Config) (r : Req) (p : SigParams)
    (ak secret date : Bytes) (t : Int)
    (hp : parseSigParams r = .ok p) (halg : p.alg = algV4)
    (hcred : p.credential = join [47] [ak, date, cfg.region, b! "s3", b! "aws4_request"])
    (hak : (47 : UInt8) ∉ ak) (hdt : (47 : UInt8) ∉ date) (hrg : (47 : UInt8) ∉ cfg.region)
    (hkey : cfg.creds.find? (fun k => k.accessKey == ak) = some ⟨ak, secret⟩)
    (hts : parseTimestamp p.timestamp = some t) (hdate : date = p.timestamp.take 8)
    (hwin : t - 900 ≤ cfg.now ∧ cfg.now ≤ t + (p.expires : Int))
    (hhost : (parseSignedHeaders p.signedHeaders).contains hostKey = true)
    (hsens : ∀ h ∈ r.headers, mustBeSigned (lower h.1) = true →
      (parseSignedHeaders p.signedHeaders).contains (lower h.1) = true)
    (hshape : SdkShaped c r p.presigned)
    (hruns : ∀ h ∈ r.headers, noSpaceRuns h.2 = true)
    (horder : encOrderAgrees (signedQuery r.query) = true)
    (hstream : ¬ (headerGet r contentSHA256Header = streamingECDSA ∨ headerGet r contentSHA256Header = streamingECDSATrailer))
    (hsig : p.signature = sdkSignature c secret date cfg.region p.timestamp r (parseSignedHeaders p.signedHeaders) p.presigned) :
    checkAuth c Fix.asIs cfg r =
      .ok { accessKey := ak, params := p,
            scope := join [47] [date, cfg.region, b! "s3", b! "aws4_request"],
            signed := parseSignedHeaders p.signedHeaders } :=
  accepted_of_canonical_eq c Fix.asIs cfg r p ak secret date t hp halg hcred hak hrg hkey hts hdate hwin hhost
    hsens (canonical_eq_sdk_partial c r _ p.presigned hshape hruns horder) hstream hsig

/-- The order condition is met whenever no key or value needs escaping. -/
theorem encOrderAgrees_of_unreserved (q : List (Bytes × Bytes))
    (h : ∀ p ∈ q, p.1.all isUnreserved = true ∧ p.2.all isUnreserved = true) : encOrderAgrees q = true := by
  have enc_id : ∀ s : Bytes, s.all isUnreserved = true → uriEncode s = s := fun s => escape_of_all
  unfold encOrderAgrees
  apply List.all_eq_true.2
  intro a ha
  apply List.all_eq_true.2
  intro b hb
  rw [enc_id _ (h a ha).1, enc_id _ (h a ha).2, enc_id _ (h b hb).1, enc_id _ (h b hb).2]
  simp

/-- a toy instance of the primitives, only to evaluate concrete requests -/
def toy : Crypto := { sha256hex := fun b => b, hmac := fun k m => k ++ m }

/-- GET /b/obj with `x-amz-meta-a: hello   world` (the request replayed by the harness as case d0) -/
def spacesReq : Req :=
  { method := b! "GET", path := b! "/b/obj", query := [], host := b! "s3.verif.test",
    headers := [(b! "X-Amz-Content-Sha256", [b! "UNSIGNED-PAYLOAD"]), (b! "X-Amz-Meta-A", [b! "hello   world"])],
    body := [] }

def spacesSigned : List Bytes := [b! "host", b! "x-amz-content-sha256", b! "x-amz-meta-a"]

/-- **Negation witness 1.** Before e6080ab (`Fix.asIs`), the canonical request of an SDK-signed GET
carrying a header value with a run of inner spaces differs from what the SDK signed (so the
signature check fails and the request is answered 401) … -/
theorem asIs_inner_spaces_witness :
    canonicalRequest toy Fix.asIs spacesReq spacesSigned false ≠ (sdkCanon spacesReq spacesSigned false).render := by
  decide +kernel

/-- … while with the patch it is equal (instance of `canonical_eq_sdk_patched`, evaluated). -/
theorem patched_inner_spaces_equal :
    canonicalRequest toy Fix.patched spacesReq spacesSigned false = (sdkCanon spacesReq spacesSigned false).render := by
  decide +kernel

/-- GET /b/obj?z=1&ä=1 (harness case d1; the pair of the repository's own unit test) -/
def orderReq : Req :=
  { method := b! "GET", path := b! "/b/obj", query := [(b! "z", b! "1"), (b! "ä", b! "1")], host := b! "s3.verif.test",
    headers := [(b! "X-Amz-Content-Sha256", [b! "UNSIGNED-PAYLOAD"])], body := [] }

/-- **Negation witness 2.** The server orders the canonical query by encoded key (`%C3%A4` < `z`),
the Go SDK by decoded key (`z` < `ä`). -/
theorem asIs_query_order_witness :
    canonicalRequest toy Fix.asIs orderReq [b! "host"] false ≠ (sdkCanon orderReq [b! "host"] false).render ∧
    canonicalRequest toy Fix.patched orderReq [b! "host"] false ≠ (sdkCanon orderReq [b! "host"] false).render := by
  decide +kernel

/-- Both witnesses are requests the S3 client can produce (`SdkShaped`), and each one violates
exactly the side condition it is about. -/
example : SdkShaped toy spacesReq false ∧ (∃ h ∈ spacesReq.headers, noSpaceRuns h.2 = false) ∧
    encOrderAgrees (signedQuery spacesReq.query) = true := by
  refine ⟨⟨⟨b! "/b/obj", by decide⟩, by decide, by decide, by decide, by decide⟩, ?_, by decide⟩
  exact ⟨(b! "X-Amz-Meta-A", [b! "hello   world"]), by decide, by decide⟩

example : SdkShaped toy orderReq false ∧ encOrderAgrees (signedQuery orderReq.query) = false := by
  refine ⟨⟨⟨b! "/b/obj", by decide⟩, by decide, by decide, by decide, by decide⟩, by decide⟩

/-- a non-trivial request: a key with a space, `+`, `%` and a non-ASCII letter and `//`, a repeated
query key, a value needing escapes, a two-valued header -/
def richReq : Req :=
  { method := b! "PUT", path := sdkEscapePath (b! "/b/a b+c%ä//x"),
    query := [(b! "prefix", b! "p q"), (b! "tag", b! "1"), (b! "tag", b! "0")],
    host := b! "s3.verif.test:9000",
    headers := [(b! "X-Amz-Content-Sha256", [b! "UNSIGNED-PAYLOAD"]), (b! "X-Amz-Meta-M", [b! "one two", b! "three"])],
    body := b! "data" }

/-- it meets every hypothesis of `canonical_eq_sdk_partial` -/
example : SdkShaped toy richReq false ∧ (∀ h ∈ richReq.headers, noSpaceRuns h.2 = true) ∧
    encOrderAgrees (signedQuery richReq.query) = true := by
  refine ⟨⟨⟨b! "/b/a b+c%ä//x", rfl⟩, by decide, by decide, by decide, by decide⟩, by decide, by decide⟩

def toyCfg : Config := { creds := [⟨b! "AK", b! "secret"⟩], region := b! "eu", now := 1718454645 }

def sdkToyBase : Req :=
  { method := b! "PUT", path := sdkEscapePath (b! "/b/a b+c"), query := [(b! "prefix", b! "p q"), (b! "tag", b! "1")],
    host := b! "s3.verif.test",
    headers := [(b! "X-Amz-Content-Sha256", [b! "UNSIGNED-PAYLOAD"]), (b! "X-Amz-Date", [b! "20240615T123045Z"]),
                (b! "X-Amz-Meta-M", [b! "one two", b! "three"])],
    body := b! "data" }

def sdkToyNames : List Bytes := [b! "host", b! "x-amz-content-sha256", b! "x-amz-date", b! "x-amz-meta-m"]

/-- the same request with the Authorization header the SDK model produces -/
def sdkToyReq : Req :=
  { sdkToyBase with headers :=
      (b! "Authorization", [b! "AWS4-HMAC-SHA256 Credential=AK/20240615/eu/s3/aws4_request, SignedHeaders=host;x-amz-content-sha256;x-amz-date;x-amz-meta-m, Signature=" ++
        sdkSignature toy (b! "secret") (b! "20240615") (b! "eu") (b! "20240615T123045Z") sdkToyBase sdkToyNames false]) ::
      sdkToyBase.headers }

set_option maxRecDepth 1000000 in
/-- Non-vacuity of `sdk_signed_accepted_partial`: the request signed by the SDK model is accepted
by `Fix.asIs`, the model of the tree before e6080ab. -/
example : (checkAuth toy Fix.asIs toyCfg sdkToyReq).toOption.map (·.accessKey) = some (b! "AK") := by
  decide +kernel

end Pithos.C29
