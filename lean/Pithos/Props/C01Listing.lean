/-
C01/C02/C06 at the storage-model level: listings agree with reads.
-/
import Pithos.Lemmas.S3List
import Pithos.Props.C02

namespace Pithos.C01
open Pithos.S3

/-- the keys of a listing answer -/
def listingKeys : Out → List String
  | .listing l => l.map (·.1)
  | _ => []

/-- **list_iff_get.** In every state satisfying the invariant (hence every reachable state), a key is
shown by ListObjects exactly when a plain GET of it succeeds: the listing loses no object and
shows no deleted one (delete markers, non-current versions and pending uploads are not listed). -/
theorem list_iff_get (q : Quirks) (s : State) (hinv : Inv s) (b k : String) (bk : Bucket) (hfb : findBucket s b = some bk) :
    k ∈ listingKeys (step q s (.list b)).2 ↔ ∃ v, (step q s (.get b k none)).2 = .obj v := by
  rw [list_out hfb]
  simp only [listingKeys, List.map_map]
  have hb := hinv bk (findBucket_mem hfb)
  constructor
  · intro h
    obtain ⟨r, hr, hrk⟩ := List.mem_map.1 h
    obtain ⟨r', hres⟩ := (listed_iff_resolve hb k).1 ⟨r, (isSort _).mem_sort.1 hr, hrk⟩
    exact ⟨_, (read_resolved hfb hres).1⟩
  · intro ⟨v, hv⟩
    obtain ⟨bk', r, hf, hres, rfl⟩ := get_obj hv
    cases hfb.symm.trans hf
    obtain ⟨r', hr', hk⟩ := (listed_iff_resolve hb k).2 ⟨r, hres⟩
    exact List.mem_map.2 ⟨r', (isSort _).mem_sort.2 hr', hk⟩

/-- **list_no_duplicates.** A listing never shows a key twice. -/
theorem list_no_duplicates (q : Quirks) (s : State) (hinv : Inv s) (b : String) :
    (listingKeys (step q s (.list b)).2).Nodup := by
  cases hfb : findBucket s b with
  | none =>
    rw [step_eq_stepT, stepT_list_eq, withB, findBucket_tick, hfb]
    exact List.nodup_nil
  | some bk =>
    rw [list_out hfb]
    simp only [listingKeys, List.map_map]
    have hperm := (sortBy_perm (fun a b : Row => a.key < b.key) (listed bk)).map (fun r => r.key)
    have hnd := listed_keys_nodup (hinv bk (findBucket_mem hfb))
    exact (hperm.nodup_iff).2 hnd

/-- the (key, version id) pairs of a version-listing answer -/
def versionPairs : Out → List (String × Option Nat)
  | .versions l => l.map fun v => (v.key, v.vid)
  | _ => []

/-- **versions_listing_exact.** In every reachable state (append behaviour since /repo 8a5dc41)
ListObjectVersions shows every stored version and delete marker exactly once: the listed
(key, version id) pairs are a permutation of the stored ones and pairwise distinct. -/
theorem versions_listing_exact (q : Quirks) (hq : q.appendLatestInPlace = false) (ops : List Op) (b : String) (bk : Bucket)
    (hfb : findBucket (run q {} ops).1 b = some bk) :
    (versionPairs (step q (run q {} ops).1 (.listVersions b)).2).Perm (bk.rows.map kv) ∧
    (versionPairs (step q (run q {} ops).1 (.listVersions b)).2).Nodup := by
  obtain ⟨_, hv⟩ := C02.reachable_vinv q hq ops
  have hvr := hv bk (findBucket_mem hfb)
  rw [listVersions_out hfb]
  simp only [versionPairs, List.map_map]
  have hperm := (sortBy_perm verLt bk.rows).map kv
  exact ⟨hperm, (hperm.nodup_iff).2 hvr.nodup⟩

end Pithos.C01
