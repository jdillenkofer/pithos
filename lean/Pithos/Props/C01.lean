/-
C01 — acknowledged object writes are read back exactly.

Theorems about the storage model `Pithos.S3` (tied to /repo by the differential harness `s3h`).
They hold for every setting `q` of the quirk switches, i.e. both for the code as it is
(`Quirks.code`) and for the reference behaviour, in every state satisfying the row invariant
`Inv` — and `reachable_inv` shows that is every state reachable by any finite history.
`get_after_delete` is in `Props/C01Delete`, the listing theorems in `Props/C01Listing`, the table of
storage calls in `Props/C01Coverage`.
-/
import Pithos.Lemmas.S3Frame
import Pithos.Lemmas.S3Read

namespace Pithos.C01
open Pithos.S3

/-- Every state reachable from the empty storage by any finite operation sequence satisfies the
row invariant (distinct row ids below the counter; at most one `latest` row per key). -/
theorem reachable_inv (q : Quirks) (ops : List Op) : Inv (run q {} ops).1 :=
  run_inv q ops {} inv_empty

/-- **read_after_put.** In every state satisfying the invariant (hence in every reachable state),
an acknowledged PutObject of `body` with content type `o.ct` is read back by the next
GetObject/HeadObject of that key exactly: same bytes, same size, same content type. Bodies are
arbitrary byte lists — empty and arbitrarily large included. -/
theorem read_after_put (q : Quirks) (s s1 : State) (hinv : Inv s) (b k : String) (body : Bytes) (o : WriteOpts)
    (inm : Bool) (im : IfMatch) (vid : Option Nat) (e : ETag)
    (hack : step q s (.put b k body o inm im) = (s1, .wrote vid e)) :
    ∃ v, (step q s1 (.get b k none)).2 = .obj v ∧ (step q s1 (.head b k none)).2 = .obj v ∧
      v.body = body ∧ v.size = body.length ∧ v.ct = o.ct ∧ v.vid = vid := by
  obtain ⟨bk, hfb, hp⟩ := put_ack hack
  obtain ⟨bk', id, c, hfb', hl⟩ := putRow_installs (inv_tick hinv) hfb hp
  obtain ⟨hg, hh⟩ := get_current (q := q) hfb' hl rfl
  exact ⟨_, hg, hh, List.append_nil _, congrArg _ (List.append_nil _), rfl, rfl⟩

/-- For every history: the state it reaches reads back the next acknowledged put. -/
theorem read_after_put_reachable (q : Quirks) (ops : List Op) (b k : String) (body : Bytes) (o : WriteOpts)
    (inm : Bool) (im : IfMatch) (s1 : State) (vid : Option Nat) (e : ETag)
    (hack : step q (run q {} ops).1 (.put b k body o inm im) = (s1, .wrote vid e)) :
    ∃ v, (step q s1 (.get b k none)).2 = .obj v ∧ v.body = body ∧ v.size = body.length ∧ v.ct = o.ct := by
  obtain ⟨v, hg, _, h1, h2, h3, _⟩ := read_after_put q _ s1 (reachable_inv q ops) b k body o inm im vid e hack
  exact ⟨v, hg, h1, h2, h3⟩

/-- NoSuchBucket exactly when the bucket is absent. -/
theorem get_nosuchbucket_iff (q : Quirks) (s : State) (b k : String) :
    (step q s (.get b k none)).2 = .err .noSuchBucket ↔ findBucket s b = none := by
  rw [step_get]
  cases findBucket s b with
  | none => simp
  | some bk =>
    -- `resolve` answers NoSuchKey or an object here
    simp only [resolve]
    cases latestRow bk k with
    | none => simp
    | some r => by_cases hd : r.dm = true <;> simp [hd]

/-- NoSuchKey exactly when the bucket exists and the key has no current version that is an object
(no row flagged latest, or the latest row is a delete marker). -/
theorem get_nosuchkey_iff (q : Quirks) (s : State) (b k : String) :
    (step q s (.get b k none)).2 = .err .noSuchKey ↔
      ∃ bk, findBucket s b = some bk ∧ (latestRow bk k = none ∨ ∃ r, latestRow bk k = some r ∧ r.dm = true) := by
  rw [step_get]
  cases findBucket s b with
  | none => simp
  | some bk =>
    simp only [resolve]
    cases hl : latestRow bk k with
    | none => simp [hl]
    | some r => by_cases hd : r.dm = true <;> simp [hd, hl]

/-- **delete_bucket_ok_iff_empty.** DeleteBucket succeeds exactly for an existing bucket holding no
object rows at all (no versions, no delete markers) and no pending uploads. -/
theorem delete_bucket_ok_iff_empty (q : Quirks) (s : State) (b : String) :
    (step q s (.rmb b)).2 = .unit ↔ ∃ bk, findBucket s b = some bk ∧ bk.rows = [] ∧ bk.uploads = [] := by
  rw [step_eq_stepT, stepT_rmb_eq, withB, findBucket_tick]
  cases hf : findBucket s b with
  | none => simp
  | some bk =>
    simp only []
    by_cases hr : bk.rows = []
    · by_cases hu : bk.uploads = []
      · simp [hr, hu]
      · simp [hr, hu]
    · simp [hr]

/-- Reads do not change the stored buckets (so interleaved reads never disturb a later read). -/
theorem reads_preserve_buckets (q : Quirks) (s : State) (b k : String) (vid : Option (Option Nat)) :
    (step q s (.get b k vid)).1.buckets = s.buckets ∧ (step q s (.head b k vid)).1.buckets = s.buckets := by
  constructor <;>
    exact withB_ind (P := fun x => x.1.buckets = s.buckets) rfl fun bk _ => by cases resolve bk k vid <;> rfl

/-- Non-vacuity: a concrete history (create bucket, put an empty object) reaches a state in which
an overwriting put is acknowledged, as the hypothesis of `read_after_put` asks. -/
example : (step Quirks.code (run Quirks.code {} [.mkb "b", .put "b" "k" [] {} false .none]).1
    (.put "b" "k" [1, 2, 3] { ct := some "text/plain" } false .none)).2 = .wrote none (singleETag [1, 2, 3]) := by
  decide

/-- **get_stable (frame).** Whatever a plain GET of (b, k) returns in a state satisfying the
invariant, it still returns — same bytes, size, content type, user metadata, ETag and version id —
after ANY sequence of operations none of which writes (b, k): operations on other keys and other
buckets (puts, deletes, copies, appends, multipart uploads, versioning changes, bucket creation and
deletion), reads, listings, and tagging / storage-class transitions of (b, k) itself. -/
theorem get_stable (q : Quirks) (s : State) (hinv : Inv s) (b k : String) (v : ObjView)
    (hget : (step q s (.get b k none)).2 = .obj v) (ops : List Op) (hnw : ∀ op ∈ ops, ¬ Writes op b k) :
    ∃ v', (step q (run q s ops).1 (.get b k none)).2 = .obj v' ∧ v'.body = v.body ∧ v'.size = v.body.length ∧
      v'.ct = v.ct ∧ v'.md = v.md ∧ v'.etag = v.etag ∧ v'.vid = v.vid := by
  obtain ⟨bk, r, hf, hres, rfl⟩ := get_obj hget
  obtain ⟨hl, hd⟩ := resolve_none_ok.1 hres
  -- by the frame the current row afterwards shows the same fields (`cv`)
  obtain ⟨bk', r', hf', hl', he⟩ :=
    curView_some.1 ((frame_run q ops b k hnw s hinv).trans (curView_some.2 ⟨bk, r, hf, hl, rfl⟩))
  exact ⟨_, (get_current hf' hl' ((congrArg CV.dm he).trans hd)).1, congrArg (fun c => c.parts.flatten) he,
    congrArg (fun c => c.parts.flatten.length) he, congrArg CV.ct he, congrArg CV.md he, congrArg CV.etag he,
    congrArg CV.vid he⟩

/-- **last_write_wins.** After an acknowledged PutObject of `body` to (b, k), and any further
operations that do not write (b, k), a GET of (b, k) returns exactly `body` (with its size and
content type): the last acknowledged write to a key determines what is read, whatever happens to
other keys and buckets in between. -/
theorem last_write_wins (q : Quirks) (s s1 : State) (hinv : Inv s) (b k : String) (body : Bytes) (o : WriteOpts)
    (inm : Bool) (im : IfMatch) (vid : Option Nat) (e : ETag)
    (hack : step q s (.put b k body o inm im) = (s1, .wrote vid e))
    (ops : List Op) (hnw : ∀ op ∈ ops, ¬ Writes op b k) :
    ∃ v, (step q (run q s1 ops).1 (.get b k none)).2 = .obj v ∧ v.body = body ∧ v.size = body.length ∧
      v.ct = o.ct ∧ v.vid = vid := by
  obtain ⟨v, hg, _, hb, hs, hct, hvid⟩ := read_after_put q s s1 hinv b k body o inm im vid e hack
  have hinv1 : Inv s1 := by have := step_inv q s (.put b k body o inm im) hinv; rw [hack] at this; exact this
  obtain ⟨v', hg', h1, h2, h3, _, _, h6⟩ := get_stable q s1 hinv1 b k v hg ops hnw
  exact ⟨v', hg', by rw [h1, hb], by rw [h2, hb], by rw [h3, hct], by rw [h6, hvid]⟩

/-- The same from the empty storage: for every history `pre`, every acknowledged put after it and
every continuation `ops` that does not write (b, k). -/
theorem last_write_wins_reachable (q : Quirks) (pre : List Op) (b k : String) (body : Bytes) (o : WriteOpts)
    (inm : Bool) (im : IfMatch) (s1 : State) (vid : Option Nat) (e : ETag)
    (hack : step q (run q {} pre).1 (.put b k body o inm im) = (s1, .wrote vid e))
    (ops : List Op) (hnw : ∀ op ∈ ops, ¬ Writes op b k) :
    ∃ v, (step q (run q s1 ops).1 (.get b k none)).2 = .obj v ∧ v.body = body ∧ v.size = body.length ∧ v.ct = o.ct := by
  obtain ⟨v, hg, h1, h2, h3, _⟩ := last_write_wins q _ s1 (reachable_inv q pre) b k body o inm im vid e hack ops hnw
  exact ⟨v, hg, h1, h2, h3⟩

/-- Non-vacuity of the frame: a continuation with writes to another key and another bucket, a
versioning change, tagging and a transition of the key itself satisfies the hypothesis, and the
model indeed reads the bytes back. -/
example :
    let ops : List Op := [.put "b" "other" [9] {} false .none, .mkb "c", .put "c" "k" [8] {} false .none,
      .setVer "b" .enabled, .putTags "b" "k" none [("a", "b")], .transition "b" "k" "GLACIER" none, .del "b" "other" none .none]
    (∀ op ∈ ops, ¬ Writes op "b" "k") ∧
    ((step Quirks.code (run Quirks.code {} ([.mkb "b", .put "b" "k" [1, 2, 3] {} false .none] ++ ops)).1 (.get "b" "k" none)).2
      matches .obj { body := [1, 2, 3], .. }) := by
  decide

end Pithos.C01
