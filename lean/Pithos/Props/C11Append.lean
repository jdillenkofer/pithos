/-
C11, continued: AppendObject keeps the object's content type, metadata, tags and storage class;
PutObjectTagging of the current version sets exactly the supplied tag set (tagging by version id
and "nothing else changes" are in `Pithos.Props.C11Tagging`).
-/
import Pithos.Props.C12
import Pithos.Lemmas.S3Resave

namespace Pithos.C11
open Pithos.S3

/-- **append_keeps_metadata.** For the code's append behaviour since /repo 8a5dc41 (both switches
off; the other two arbitrary), in every state satisfying the invariant: after an acknowledged
AppendObject the current version of the key carries the content type, system + user metadata,
tags and storage class of the object that was extended — whichever path the append took (new
version in an Enabled bucket, in-place extension of the null version, a new null version over a
ULID version in a Suspended bucket). A first append (no current object, or a delete marker)
yields an object without metadata. -/
theorem append_keeps_metadata (q : Quirks) (h1 : q.appendEnabledDropsMeta = false) (h2 : q.appendLatestInPlace = false)
    (s s1 : State) (hinv : Inv s) (b k : String) (body : Bytes) (off : Option Nat)
    (bk : Bucket) (hfb : findBucket s b = some bk) (e : ETag) (size : Nat)
    (hack : step q s (.append b k body off) = (s1, .appended e size)) :
    ∃ v, (step q s1 (.head b k none)).2 = .obj v ∧ (v.ct, v.md, v.tags, v.cls) = C12.exMeta bk k := by
  obtain ⟨bk', row, hf2, hl2, hdm, _, _, hmeta⟩ := append_installs (inv_tick hinv) (findBucket_tick .. ▸ hfb) hack
  exact ⟨viewOf row, (get_current (q := q) hf2 hl2 hdm).2, (hmeta h1 h2).trans (C12.exMeta_eq bk k).symm⟩

/-- The same in terms of what HEAD reported before the append. -/
theorem append_keeps_metadata_head (q : Quirks) (h1 : q.appendEnabledDropsMeta = false) (h2 : q.appendLatestInPlace = false)
    (s s1 : State) (hinv : Inv s) (b k : String) (body : Bytes) (off : Option Nat) (e : ETag) (size : Nat) (v0 : ObjView)
    (hhead : (step q s (.head b k none)).2 = .obj v0)
    (hack : step q s (.append b k body off) = (s1, .appended e size)) :
    ∃ v, (step q s1 (.head b k none)).2 = .obj v ∧ v.ct = v0.ct ∧ v.md = v0.md ∧ v.tags = v0.tags ∧ v.cls = v0.cls := by
  rw [step_head] at hhead
  obtain ⟨bk, r, hfb, hres, rfl⟩ := get_obj hhead
  obtain ⟨hl, hd⟩ := resolve_none_ok.1 hres
  obtain ⟨v, hv, hm⟩ := append_keeps_metadata q h1 h2 s s1 hinv b k body off bk hfb e size hack
  simp only [C12.exMeta, hl, hd, Bool.false_eq_true, if_false, Prod.mk.injEq] at hm
  exact ⟨v, hv, hm.1, hm.2.1, hm.2.2.1, hm.2.2.2⟩

/-- **put_tagging_sets_exactly.** An acknowledged PutObjectTagging of the current version makes
GetObjectTagging return exactly the supplied set. (The calls addressed by version id, and
DeleteObjectTagging: `put_tagging_version_sets_exactly`, `delete_tagging_version_clears`.) -/
theorem put_tagging_sets_exactly (q : Quirks) (s s1 : State) (hinv : Inv s) (b k : String) (tags : Pairs)
    (hack : step q s (.putTags b k none tags) = (s1, .unit)) :
    (step q s1 (.getTags b k none)).2 = .tags tags :=
  (getTags_resaved (.putTags b k none tags) hinv hack).elim fun _ h => h

end Pithos.C11
