/-
C39 — the integrity validator flags exactly the corrupted objects.

Model: `Pithos.Model.Integrity` (mirrors internal/storage/integrity/validator.go and the checksum
code it calls); helper lemmas: `Pithos.Lemmas.Integrity`. All theorems are for every hash family `H`,
every store contents, every object (any kind, any number of parts, any bytes); the only hypothesis
about the hashes is that the bundle of six checksums the validator recomputes is collision free
(`CollisionFree (sumsOf H)`, implied by collision freedom of any single one of them, e.g. SHA-256).
-/
import Pithos.Lemmas.Integrity

namespace Pithos.C39
open Pithos.Integrity

theorem bundle_cf_of_sha256 (H : Hashes) (h : CollisionFree H.sha256) : CollisionFree (sumsOf H) :=
  .of_comp Sums.sha256 fun a b hab => h a b (by simpa [sumsOf, plain] using hab)

theorem bundle_cf_of_md5 (H : Hashes) (h : CollisionFree H.md5) : CollisionFree (sumsOf H) :=
  .of_comp Sums.etag fun a b hab => h a b (by simpa [sumsOf, plain] using hab)

/-- Stores that represent an empty part faithfully (`GetPart` of an existing empty part succeeds). -/
def Faithful (ss : Stores) : Prop :=
  ss.dflt.emptyIsMissing = false ∧ ∀ n s, ss.named n = some s → s.emptyIsMissing = false

def AllDefaultStore (o : AObj) : Prop := ∀ p ∈ o.parts, p.store = none

/-- **reports_iff_corrupt** (repaired validator, fixes/C39-*.patch, in the tree as of /repo dfc2e8d
and fde8834; stores that can represent an empty part). For every object — single-part, multipart with any number of parts including one,
appended, COMPOSITE or FULL_OBJECT, parts in the default or in named stores, parts shared with other
objects — the validator reports it exactly when some part's stored bytes are not the bytes whose
checksums are recorded (changed, truncated, extended, or missing). -/
theorem reports_iff_corrupt (H : Hashes) (hcf : CollisionFree (sumsOf H)) (ss : Stores) (hf : Faithful ss)
    (o : AObj) (hwf : o.WF) :
    reported H Cfg.repaired ss (o.toRow H) = true ↔ ∃ p ∈ o.parts, corrupt ss p := by
  apply reports_iff_corrupt_gen H hcf Cfg.repaired ss o hwf
  · intro p _; exact Or.inl rfl
  · exact Or.inl rfl
  · intro p _ _ s hs
    unfold homeStore Stores.byName at hs
    cases hst : p.store with
    | none => rw [hst] at hs; cases hs; exact hf.1
    | some n => rw [hst] at hs; exact hf.2 n s hs

/-- **reports_iff_corrupt_partial** (`Cfg.asIsHosted`, the validator before /repo dfc2e8d and fde8834,
reading through the default part store): the equivalence holds for objects all of whose parts live in
the default store, that are not one-part objects with a `…-1` record, and that have no empty part in a
store unable to represent one. Each excluded trigger has a negation witness below. -/
theorem reports_iff_corrupt_partial (H : Hashes) (hcf : CollisionFree (sumsOf H)) (ss : Stores)
    (o : AObj) (hwf : o.WF) (hs : AllDefaultStore o) (hd : ¬ DashOne o) (he : NoLossyEmptyPart ss o) :
    reported H Cfg.asIsHosted ss (o.toRow H) = true ↔ ∃ p ∈ o.parts, corrupt ss p := by
  apply reports_iff_corrupt_gen H hcf Cfg.asIsHosted ss o hwf
  · intro p hp; exact Or.inr ⟨rfl, hs p hp⟩
  · exact Or.inr hd
  · exact he

/-- The run with `deleteCorrupted` deletes a key only if it reported an object under that key, and
keeps a key only if some object under it was not reported (any located variant). -/
theorem deletes_only_reported (H : Hashes) (cfg : Cfg) (ss : Stores) (objs : List ObjRow)
    (hl : cfg.locator ≠ .notFound) (k : Nat) :
    (k ∈ deleted H cfg ss objs ↔ ∃ o ∈ objs, o.key = k ∧ reported H cfg ss o = true) ∧
    (k ∈ survivors H cfg ss objs ↔ ∃ o ∈ objs, o.key = k ∧ reported H cfg ss o = false) := by
  have hl' : (cfg.locator == Locator.notFound) = false := by
    cases h : cfg.locator <;> simp_all
  unfold deleted survivors
  simp only [hl', Bool.false_eq_true, if_false, List.mem_map, List.mem_filter]
  constructor
  · constructor
    · rintro ⟨o, ⟨ho, hr⟩, hk⟩; exact ⟨o, ho, hk, hr⟩
    · rintro ⟨o, ho, hk, hr⟩; exact ⟨o, ⟨ho, hr⟩, hk⟩
  · constructor
    · rintro ⟨o, ⟨ho, hr⟩, hk⟩; exact ⟨o, ho, hk, by simpa using hr⟩
    · rintro ⟨o, ho, hk, hr⟩; exact ⟨o, ⟨ho, by simp [hr]⟩, hk⟩

/-- **deletes_exactly_corrupt** (repaired validator): with `deleteCorrupted`, an object is deleted
exactly when one of its parts is corrupt, for every set of objects with distinct keys or not. -/
theorem deletes_exactly_corrupt (H : Hashes) (hcf : CollisionFree (sumsOf H)) (ss : Stores) (hf : Faithful ss)
    (objs : List AObj) (hwf : ∀ o ∈ objs, o.WF) (k : Nat) :
    (k ∈ deleted H Cfg.repaired ss (objs.map (AObj.toRow H)) ↔ ∃ o ∈ objs, o.key = k ∧ ∃ p ∈ o.parts, corrupt ss p) ∧
    (k ∈ survivors H Cfg.repaired ss (objs.map (AObj.toRow H)) ↔ ∃ o ∈ objs, o.key = k ∧ ∀ p ∈ o.parts, ¬ corrupt ss p) := by
  have key : ∀ o : AObj, (o.toRow H).key = o.key := by
    intro o; unfold AObj.toRow; cases o.kind <;> rfl
  have hd := deletes_only_reported H Cfg.repaired ss (objs.map (AObj.toRow H)) (by decide) k
  -- both halves: pass from the rows to the objects they record, and from "reported" to "corrupt"
  have e : ∀ (b : Bool) (Q : AObj → Prop), (∀ o ∈ objs, (reported H Cfg.repaired ss (o.toRow H) = b ↔ Q o)) →
      ((∃ r ∈ objs.map (AObj.toRow H), r.key = k ∧ reported H Cfg.repaired ss r = b) ↔
        ∃ o ∈ objs, o.key = k ∧ Q o) := by
    intro b Q hQ
    constructor
    · rintro ⟨r, hr, hk, hrep⟩
      obtain ⟨o, ho, rfl⟩ := List.mem_map.1 hr
      exact ⟨o, ho, key o ▸ hk, (hQ o ho).1 hrep⟩
    · rintro ⟨o, ho, hk, hq⟩
      exact ⟨_, List.mem_map_of_mem ho, (key o).trans hk, (hQ o ho).2 hq⟩
  rw [hd.1, hd.2]
  refine ⟨e true _ fun o ho => reports_iff_corrupt H hcf ss hf o (hwf o ho), e false _ fun o ho => ?_⟩
  rw [← Bool.not_eq_true, reports_iff_corrupt H hcf ss hf o (hwf o ho)]
  simp

/-- Every "hash" is the identity: trivially collision free. -/
def toyH : Hashes :=
  { md5 := id, crc32 := id, crc32c := id, crc64 := id, sha1 := id, sha256 := id,
    combine32 := fun a b _ => a ++ b, combine32c := fun a b _ => a ++ b, combine64 := fun a b _ => a ++ b }

theorem toy_cf : CollisionFree (sumsOf toyH) :=
  bundle_cf_of_sha256 toyH (fun _ _ h => h)

def fsStore (f : Nat → Option Bytes) : Store := ⟨f, false⟩
def sqlStore (f : Nat → Option Bytes) : Store := ⟨f, true⟩

/-- Part 1 = [1] and part 2 = [2] in the default store; part 7 = [7] in named store 0. -/
def toyStores : Stores :=
  { dflt := fsStore fun i => if i = 1 then some [1] else if i = 2 then some [2] else none,
    named := fun n => if n = 0 then some (fsStore fun i => if i = 7 then some [7] else none) else none }

/-- Negation witness 1 (`Cfg.asIs`, the validator before /repo dfc2e8d run on a
`metadataPartStorage`): the run aborts without a report, although an object's only part is gone. -/
theorem asIs_aborts_without_report :
    validateAll toyH Cfg.asIs toyStores [(AObj.mk 0 .single [⟨9, none, [9]⟩]).toRow toyH] = none
    ∧ corrupt toyStores ⟨9, none, [9]⟩ := by
  constructor
  · rfl
  · decide +kernel

/-- Negation witness 2: an intact one-part multipart object (record `…-1`) is reported by the
validator before /repo fde8834; the repaired comparison accepts it. -/
theorem asIs_dash_one_false_positive :
    let o : AObj := ⟨0, .multipart .fullObject, [⟨1, none, [1]⟩]⟩
    reported toyH Cfg.asIsHosted toyStores (o.toRow toyH) = true
    ∧ (∀ p ∈ o.parts, ¬ corrupt toyStores p)
    ∧ reported toyH Cfg.repaired toyStores (o.toRow toyH) = false := by
  decide +kernel

/-- … and so is the object created by a first `AppendObject`. -/
theorem asIs_first_append_false_positive :
    let o : AObj := ⟨0, .appended, [⟨2, none, [2]⟩]⟩
    reported toyH Cfg.asIsHosted toyStores (o.toRow toyH) = true
    ∧ (∀ p ∈ o.parts, ¬ corrupt toyStores p) := by
  decide +kernel

/-- Negation witness 3: an intact object whose part lives in a named store is reported by the
validator before /repo dfc2e8d (it looks the part up in the default store); the repaired lookup
accepts it. -/
theorem asIs_named_store_false_positive :
    let o : AObj := ⟨0, .single, [⟨7, some 0, [7]⟩]⟩
    reported toyH Cfg.asIsHosted toyStores (o.toRow toyH) = true
    ∧ (∀ p ∈ o.parts, ¬ corrupt toyStores p)
    ∧ reported toyH Cfg.repaired toyStores (o.toRow toyH) = false := by
  decide +kernel

/-- Why `Faithful` is a hypothesis: an intact empty object held by a store that keeps nothing for
empty content is reported even by the repaired validator, because `GetPart` answers "part not
found". (The SQL part store before /repo commit 6ff38ea is such a store; the harness observes on
every case whether an untouched empty part can be read back.) -/
theorem lossy_store_empty_part_false_positive :
    let ss : Stores := { dflt := sqlStore fun i => if i = 3 then some [] else none, named := fun _ => none }
    let o : AObj := ⟨0, .single, [⟨3, none, []⟩]⟩
    reported toyH Cfg.repaired ss (o.toRow toyH) = true ∧ (∀ p ∈ o.parts, ¬ corrupt ss p) := by
  decide +kernel

/-- Non-vacuity: a three-part COMPOSITE object with a shared part and a part in a named store meets
every hypothesis of `reports_iff_corrupt`; it is intact and not reported, and after its named-store
part is altered it is reported. -/
example :
    let o : AObj := ⟨5, .multipart .composite, [⟨1, none, [1]⟩, ⟨7, some 0, [7]⟩, ⟨1, none, [1]⟩]⟩
    o.WF ∧ Faithful toyStores ∧ reported toyH Cfg.repaired toyStores (o.toRow toyH) = false ∧
    reported toyH Cfg.repaired
      { toyStores with named := fun n => if n = 0 then some (fsStore fun i => if i = 7 then some [7, 0] else none) else none }
      (o.toRow toyH) = true := by
  refine ⟨by decide +kernel, ⟨rfl, ?_⟩, by decide +kernel, by decide +kernel⟩
  intro n s h
  unfold toyStores at h
  simp only at h
  split at h
  · cases h; rfl
  · cases h

/-- Non-vacuity of the partial theorem's hypotheses (two-part appended object in the default store). -/
example :
    let o : AObj := ⟨1, .appended, [⟨1, none, [1]⟩, ⟨2, none, [2]⟩]⟩
    o.WF ∧ AllDefaultStore o ∧ ¬ DashOne o ∧ reported toyH Cfg.asIsHosted toyStores (o.toRow toyH) = false := by
  refine ⟨by decide +kernel, ?_, by decide +kernel, by decide +kernel⟩
  intro p hp
  simp at hp
  rcases hp with rfl | rfl <;> rfl

end Pithos.C39
