/-
C23 — replicas converge to the primary.

Property theorems about the model of the replication storage (`Pithos.Model.Replication`, tied to
/repo/internal/storage/replication/replication.go by the differential harness c23.go +
Driver/C23.lean). `s ≈ t` (`Replication.Equiv`) is equality up to timestamps; it implies that a
reader sees the same buckets, keys, contents, content types, metadata and tags (`equiv_observe`).
Every statement is for all states / all calls / all histories of any length and any number of
secondaries — nothing is bounded. "Names no version id" is the property's own restriction.

`S3.step` cannot tell ≈-states apart (`step_respects_equiv`, all 20 call kinds; `xstep_respects_equiv` for
UploadPartCopy and DeleteObjects), and what replication forwards — conditions and offset dropped, the
secondary's upload id — has the effect of the original call (`forwarded_same_effect`). So a call that
succeeds on the primary keeps a secondary ≈ to it (`replicate_preserves_equiv`), a failed one is not
forwarded and changes nothing (`failed_call_changes_nothing`), and after every call of every history all
secondaries ≈ the primary (`replication_step_preserves_convergence`, `replicas_converge`). The upload-id map
lookup finds its entry whenever the primary accepted the multipart call (`id_map_never_misses`: no nil-slice
panic within one process lifetime), so the caller always gets the primary's answer
(`no_secondary_ever_fails`); `id_map_loss_diverges`, outside the theorem, is what a lost map — a restart
with an open upload — does. Proofs: `Pithos.Lemmas.Replication`, over Lemmas/Timestamps and Lemmas/StepTouch.
-/
import Pithos.Lemmas.Replication

namespace Pithos.C23
open Pithos.S3 Pithos.S3Ext Pithos.Replication

theorem equiv_equivalence : Equivalence Equiv := ⟨Equiv.refl, Equiv.symm, Equiv.trans⟩

/-- **equiv_observe.** Replicas that agree up to timestamps expose the same buckets, keys, object
contents, content types, metadata and tags (and storage classes) — everything C23 names. -/
theorem equiv_observe {s t : State} (h : Equiv s t) : observe s = observe t :=
  (observe_erase s).symm.trans ((congrArg observe h).trans (observe_erase t))

/-- **step_respects_equiv.** For every call that names no explicit version id (all 20 kinds of
`S3.Op`): run on two states that agree up to timestamps, it leads to states that agree up to
timestamps and gives the same answer up to timestamps. -/
theorem step_respects_equiv (q : Quirks) {s t : State} (h : Equiv s t) (op : Op)
    (hv : opNamesVersion op = false) :
    Equiv (step q s op).1 (step q t op).1 ∧ eraseOut (step q s op).2 = eraseOut (step q t op).2 :=
  Replication.step_respects_equiv q h op hv

/-- … and likewise for the extended call set (UploadPartCopy, DeleteObjects). -/
theorem xstep_respects_equiv (q : Quirks) {s t : State} (h : Equiv s t) (op : XOp)
    (hv : op.namesVersion = false) :
    Equiv (xstep q s op).1 (xstep q t op).1 ∧ eraseXOut (xstep q s op).2 = eraseXOut (xstep q t op).2 :=
  xstep_equiv q h op (xDelsVersion_of_names hv)

/-- **forwarded_same_effect.** On a state (with unique row ids, `WF`) on which the caller's call
succeeded, the call replication forwards — PutObject / CompleteMultipartUpload without their
If-None-Match / If-Match conditions, AppendObject without its write offset, the multipart calls
with upload id `u` — has the same effect and answer, up to timestamps. -/
theorem forwarded_same_effect (q : Quirks) {s : State} (hwf : WF s) (op : XOp) (u : Nat)
    (hu : uidOf op = none ∨ uidOf op = some u) (hok : (xstep q s op).2.isErr = false) :
    Equiv (xstep q s (fwd u op)).1 (xstep q s op).1 ∧
    eraseXOut (xstep q s (fwd u op)).2 = eraseXOut (xstep q s op).2 :=
  fwd_same_effect q hwf op u hu hok ▸ XRel.refl _

/-- **replicate_preserves_equiv.** `s₀` the primary, `s₁` a secondary, `s₀ ≈ s₁`; the call names
no version id and succeeds on the primary. Then the forwarded call succeeds on the secondary and
the primary's new state ≈ the secondary's new state. -/
theorem replicate_preserves_equiv (q : Quirks) {s₀ s₁ : State} (hwf : WF s₀) (h : Equiv s₀ s₁) (op : XOp) (u : Nat)
    (hv : op.namesVersion = false) (hu : uidOf op = none ∨ uidOf op = some u)
    (hok : (xstep q s₀ op).2.isErr = false) :
    Equiv (xstep q s₀ op).1 (xstep q s₁ (fwd u op)).1 ∧ (xstep q s₁ (fwd u op)).2.isErr = false := by
  have h1 := forward_one q hwf h op u (xDelsVersion_of_names hv) hu hok
  refine ⟨h1.1.symm, ?_⟩
  rw [← isErr_erase, h1.2, isErr_erase]; exact hok

/-- **failed_call_changes_nothing.** A call that fails on the primary (replication then forwards
nothing) leaves the primary's state as it was, up to the clock — so the replicas still agree. -/
theorem failed_call_changes_nothing (q : Quirks) (s : State) (op : XOp) (hv : op.namesVersion = false)
    (he : (xstep q s op).2.isErr = true) : Equiv (xstep q s op).1 s :=
  xstep_skip q s op (by rw [he]; rfl) ▸ Equiv.clock s _

/-- Row ids stay unique along every call (the well-formedness `forwarded_same_effect` needs). -/
theorem wf_preserved (q : Quirks) {s : State} (h : WF s) (op : XOp) (hv : op.namesVersion = false) :
    WF (xstep q s op).1 := xstep_wf q h op

/-- **replication_step_preserves_convergence.** One call (naming no version id) through the
replication storage, in a state satisfying the invariant `Inv2` — every secondary agrees with the
primary; row ids unique; every id-map entry maps an upload id to itself for every secondary; every
open upload of the primary has an id below the counter, one owning bucket name and an id-map
entry: afterwards the invariant holds again — whether the call failed on the primary, was a read,
or was forwarded. -/
theorem replication_step_preserves_convergence (q : Quirks) {rs : RState} (hi : Inv2 rs) (op : XOp)
    (hv : op.namesVersion = false) : Inv2 (rstep q rs op).1 := rstep_inv2 q hi op (xDelsVersion_of_names hv)

/-- **id_map_never_misses.** Along every history (no version ids) from the empty state, the lookup
of a primary upload id in `primaryUploadIdToSecondaryUploadIds` finds its entry whenever the
primary accepted the multipart call: the Go code never indexes the nil slice. -/
theorem id_map_never_misses (q : Quirks) (n : Nat) (ops : List XOp)
    (hv : ∀ op ∈ ops, op.namesVersion = false) : ∀ o ∈ (rrun q (init n) ops).2, o.mapMiss = false :=
  (rrun_inv2 q ops (inv2_init n) fun o ho => xDelsVersion_of_names (hv o ho)).2

/-- **no_secondary_ever_fails.** In a state reached by such a history, the caller of the next call
gets the primary's answer: no forwarded call fails on a secondary (so "successful through the
replication storage" = "successful on the primary"). -/
theorem no_secondary_ever_fails (q : Quirks) (n : Nat) (ops : List XOp) (op : XOp)
    (hv : ∀ o ∈ ops, o.namesVersion = false) (hop : op.namesVersion = false) :
    (rstep q (rrun q (init n) ops).1 op).2.out = (xstep q (rrun q (init n) ops).1.primary op).2 :=
  (rstep_answer q (rrun_inv2 q ops (inv2_init n) fun o ho => xDelsVersion_of_names (hv o ho)).1 op (xDelsVersion_of_names hop)).2

/-- **replicas_converge.** Start with `n` empty secondaries (any `n`) and run ANY history of calls
that name no version id (any length; bucket, object, multipart incl. UploadPartCopy, copy, append,
tagging, delete(s), versioning, transitions; failing calls included). At the end — hence, the
history being arbitrary, after every call — every secondary agrees with the primary up to
timestamps, and so exposes the same buckets, keys, object contents, content types, metadata and
tags. -/
theorem replicas_converge (q : Quirks) (n : Nat) (ops : List XOp)
    (hv : ∀ op ∈ ops, op.namesVersion = false) :
    Converged (rrun q (init n) ops).1 ∧
    ∀ t ∈ (rrun q (init n) ops).1.secs, observe (rrun q (init n) ops).1.primary = observe t := by
  have hinv := (rrun_inv2 q ops (inv2_init n) fun o ho => xDelsVersion_of_names (hv o ho)).1
  exact ⟨hinv.conv, fun t ht => equiv_observe (hinv.conv t ht)⟩

def h1 : List XOp :=
  [.base (.mkb "b"), .base (.put "b" "k" [1, 2] { md := [("a", "1")], tags := [("t", "v")] } true .none),
   .base (.put "b" "k" [3] {} true .none),                       -- fails on the primary: not forwarded
   .base (.mpu "b" "m" { ct := some "x/y" }), .base (.uploadPart "b" "m" 0 1 [7]),
   .partCopy "b" "k" none "b" "m" 0 2 (some (0, 1)), .base (.complete "b" "m" 0 (some [1, 2]) true .none),
   .base (.append "b" "k" [9] (some 2)), .base (.copy "b" "m" none "b" "c" false false {}),
   .base (.setVer "b" .enabled), .delMany "b" ["k", "nokey"], .base (.del "b" "m" none .star)]

/-- The hypothesis of `replicas_converge` is met by a history that exercises conditional puts (one
failing), a three-call multipart upload with an UploadPartCopy and a conditional complete, an
append with offset, a copy, versioning and deletes (and, computed directly, it reports no miss) … -/
example : (∀ op ∈ h1, op.namesVersion = false) ∧
    (∀ o ∈ (rrun Quirks.code (init 2) h1).2, o.mapMiss = false) := by decide

/-- … and it is not about an empty world: afterwards the primary still lists an object in `b`. -/
example : (observe (rrun Quirks.code (init 2) h1).1.primary).map (fun x => (x.1, x.2.map (·.key)))
    = [("b", ["c"])] := by decide

/-- **id_map_loss_diverges.** Outside the theorem (the state is not reachable by a history within
one process lifetime): the id map is in memory only. If it is lost while an upload is open (a
restart), the next UploadPart succeeds on the primary and then indexes Go's nil slice (`mapMiss`,
a panic): the secondary is left behind. The invariant's id-map clause is what excludes this. -/
def lostMap : RState :=
  { (rrun Quirks.code (init 1) [.base (.mkb "b"), .base (.mpu "b" "m" {})]).1 with umap := [] }

theorem id_map_loss_diverges :
    Converged lostMap ∧ (rstep Quirks.code lostMap (.base (.uploadPart "b" "m" 0 1 [7]))).2.mapMiss = true ∧
    ¬ Converged (rstep Quirks.code lostMap (.base (.uploadPart "b" "m" 0 1 [7]))).1 := by
  decide

end Pithos.C23
