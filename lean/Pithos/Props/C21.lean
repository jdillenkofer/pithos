/-
C21 — the storage outbox gives read-your-writes and converges.

Model: `Pithos.Model.OutboxStorage` (generic over the inner storage semantics) and its S3
instance `Pithos.Model.OutboxStorageS3`, whose policy is read off the T1 table
`Pithos.Gen.OutboxStorage` (regenerated from outbox.go on every run).

For ALL histories of accepted operations and ALL flush points of the worker:
  * `read_your_writes`      every written-through operation — every read in particular — returns
                            exactly what it returns when all operations accepted before it are
                            applied to the inner storage in acceptance order;
  * `drain_eq_sequential`   once the table is drained the inner storage is (equivalent to) the
                            sequential application of the accepted operations in acceptance order.
Hypothesis `Sound` (explicit, never an axiom): `R` is an equivalence that is a congruence for the
inner storage, and an operation commutes with every queued entry *outside its wait scopes*.
Non-vacuity: a toy keyed store meets `Sound` with `R` = equal lookups.

That the wait scopes of the code are wide enough for the S3 semantics is the decidable obligation
`scopes_cover_requirements` over the regenerated table; the suspected deviation (DESIGN §10:
`PutBucketVersioningConfiguration` written through without draining the bucket's queued puts) is
stated as a negation witness for that *hypothetical* table — the current code waits for the whole
bucket, so for C21 no `_partial` theorem is needed.
-/
import Pithos.Lemmas.OutboxStorage
import Pithos.Model.OutboxStorageS3

namespace Pithos.C21
open Pithos.OutboxStorage

variable {σ Op Out : Type}

/-- **read_your_writes.** From an empty table on storage `t0`: whatever the worker's flush points,
every written-through operation (reads are always written through) answered what the sequential
execution of the accepted operations, in acceptance order, answers. -/
theorem read_your_writes {I : Inner σ Op Out} {P : Policy σ Op} {R : σ → σ → Prop} (h : Sound I P R)
    (t0 : σ) (evs : List (Event Op)) :
    Agree I t0 (run I P { inner := t0, queue := [] } evs).2 :=
  (run_sound h evs { inner := t0, queue := [] } t0 (h.refl _)).1

/-- **drain_eq_sequential.** After any history with any flush points, draining the table leaves
the inner storage equivalent to applying the accepted operations in acceptance order. -/
theorem drain_eq_sequential {I : Inner σ Op Out} {P : Policy σ Op} {R : σ → σ → Prop} (h : Sound I P R)
    (t0 : σ) (evs : List (Event Op)) :
    R (drain I (run I P { inner := t0, queue := [] } evs).1)
      (seqState I t0 (acceptedOps (run I P { inner := t0, queue := [] } evs).2)) := by
  rw [drain_eq_pending]
  exact (run_sound h evs { inner := t0, queue := [] } t0 (h.refl _)).2

/-- With `R` = equality the drained storage *is* the sequential state. -/
theorem drain_eq_sequential_eq {I : Inner σ Op Out} {P : Policy σ Op} (h : Sound I P Eq)
    (t0 : σ) (evs : List (Event Op)) :
    drain I (run I P { inner := t0, queue := [] } evs).1 =
      seqState I t0 (acceptedOps (run I P { inner := t0, queue := [] } evs).2) :=
  drain_eq_sequential h t0 evs

/-- **rejected_op_leaves_outbox_unchanged.** An operation the outbox layer answers with its own
error (`Policy.rejects`: e.g. `BadDigest` for a put whose supplied checksum does not match the
body) is not accepted, is answered with the rejection, adds no entry to the table — on the queue
path the state is literally unchanged, on the write-through path at most entries that were already
queued have been flushed while the caller waited — and the replayed table (hence everything that
will ever reach the inner storage) is exactly what it was. No hypothesis on the inner storage. -/
theorem rejected_op_leaves_outbox_unchanged (I : Inner σ Op Out) (P : Policy σ Op) (s : St σ Op) (op : Op)
    (hr : P.rejects op = true) :
    (accept I P s op).2.2.2 = false ∧ (accept I P s op).2.1 = I.rejected op ∧
    pending I (accept I P s op).1 = pending I s ∧
    (∃ m, (accept I P s op).1.queue = s.queue.drop m) ∧
    (P.queues s.inner op = true → (accept I P s op).1 = s) :=
  rejected_unchanged I P s op hr

/-- Convergence is over the accepted subsequence only: rejected operations never appear in it. -/
theorem acceptedOps_excludes_rejected (I : Inner σ Op Out) (P : Policy σ Op) (s : St σ Op)
    (evs : List (Event Op)) : ∀ op ∈ acceptedOps (run I P s evs).2, P.rejects op = false := by
  induction evs generalizing s with
  | nil => intro op h; cases h
  | cons ev evs ih =>
    cases ev with
    | flush => exact ih _
    | accept a =>
      simp only [run, acceptedOps, List.filter_cons, accept_accepted]
      cases hr : P.rejects a with
      | true => exact ih _
      | false => exact List.forall_mem_cons.2 ⟨hr, ih _⟩

namespace Toy

abbrev S := List ((String × String) × Nat)

inductive O where
  | set (b k : String) (v : Nat)
  | get (b k : String)

def lookup : S → String × String → Option Nat
  | [], _ => none
  | (a, v) :: s, x => if a = x then some v else lookup s x

def step (s : S) : O → S × Option Nat
  | .set b k v => (((b, k), v) :: s, none)
  | .get b k => (s, lookup s (b, k))

def inner : Inner S O (Option Nat) :=
  { step := step
    addr := fun | .set b k _ => (b, k) | .get b k => (b, k)
    ack := fun _ => none
    rejected := fun _ => none }

/-- writes queue, reads wait for their key (and the bucket's lifecycle entries); writing the
value 13 is rejected by the outbox layer -/
def policy : Policy S O :=
  { queues := fun _ op => match op with | .set .. => true | .get .. => false
    scopes := fun | .set .. => [] | .get b k => [.keyAndGlobal b k]
    rejects := fun | .set _ _ v => v == 13 | .get .. => false }

def R (s t : S) : Prop := ∀ x, lookup s x = lookup t x

theorem sound : Sound inner policy R where
  refl := fun _ _ => rfl
  symm := fun h x => (h x).symm
  trans := fun h1 h2 x => (h1 x).trans (h2 x)
  congr := by
    intro s t op hr
    cases op with
    | set b k v =>
      refine ⟨rfl, fun x => ?_⟩
      simp only [inner, step, lookup]
      rw [hr x]
    | get b k => exact ⟨hr (b, k), hr⟩
  commute := by
    intro t a e hq hind
    cases a with
    | set b k v => obtain ⟨u, hu⟩ := hq; simp [policy] at hu
    | get b k =>
      cases e with
      | get b' k' => exact ⟨rfl, fun _ => rfl⟩
      | set b' k' v =>
        have hm := hind (.keyAndGlobal b k) (by simp [policy])
        simp only [inner, Scope.mem, Bool.and_eq_false_imp, Bool.or_eq_false_iff, beq_iff_eq,
          beq_eq_false_iff_ne, ne_eq] at hm
        refine ⟨?_, fun _ => rfl⟩
        simp only [inner, step, lookup]
        have : ¬ (b', k') = (b, k) := by
          intro he
          injection he with h1 h2
          exact (hm h1).2 h2
        simp [this]

/-- The hypothesis of the two theorems is met by a concrete inner storage, and the theorems say
something there: a read after a queued write returns the written value, at every flush point. -/
example : (run inner policy { inner := [], queue := [] }
    [.accept (.set "b" "k" 1), .accept (.set "b" "k" 13), .accept (.set "b" "j" 2), .accept (.get "b" "k"), .flush,
     .accept (.get "b" "j")]).2.map (fun e => (e.2.1, e.2.2.2))
    = [(none, true), (none, false), (none, true), (some 1, true), (some 2, true)] := by
  decide

end Toy

open Pithos.Gen.OutboxStorage in
/-- Every wait call in outbox.go is one of the four recognised scopes with recognised arguments. -/
theorem waits_recognised : methods.all (fun m => m.waits.all recognisedWait) = true := by
  decide +kernel

open Pithos.Gen.OutboxStorage in
/-- **The wait scope of every written-through method covers what the S3 semantics require**
(`requiredKinds`): in particular `PutBucketVersioningConfiguration`, the listings and `DeleteObjects`
drain the whole bucket, single-object operations their key plus the bucket's lifecycle entries. -/
theorem scopes_cover_requirements : methods.all methodCovered = true := by
  decide +kernel

open Pithos.Gen.OutboxStorage in
/-- Exactly these five methods have a queue path (four kinds of entry), and bucket creation/deletion is
never written through. -/
theorem queue_paths :
    (methods.filter (fun m => !m.queueOps.isEmpty)).map (fun m => (m.name, m.queueOps, m.through)) =
      [("CreateBucket", ["storageOutboxEntry.CreateBucketStorageOperation"], false),
       ("DeleteBucket", ["storageOutboxEntry.DeleteBucketStorageOperation"], false),
       ("DeleteObject", ["storageOutboxEntry.DeleteObjectStorageOperation"], true),
       ("DeleteObjects", ["storageOutboxEntry.DeleteObjectStorageOperation"], true),
       ("PutObject", ["storageOutboxEntry.PutObjectStorageOperation"], true)] :=
  rfl

open Pithos.Gen.OutboxStorage in
/-- The synchronous-or-queued decisions `queuesS3` mirrors. -/
theorem sync_guards :
    putSyncGuards = ["opts != nil && (opts.IfNoneMatchStar || opts.IfMatchETag != nil)",
                     "versioningConfig.Status != nil && *versioningConfig.Status == storage.BucketVersioningStatusEnabled"] ∧
    deleteSyncGuards = ["opts != nil && opts.IfMatchETag != nil", "hasVersioningStatus"] ∧
    deleteObjectsSyncGuards = ["false", "true", "hasVersioningStatus"] ∧
    bucketHasVersioningStatusReturns = ["false", "false", "versioningConfig.Status != nil"] :=
  ⟨rfl, rfl, rfl, rfl⟩

open Pithos.Gen.OutboxStorage in
/-- The four wait functions select exactly the rows `Scope.mem` describes, newest / oldest first,
and the worker claims the first row of the whole table (strict FIFO). -/
theorem wait_sql :
    waitFns =
      [("waitForAllOutboxEntriesOfBucket", "FindLastStorageOutboxEntryForBucket",
          "outbox_id = $1 AND bucket = $2 ORDER BY id DESC LIMIT 1",
        "FindFirstStorageOutboxEntryForBucket", "outbox_id = $1 AND bucket = $2 ORDER BY id ASC LIMIT 1"),
       ("waitForAllOutboxEntriesOfBucketAndKeyIncludingGlobal", "FindLastStorageOutboxEntryForBucketAndKeyIncludingGlobal",
          "outbox_id = $1 AND bucket = $2 AND (key = '' OR key = $3) ORDER BY id DESC LIMIT 1",
        "FindFirstStorageOutboxEntryForBucketAndKeyIncludingGlobal",
          "outbox_id = $1 AND bucket = $2 AND (key = '' OR key = $3) ORDER BY id ASC LIMIT 1"),
       ("waitForGlobalOutboxEntries", "FindLastGlobalStorageOutboxEntry", "outbox_id = $1 AND key = '' ORDER BY id DESC LIMIT 1",
        "FindFirstGlobalStorageOutboxEntry", "outbox_id = $1 AND key = '' ORDER BY id ASC LIMIT 1"),
       ("waitForGlobalOutboxEntriesOfBucket", "FindLastGlobalStorageOutboxEntryForBucket",
          "outbox_id = $1 AND bucket = $2 AND key = '' ORDER BY id DESC LIMIT 1",
        "FindFirstGlobalStorageOutboxEntryForBucket", "outbox_id = $1 AND bucket = $2 AND key = '' ORDER BY id ASC LIMIT 1")] ∧
    sqlFindFirst = "outbox_id = $1 ORDER BY id ASC LIMIT 1" :=
  ⟨rfl, rfl⟩

open Pithos.Gen.OutboxStorage in
/-- Data flow of the storage outbox's lease statements (the lease protocol is the one modelled in
`Pithos.Model.Outbox`; `Pithos.C18.heartbeat_keeps_claim` is the theorem a swapped argument
falsifies): `claim_until` is written from `claimUntil` and compared with `now`. -/
theorem sql_bindings :
    bindClaim = [("set:claim_owner", "owner"), ("set:claim_until", "claimUntil"), ("set:updated_at", "now"),
                 ("where:id=", "entry.Id.String()"), ("where:outbox_id=", "outboxId"), ("where:version=", "entry.Version"),
                 ("where:claim_until<=", "now")] ∧
    bindFinalize = [("where:id=", "id.String()"), ("where:outbox_id=", "outboxId"), ("where:claim_owner=", "owner")] ∧
    bindRelease = [("set:updated_at", "now"), ("where:id=", "id.String()"), ("where:outbox_id=", "outboxId"),
                   ("where:claim_owner=", "owner")] ∧
    bindExtend = [("set:claim_until", "claimUntil"), ("set:updated_at", "now"), ("where:id=", "id.String()"),
                  ("where:outbox_id=", "outboxId"), ("where:claim_owner=", "owner")] :=
  ⟨rfl, rfl, rfl, rfl⟩

open Pithos.Gen.OutboxStorage in
theorem lease_times_passed_in_order :
    sigClaim = ["ctx", "tx", "outboxId", "owner", "now", "claimUntil"] ∧
    callClaimArgs = ["ctx", "tx.SqlTx()", "os.outboxId", "os.claimOwner", "now", "now.Add(os.claimLeaseDuration)"] ∧
    sigExtend = ["ctx", "tx", "outboxId", "id", "owner", "now", "claimUntil"] ∧
    callExtendArgs = ["ctx", "tx.SqlTx()", "os.outboxId", "*entry.Id", "os.claimOwner", "now",
                      "now.Add(os.claimLeaseDuration)"] :=
  ⟨rfl, rfl, rfl, rfl⟩

open Pithos.S3 in
/-- The table DESIGN §10 suspected: `PutBucketVersioningConfiguration` waits only for the bucket's
lifecycle entries. -/
def suspectedTable : List Method :=
  Pithos.Gen.OutboxStorage.methods.map fun m =>
    if m.name == "PutBucketVersioningConfiguration"
    then { m with waits := [("waitForGlobalOutboxEntriesOfBucket", "bucketName")] } else m

/-- It fails the coverage obligation … -/
theorem suspected_not_covered : suspectedTable.all methodCovered = false := by
  -- the row that changes: its new `bucketGlobal` wait does not cover the `bucket` scope required of it
  have hrow : ({ name := "PutBucketVersioningConfiguration", queueOps := [], through := true, probes := [],
                 waits := [("waitForAllOutboxEntriesOfBucket", "bucketName")] } : Method) ∈
      Gen.OutboxStorage.methods := by
    decide +kernel
  exact List.all_eq_false.2 ⟨_, List.mem_map_of_mem hrow, by decide +kernel⟩

open Pithos.S3 in
/-- … and really breaks convergence on the S3 model: a queued unversioned put replays after
versioning was enabled and becomes a ULID version, whereas applying the accepted operations in
acceptance order stores the null version. (With the code's own table both agree.) -/
theorem suspected_breaks_drain :
    let evs : List (Event COp) :=
      [.accept (ok (.mkb "b")), .flush, .accept (ok (.put "b" "k" [1] {} false .none)), .accept (ok (.setVer "b" .enabled))]
    let vidAfter (tbl : List Method) : Option (Option Nat) :=
      match (S3.step Quirks.code (drain (innerS3 Quirks.code)
              (run (innerS3 Quirks.code) (policyS3 tbl) { inner := {}, queue := [] } evs).1) (.get "b" "k" none)).2 with
      | .obj v => some v.vid
      | _ => none
    let vidSeq : Option (Option Nat) :=
      match (S3.step Quirks.code (seqState (innerS3 Quirks.code) {}
              [ok (.mkb "b"), ok (.put "b" "k" [1] {} false .none), ok (.setVer "b" .enabled)]) (.get "b" "k" none)).2 with
      | .obj v => some v.vid
      | _ => none
    vidSeq = some none ∧ vidAfter suspectedTable = some (some 0) ∧
    vidAfter Pithos.Gen.OutboxStorage.methods = some none := by
  decide +kernel

open Pithos.S3 in
/-- What "errors leave no trace" excludes, on the S3 model: a put rejected by the outbox layer
(`bad`) is not accepted and the drained storage holds the accepted body; a variant that leaves the
rejected put's entry in the table (validation after the transaction has committed) replays it, and
the drained storage then holds a body that was never accepted. -/
theorem leaky_rejection_breaks_drain :
    let I := innerS3 Quirks.code
    let r := run I policyCode { inner := {}, queue := [] }
      [.accept (ok (.mkb "b")), .accept (ok (.put "b" "k" [1] {} false .none)),
       .accept { op := .put "b" "k" [2] {} false .none, bad := true }]
    let body (t : S3.State) : Option Bytes :=
      match (S3.step Quirks.code t (.get "b" "k" none)).2 with
      | .obj v => some v.body
      | _ => none
    r.2.map (·.2.2.2) = [true, true, false] ∧
    body (drain I r.1) = some [1] ∧
    body (seqState I {} (acceptedOps r.2)) = some [1] ∧
    body (drain I { r.1 with queue := r.1.queue ++ [ok (.put "b" "k" [2] {} false .none)] }) = some [2] := by
  decide +kernel

end Pithos.C21
