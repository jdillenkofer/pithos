/-
C01 (tie, T1): the storage model covers the storage.Storage API as it stands in /repo. The method set is
regenerated from internal/storage/storage.go on every run (`Pithos.Gen.ObjectCache.storageMethods`);
every method must be mapped here to the model operation that represents it, or be declared out of
scope with the reason. A method added to or removed from the interface breaks these theorems —
otherwise the model could silently cease to speak about the whole API.
-/
import Pithos.Gen.ObjectCache
import Pithos.Model.S3Ext

namespace Pithos.C01

inductive Cover where
  | op (modelOp : String)          -- a constructor of `Pithos.S3.Op`
  | xop (modelOp : String)         -- a constructor of `Pithos.S3Ext.XOp`
  | outOfScope (why : String)
  deriving Repr, DecidableEq

def coverage : List (String × Cover) := [
  ("Start", .outOfScope "process lifecycle, no object state"),
  ("Stop", .outOfScope "process lifecycle, no object state"),
  ("CreateBucket", .op "mkb"),
  ("DeleteBucket", .op "rmb"),
  ("ListBuckets", .op "listBuckets"),
  ("HeadBucket", .outOfScope "bucket existence only; the same lookup as every bucket-addressed op (NoSuchBucket theorems)"),
  ("GetBucketVersioningConfiguration", .outOfScope "getter of the state set by setVer; compared by the harness after every ver op"),
  ("PutBucketVersioningConfiguration", .op "setVer"),
  ("GetBucketWebsiteConfiguration", .outOfScope "configuration document stored verbatim (C33)"),
  ("PutBucketWebsiteConfiguration", .outOfScope "configuration document stored verbatim (C33)"),
  ("DeleteBucketWebsiteConfiguration", .outOfScope "configuration document stored verbatim (C33)"),
  ("GetBucketCORSConfiguration", .outOfScope "configuration document stored verbatim (C34)"),
  ("PutBucketCORSConfiguration", .outOfScope "configuration document stored verbatim (C34)"),
  ("DeleteBucketCORSConfiguration", .outOfScope "configuration document stored verbatim (C34)"),
  ("GetBucketLifecycleConfiguration", .outOfScope "configuration document stored verbatim (C25)"),
  ("PutBucketLifecycleConfiguration", .outOfScope "configuration document stored verbatim (C25)"),
  ("DeleteBucketLifecycleConfiguration", .outOfScope "configuration document stored verbatim (C25)"),
  ("GetBucketNotificationConfiguration", .outOfScope "configuration document stored verbatim (C22)"),
  ("PutBucketNotificationConfiguration", .outOfScope "configuration document stored verbatim (C22)"),
  ("ListObjects", .op "list"),
  ("ListObjectVersions", .op "listVersions"),
  ("HeadObject", .op "head"),
  ("GetObject", .op "get"),
  ("PutObject", .op "put"),
  ("CopyObject", .op "copy"),
  ("AppendObject", .op "append"),
  ("DeleteObject", .op "del"),
  ("DeleteObjects", .xop "delMany"),
  ("TransitionObjectStorageClass", .op "transition"),
  ("CreateMultipartUpload", .op "mpu"),
  ("UploadPart", .op "uploadPart"),
  ("UploadPartCopy", .xop "partCopy"),
  ("CompleteMultipartUpload", .op "complete"),
  ("AbortMultipartUpload", .op "abort"),
  ("ListMultipartUploads", .outOfScope "listing of pending uploads; paging rules in C06's listing model"),
  ("ListParts", .outOfScope "listing of an upload's parts; paging rules in C06's listing model"),
  ("GetObjectTagging", .op "getTags"),
  ("PutObjectTagging", .op "putTags"),
  ("DeleteObjectTagging", .op "delTags")
]

/-- The constructors of the model's operation types, kept next to the table. `op_names_exhaustive`
ties `opNames` to `Pithos.S3.Op` by exhaustive `cases`; `xopNames` (the constructors of
`Pithos.S3Ext.XOp` other than `base`) is kept by hand. -/
def opNames : List String := ["mkb", "rmb", "setVer", "put", "get", "head", "del", "copy", "append", "mpu", "uploadPart",
  "complete", "abort", "getTags", "putTags", "delTags", "transition", "list", "listVersions", "listBuckets"]
def xopNames : List String := ["partCopy", "delMany"]

def opName : Pithos.S3.Op → String
  | .mkb .. => "mkb" | .rmb .. => "rmb" | .setVer .. => "setVer" | .put .. => "put" | .get .. => "get"
  | .head .. => "head" | .del .. => "del" | .copy .. => "copy" | .append .. => "append" | .mpu .. => "mpu"
  | .uploadPart .. => "uploadPart" | .complete .. => "complete" | .abort .. => "abort" | .getTags .. => "getTags"
  | .putTags .. => "putTags" | .delTags .. => "delTags" | .transition .. => "transition" | .list .. => "list"
  | .listVersions .. => "listVersions" | .listBuckets => "listBuckets"

/-- Every constructor of `Op` has a name in `opNames`. -/
theorem op_names_exhaustive (op : Pithos.S3.Op) : opName op ∈ opNames := by
  cases op <;> simp only [opName, opNames, List.mem_cons, true_or, or_true]

/-- The table lists the methods of the interface, in the order of the interface: both theorems below
are read off this equation, which compares the two lists literal by literal. -/
theorem coverage_keys : coverage.map (·.1) = Pithos.Gen.ObjectCache.storageMethods := rfl

/-- **storage_api_covered.** Every method of storage.Storage as regenerated from the sources is
mapped to a model operation or explicitly out of scope. -/
theorem storage_api_covered : ∀ m ∈ Pithos.Gen.ObjectCache.storageMethods, (coverage.lookup m).isSome = true := by
  intro m hm
  obtain ⟨p, hp, rfl⟩ := List.mem_map.1 (coverage_keys ▸ hm)
  exact List.lookup_isSome_iff.2 ⟨p, hp, beq_self_eq_true _⟩

/-- No stale entries: every mapped method still exists in the interface. -/
theorem coverage_not_stale : ∀ p ∈ coverage, p.1 ∈ Pithos.Gen.ObjectCache.storageMethods :=
  fun _ hp => coverage_keys ▸ List.mem_map_of_mem hp

def namesOp : Cover → Bool
  | .op n => opNames.contains n
  | .xop n => xopNames.contains n
  | .outOfScope _ => true

/-- Every mapping names an existing model operation. -/
theorem coverage_names_ops : ∀ p ∈ coverage, namesOp p.2 = true := by
  decide +kernel

/-- …and every model operation represents at least one API method (no dead model code). -/
theorem every_op_used : ∀ n ∈ opNames, ∃ p ∈ coverage, p.2 = .op n := by
  decide +kernel

end Pithos.C01
