/-
C18 — the outbox part store is consistent with its committed history.

Model: `Pithos.Model.Outbox` (transition system; one step per SQL transaction, the tx-free inner
mutation is its own step). Helper lemmas, the invariant, `commitsOf` and `idsSplit`:
`Pithos.Lemmas.Outbox`.
Everything here is stated for ALL finite schedules (lists of steps — writers, any number of
workers, lease expiry, crashes, arbitrary clock ticks), by induction over the schedule.

* ideal (`fenced = true`: the inner mutation is refused once the entry row is gone) — full strength:
    `get_reflects_latest_committed`, `getPartIds_reflects_latest_committed`, `idle_inner_eq_committed`
* the code as it is (`fenced = false`):
    negation witnesses `asis_stale_put_resurrects_deleted_part`, `asis_stale_delete_loses_committed_part`
    (found by the bounded explorer `Outbox.explore` — search — and realised on the implementation by
    harness/cmd/verifharness/c18.go, directed cases 0–3);
    `…_partial` theorems under the explicit hypothesis `noStaleWrites` (no inner mutation for an
    entry whose row has already been deleted), which follows from the lease-phrased condition
    `writesByOwner` (a worker still owns its entry whenever it mutates the inner store).
* step granularity is a T1 fact: `Pithos.Gen.OutboxPart` is regenerated from outbox.go/sqlite.go and
  the `tx_*`/`sql_*` obligations below pin what the model assumes.
-/
import Pithos.Lemmas.Outbox
import Pithos.Gen.OutboxPart

namespace Pithos.C18
open Pithos.Outbox

/-- The ghost field `committed`, against which the theorems below compare `GetPart` and the inner
store, really is the committed history: the concatenation of the writer commits of the schedule. -/
theorem committed_is_history (f : Bool) (s : St) (steps : List Step) :
    (run f s steps).committed = s.committed ++ commitsOf steps := by
  induction steps generalizing s with
  | nil => exact (List.append_nil _).symm
  | cons st rest ih => rw [run, ih, step_committed]

/-- **get_reflects_latest_committed** (fenced model). Under every interleaving of committed
put/delete transactions, claims, chunk reads, inner mutations, finalizes, releases, heartbeats,
clock ticks / lease expiry and worker crashes, `GetPart` shows, for every part id, the latest
committed operation for that id. -/
theorem get_reflects_latest_committed (lease : Nat) (steps : List Step) (id : Nat) :
    getPart (run true (init lease) steps) id =
      (committedStore (run true (init lease) steps).committed).get id :=
  (inv_run true (init lease) steps (inv_init lease) (Or.inl rfl)).viewOk id

/-- … and `GetPartIds` lists exactly the parts that exist in the committed history. -/
theorem getPartIds_reflects_latest_committed (lease : Nat) (steps : List Step) (id : Nat) :
    id ∈ getPartIds (run true (init lease) steps) ↔
      ((committedStore (run true (init lease) steps).committed).get id).isSome := by
  rw [getPartIds_iff_getPart, get_reflects_latest_committed]

/-- **idle_inner_eq_committed** (fenced model). Whenever the table is empty — whatever the workers'
private states, stale claims included — the inner store holds exactly the committed parts with
their committed content. -/
theorem idle_inner_eq_committed (lease : Nat) (steps : List Step)
    (hq : (run true (init lease) steps).queue = []) (id : Nat) :
    (run true (init lease) steps).inner.get id =
      (committedStore (run true (init lease) steps).committed).get id := by
  rw [← getPart_of_queue_nil hq]
  exact get_reflects_latest_committed lease steps id

/-- Witness 1 (found by `Outbox.explore false 2 [0] [[put 0 [1]], [del 0]] 16`): worker 0 claims
`put 0`, reads its chunks and stalls; its lease expires; worker 1 replays and finalizes `put 0`
and then `del 0`; worker 0's delayed inner `PutPart` then lands. The table is empty, both workers
are idle, the committed history says part 0 is deleted — the inner store holds it again. -/
def witnessResurrect : List Step :=
  [.commit [.put 0 [1]], .commit [.del 0], .claim 0, .readChunks 0, .leaseExpire,
   .claim 1, .readChunks 1, .innerWrite 1, .finalize 1, .claim 1, .innerWrite 1,
   .innerWrite 0, .finalize 0, .finalize 1]

theorem asis_stale_put_resurrects_deleted_part :
    let s := run false (init 10) witnessResurrect
    s.queue = [] ∧ allIdle s [0, 1] = true ∧
    (committedStore s.committed).get 0 = none ∧ s.inner.get 0 = some [1] ∧
    getPart s 0 = some [1] ∧ getPartIds s = [0] := by
  decide +kernel

/-- Witness 2: the same schedule with the operations swapped — worker 0's delayed inner
`DeletePart` removes a part that was committed *after* the delete it replays: data loss. -/
def witnessLoss : List Step :=
  [.commit [.del 0], .commit [.put 0 [1]], .claim 0, .leaseExpire,
   .claim 1, .innerWrite 1, .finalize 1, .claim 1, .readChunks 1, .innerWrite 1,
   .innerWrite 0, .finalize 0, .finalize 1]

theorem asis_stale_delete_loses_committed_part :
    let s := run false (init 10) witnessLoss
    s.queue = [] ∧ allIdle s [0, 1] = true ∧
    (committedStore s.committed).get 0 = some [1] ∧ s.inner.get 0 = none ∧
    getPart s 0 = none ∧ getPartIds s = [] := by
  decide +kernel

/-- Hence both full-strength statements are false of the as-is model. -/
theorem asis_get_reflects_latest_committed_fails :
    ¬ ∀ (steps : List Step) (id : Nat), getPart (run false (init 10) steps) id =
        (committedStore (run false (init 10) steps).committed).get id := by
  intro h
  obtain ⟨_, _, hcom, _, hget, _⟩ := asis_stale_delete_loses_committed_part
  have := h witnessLoss 0
  rw [hget, hcom] at this
  cases this

theorem asis_idle_inner_eq_committed_fails :
    ¬ ∀ (steps : List Step) (id : Nat), (run false (init 10) steps).queue = [] →
        allIdle (run false (init 10) steps) [0, 1] = true →
        (run false (init 10) steps).inner.get id =
          (committedStore (run false (init 10) steps).committed).get id := by
  intro h
  obtain ⟨hq, hidle, hcom, hin, _⟩ := asis_stale_put_resurrects_deleted_part
  have := h witnessResurrect 0 hq hidle
  rw [hin, hcom] at this
  cases this

/-- Both witnesses contain a stale inner mutation — the trigger the partial theorems exclude —
and the fenced model refuses exactly that step. -/
theorem witnesses_are_stale :
    noStaleWrites false (init 10) witnessResurrect = false ∧
    noStaleWrites false (init 10) witnessLoss = false ∧
    (outs true (init 10) witnessResurrect).contains .fencedOff = true ∧
    (outs true (init 10) witnessLoss).contains .fencedOff = true := by
  decide +kernel

/-- **get_reflects_latest_committed_partial** (code as it is). For every schedule without a
stale inner mutation, `GetPart` shows the latest committed operation of every part. -/
theorem get_reflects_latest_committed_partial (lease : Nat) (steps : List Step)
    (hs : noStaleWrites false (init lease) steps = true) (id : Nat) :
    getPart (run false (init lease) steps) id =
      (committedStore (run false (init lease) steps).committed).get id :=
  (inv_run false (init lease) steps (inv_init lease) (Or.inr hs)).viewOk id

theorem getPartIds_reflects_latest_committed_partial (lease : Nat) (steps : List Step)
    (hs : noStaleWrites false (init lease) steps = true) (id : Nat) :
    id ∈ getPartIds (run false (init lease) steps) ↔
      ((committedStore (run false (init lease) steps).committed).get id).isSome := by
  rw [getPartIds_iff_getPart, get_reflects_latest_committed_partial lease steps hs]

/-- **idle_inner_eq_committed_partial** (code as it is). -/
theorem idle_inner_eq_committed_partial (lease : Nat) (steps : List Step)
    (hs : noStaleWrites false (init lease) steps = true)
    (hq : (run false (init lease) steps).queue = []) (id : Nat) :
    (run false (init lease) steps).inner.get id =
      (committedStore (run false (init lease) steps).committed).get id := by
  rw [← getPart_of_queue_nil hq]
  exact get_reflects_latest_committed_partial lease steps hs id

theorem get_reflects_latest_committed_of_owner_writes (lease : Nat) (steps : List Step)
    (hs : writesByOwner false (init lease) steps = true) (id : Nat) :
    getPart (run false (init lease) steps) id =
      (committedStore (run false (init lease) steps).committed).get id :=
  get_reflects_latest_committed_partial lease steps (noStale_of_writesByOwner _ _ _ hs) id

/-- Non-vacuity: a non-trivial schedule — two workers, a lease that expires between replay and
finalize, a takeover, a crash, a heartbeat, a failed replay — meets the hypothesis of the partial
theorems (and even the lease-phrased one), ends idle with an empty table, and the inner store is
what the theorem says. -/
def benign : List Step :=
  [.commit [.put 0 [1], .put 1 [2]], .claim 0, .readChunks 0, .extend 0, .innerWrite 0, .leaseExpire,
   .claim 1, .readChunks 1, .innerWrite 1, .finalize 0, .finalize 1,
   .commit [.del 0, .put 2 []], .claim 0, .readChunks 0, .innerFail 0, .release 0,
   .claim 1, .readChunks 1, .crash 1, .tick 10, .claim 0, .readChunks 0, .innerWrite 0, .finalize 0,
   .claim 0, .innerWrite 0, .finalize 0, .claim 1, .readChunks 1, .innerWrite 1, .finalize 1]

example :
    noStaleWrites false (init 10) benign = true ∧
    (run false (init 10) benign).queue = [] ∧
    (run false (init 10) benign).inner.get 0 = none ∧
    (run false (init 10) benign).inner.get 1 = some [2] ∧
    (run false (init 10) benign).inner.get 2 = some [] := by
  decide +kernel

/-- Non-vacuity of the lease-phrased hypothesis. -/
example : writesByOwner false (init 10)
    [.commit [.put 0 [1]], .claim 0, .readChunks 0, .innerWrite 0, .finalize 0] = true := by
  decide +kernel

/-- **getPartIds_outbox_first_tolerates_flush.** `GetPartIds` reads the outbox table first and the
inner store afterwards (T1: `reads_consult_outbox_first`). If, in between, a worker replays and
finalizes the entry it holds, the answer is still exactly the committed parts — in every reachable
state without a stale mutation. (Read the other way round the flushed entry is in neither view:
`ids_inner_first_loses_flushed_entry`.) -/
theorem getPartIds_outbox_first_tolerates_flush (lease : Nat) (steps : List Step)
    (hs : noStaleWrites false (init lease) steps = true) (w eid : Nat) (op : POp)
    (hl : (run false (init lease) steps).loc w = .ready eid op)
    (hq : queued (run false (init lease) steps) eid = true) (id : Nat) :
    let s := run false (init lease) steps
    let s2 := (step false (step false s (.innerWrite w)).1 (.finalize w)).1
    id ∈ idsSplit s s2 ↔ ((committedStore s.committed).get id).isSome := by
  intro s s2
  have hinv : Inv s := inv_run false (init lease) steps (inv_init lease) (Or.inr hs)
  have hl' : s.loc w = .ready eid op := hl
  have hin : s2.inner = s.inner.apply op := by
    simp [s2, step, hl', setLoc]
  -- the held entry is the first row, so its inner write is invisible behind the table read in `s`
  obtain ⟨t, hsk⟩ := ready_is_head hinv hl' hq
  rw [mem_idsSplit, hin, ← hinv.viewOk, getPart_eq_view, qops_eq_skel, hsk, List.map_cons, view_applyHead]

/-- The look-ups in the other order — inner store first, outbox table after the flush — lose the
flushed entry: a committed part is missing from the listing. -/
theorem ids_inner_first_loses_flushed_entry :
    let s := run false (init 10) [.commit [.put 0 [1]], .claim 0, .readChunks 0]
    let s2 := (step false (step false s (.innerWrite 0)).1 (.finalize 0)).1
    0 ∈ idsSplit s s2 ∧ idsSplit s2 s = [] ∧ (committedStore s.committed).get 0 = some [1] := by
  decide +kernel

/-- **heartbeat_keeps_claim.** After a heartbeat of the owner, for less than a lease duration no
other worker can take the entry over. (This is what makes "no lease expires while its holder keeps
heartbeating" — and with it `writesByOwner`, the hypothesis of the partial theorems — attainable.) -/
theorem heartbeat_keeps_claim (f : Bool) (s : St) (w w' : Nat) (h : Entry) (t : List Entry) (d : Nat)
    (hq : s.queue = h :: t) (ho : h.owner = some (me s w))
    (hl : (∃ id, s.loc w = .claimed h.eid id) ∨ (∃ op, s.loc w = .ready h.eid op))
    (hd : d < s.lease) :
    let s1 := (step f s (.extend w)).1
    let s2 := (step f s1 (.tick d)).1
    (step f s2 (.claim w')).1 = s2 := by
  intro s1 s2
  obtain ⟨_, ⟨h1, t1, hq1, _, ho1, hu1⟩, hnow, _⟩ := extend_renews_lease f s w h t hq ho hl
  -- a tick moves the clock only
  have hq2 : s2.queue = h1 :: t1 := hq1
  have hn2 : s2.now = s.now + d := congrArg (· + d) hnow
  exact (live_lease_excludes_others f s2 w' h1 t1 hq2 (by rw [ho1]; simp) (by rw [hn2, hu1]; omega)).1

/-- A heartbeat that sets the end of the lease to `now` instead (the two time arguments swapped)
gives the claim away at once: shown on the as-is model by replacing the heartbeat by the expiry of
the lease — the other worker takes the entry over while the first is still replaying it. -/
example :
    (outs false (init 10) [.commit [.put 0 [1]], .claim 0, .readChunks 0, .extend 0, .tick 3, .claim 1]).getLast? = some .claimBusy ∧
    (outs false (init 10) [.commit [.put 0 [1]], .claim 0, .readChunks 0, .leaseExpire, .claim 1]).getLast? = some (.claimed 0 2) := by
  decide +kernel

open Pithos.Gen.OutboxPart in
/-- Each worker transaction of outbox.go contains exactly the one repository call the model's
step stands for, and is a write transaction where the model mutates the table. -/
theorem tx_granularity :
    txClaim = ("false", ["ClaimFirstPartOutboxEntry"]) ∧
    txFinalize = ("false", ["DeletePartOutboxEntryByClaimOwner"]) ∧
    txRelease = ("false", ["ReleasePartOutboxEntryClaim"]) ∧
    txHeartbeat = ("false", ["ExtendPartOutboxEntryClaim"]) :=
  ⟨rfl, rfl, rfl, rfl⟩

open Pithos.Gen.OutboxPart in
/-- The inner mutation of a tx-free inner store is called with a nil transaction, outside every
`WithTx` body (so it is NOT atomic with finalize — the model's separate `innerWrite` step), and the
chunk reader lives in a read-only transaction. -/
theorem inner_mutation_is_tx_free :
    replayPutInnerTxArg = "nil" ∧ replayPutInnerInsideWithTx = false ∧
    replayDeleteInnerTxArg = "nil" ∧ replayDeleteInnerInsideWithTx = false ∧
    replayPutFallbackTxArg = "tx" ∧ replayDeleteFallbackTxArg = "tx" ∧
    replayPutCapabilities = ["CapabilityTxFreePutPart"] ∧
    replayDeleteCapabilities = ["CapabilityTxFreeDeletePart"] ∧
    replayPutReadTxReadOnly = "true" :=
  ⟨rfl, rfl, rfl, rfl, rfl, rfl, rfl, rfl, rfl⟩

open Pithos.Gen.OutboxPart in
/-- The reads consult the newest outbox entry first and fall back to the inner store. -/
theorem reads_consult_outbox_first :
    getPartCalls = ["partOutboxEntryRepository.FindLastPartOutboxEntryByPartId", "innerPartStore.GetPart",
                    "partOutboxEntryRepository.FindPartOutboxEntryChunkByIndexWithEntryPresence"] ∧
    getPartIdsCalls = ["partOutboxEntryRepository.FindLastPartOutboxEntryGroupedByPartId",
                       "innerPartStore.GetPartIds"] :=
  ⟨rfl, rfl⟩

open Pithos.Gen.OutboxPart in
/-- The order of the worker's steps in `maybeProcessOutboxEntries`. -/
theorem worker_step_order :
    processOrder = ["claimNextOutboxEntry", "startPartOutboxHeartbeat", "replayPutPart", "replayDeletePart",
                    "stopHeartbeat", "releasePartOutboxEntry", "finalizePartOutboxEntry"] :=
  rfl

open Pithos.Gen.OutboxPart in
/-- The SQL the model's guards mirror. -/
theorem sql_guards :
    sqlFindFirstOrder = "ORDER BY id ASC LIMIT 1" ∧
    sqlFindLastOrder = "ORDER BY id DESC LIMIT 1" ∧
    sqlClaimWhere = "id = $4 AND outbox_id = $5 AND version = $6 AND (claim_owner IS NULL OR claim_until <= $7)" ∧
    sqlFinalizeWhere = "id = $1 AND outbox_id = $2 AND claim_owner = $3" ∧
    sqlReleaseWhere = "id = $2 AND outbox_id = $3 AND claim_owner = $4" ∧
    sqlExtendWhere = "id = $3 AND outbox_id = $4 AND claim_owner = $5" :=
  ⟨rfl, rfl, rfl, rfl, rfl, rfl⟩

open Pithos.Gen.OutboxPart in
/-- Data flow of the lease statements: which Go argument reaches which column. `claim_until` is
written from `claimUntil`, compared with `now`; `updated_at` is `now`; the row is addressed by
id, outbox id and (finalize / release / extend) the claim owner. A swap of `now` and `claimUntil`
changes no statement text — it changes this table. -/
theorem sql_bindings :
    bindClaim = [("set:claim_owner", "owner"), ("set:claim_until", "claimUntil"), ("set:updated_at", "now"),
                 ("where:id=", "entry.Id.String()"), ("where:outbox_id=", "outboxId"), ("where:version=", "entry.Version"),
                 ("where:claim_until<=", "now")] ∧
    bindFinalize = [("where:id=", "id.String()"), ("where:outbox_id=", "outboxId"), ("where:claim_owner=", "owner")] ∧
    bindRelease = [("set:updated_at", "now"), ("where:id=", "id.String()"), ("where:outbox_id=", "outboxId"),
                   ("where:claim_owner=", "owner")] ∧
    bindExtend = [("set:claim_until", "claimUntil"), ("set:updated_at", "now"), ("where:id=", "id.String()"),
                  ("where:outbox_id=", "outboxId"), ("where:claim_owner=", "owner")] :=
  ⟨rfl, rfl, rfl, rfl⟩

open Pithos.Gen.OutboxPart in
/-- … and outbox.go hands the repository `now` and `now + lease` in the repository's parameter order. -/
theorem lease_times_passed_in_order :
    sigClaim = ["ctx", "tx", "outboxId", "owner", "now", "claimUntil"] ∧
    callClaimArgs = ["ctx", "tx.SqlTx()", "obs.outboxId", "obs.claimOwner", "now", "now.Add(obs.claimLeaseDuration)"] ∧
    sigExtend = ["ctx", "tx", "outboxId", "id", "owner", "now", "claimUntil"] ∧
    callExtendArgs = ["ctx", "tx.SqlTx()", "obs.outboxId", "*entry.Id", "obs.claimOwner", "now",
                      "now.Add(obs.claimLeaseDuration)"] :=
  ⟨rfl, rfl, rfl, rfl⟩

end Pithos.C18
