/-
C03 — a failed operation leaves no observable trace.

Two layers:
 * filesystem part store + TxController (model `Pithos.TxFs`): after a failing `Commit` — the
   injected error arriving before any pre-commit closure or at `tx.Commit()` itself — or after a
   failing transaction body, the part directory is what it was before the operation started and
   the database is in its `before` state. Proved for every list of PutPart/DeletePart calls and
   every fault position, for the repaired rollback order; for the order the code uses today under
   the hypothesis that no part id is used twice in the transaction, with a witness that the
   hypothesis is needed.
 * storage API (model `Pithos.S3`): an operation that answers an error leaves the state unchanged.
The `code_*_is_modelled` theorems tie the rollback side of the model to the source text regenerated
into `Pithos.Gen.TxFsHooks`; `nested_hooks_run_with_root` shows that with the hook routing found
there an operation nested in an enclosing transaction is finalised like a direct one.
-/
import Pithos.Lemmas.TxFs
import Pithos.Lemmas.S3Shape
import Pithos.Gen.TxFsHooks

namespace Pithos.C03
open Pithos.TxFs

/-- **rollback_restores_files** (repaired rollback order, `rev = true`). For every list of
part-store calls, every fault position `k` (before pre-commit closure `k`, or at `tx.Commit()` when
`k ≥ regs.length`; `k = 0` is also the failing transaction body) and every directory in which the
transaction's backup/temp names are unused: the failing finalisation leaves the directory exactly
as it was — every part file, no backup file, no temp file — and the database uncommitted. -/
theorem rollback_restores_files (regs : List Reg) (k : Nat) (fs0 : Files) (h : Fresh regs 0 fs0) :
    (commitFault true regs k fs0).files = fs0 ∧ (commitFault true regs k fs0).committed = false :=
  ⟨undo_all regs 0 k fs0 h, rfl⟩

/-- **rollback_restores_files_partial** (the code as it is: rollback closures run in registration
order). The same conclusion under the explicit hypothesis that no part id is used by two calls
of the transaction. -/
theorem rollback_restores_files_partial (regs : List Reg) (k : Nat) (fs0 : Files)
    (h : Fresh regs 0 fs0) (hd : DistinctIds regs) :
    (commitFault false regs k fs0).files = fs0 ∧ (commitFault false regs k fs0).committed = false := by
  refine ⟨?_, rfl⟩
  have := (rollback_restores_files regs k fs0 h).1
  simp only [commitFault] at this ⊢
  rw [rollbackLoop_fwd_eq_rev regs 0 _ _ hd]
  exact this

/-- **commit_statement_failure_restores_files.** The fault position "the COMMIT statement itself
fails and leaves the SQL transaction finished": `Rollback`'s own `t.tx.Rollback()` then reports an
error, and the directory is restored all the same, because the rollback closures run whether or not
that call reports an error (`rollbackCode` ignores `sqlRollbackFails` for the files). Stated for
both values of the flag, so the theorem covers an injected error before COMMIT as well. -/
theorem commit_statement_failure_restores_files (regs : List Reg) (fs0 : Files) (h : Fresh regs 0 fs0)
    (sqlRollbackFails : Bool) :
    (commitStmtFault true regs fs0).files = fs0 ∧ (commitStmtFault true regs fs0).committed = false
    ∧ (rollbackCode true sqlRollbackFails regs
        (preLoop regs 0 regs.length (registerAll regs 0 fs0)).2.1
        (preLoop regs 0 regs.length (registerAll regs 0 fs0)).1).1 = fs0 := by
  have := (rollback_restores_files regs regs.length fs0 h).1
  simp only [commitFault] at this
  exact ⟨by simpa only [commitStmtFault, rollbackCode] using this, rfl, by simpa only [rollbackCode] using this⟩

/-- The same for rollback closures run in registration order, under `DistinctIds`. -/
theorem commit_statement_failure_restores_files_partial (regs : List Reg) (fs0 : Files)
    (h : Fresh regs 0 fs0) (hd : DistinctIds regs) :
    (commitStmtFault false regs fs0).files = fs0 := by
  have := (rollback_restores_files_partial regs regs.length fs0 h hd).1
  simp only [commitFault] at this
  simpa only [commitStmtFault, rollbackCode] using this

/-- Non-vacuity / what is at stake: an overwrite whose COMMIT statement fails has, at the moment
`Rollback` starts, the old part 3 renamed away and the new part 7 published — skipping the rollback
closures there would leave the committed object without its part file. -/
example :
    let fs0 := emptyFiles.set (.part 3) (some [4])
    let regs := [Reg.put 7 [9], Reg.del 3]
    (preLoop regs 0 regs.length (registerAll regs 0 fs0)).1 (.part 3) = none
    ∧ (commitStmtFault true regs fs0).files (.part 3) = some [4]
    ∧ (commitStmtFault true regs fs0).files (.part 7) = none := by
  decide

/-- **Negation witness for the code as it is.** A PutObject whose content already exists is
deduplicated: the transaction publishes a fresh part `5` and deletes it again (`PutPart 5`,
`DeletePart 5`). When `tx.Commit()` then fails, the forward rollback first removes the (already
renamed-away) part file and then restores the backup of the second closure: the fresh part is
left behind in a directory that did not contain it. -/
theorem forward_rollback_leaves_orphan :
    (commitFault false [.put 5 [1, 2, 3], .del 5] 2 emptyFiles).files (.part 5) = some [1, 2, 3]
    ∧ emptyFiles (.part 5) = none := by
  decide

/-- The same transaction under the repaired order is clean. -/
theorem reverse_rollback_same_input_clean :
    (commitFault true [.put 5 [1, 2, 3], .del 5] 2 emptyFiles).files (.part 5) = none := by
  decide

/-- Non-vacuity: the hypotheses of `rollback_restores_files_partial` hold for an overwrite
(new part 7 published, old part 3 deleted) on a directory that holds part 3. -/
example : Fresh [.put 7 [9], .del 3] 0 (emptyFiles.set (.part 3) (some [4])) ∧ DistinctIds [.put 7 [9], .del 3] := by
  refine ⟨by simp [Fresh, Files.set, emptyFiles, Reg.id], ?_⟩
  simp [DistinctIds, Reg.id]

/-- … and the faulted overwrite really passes through a changed directory before it is restored
(the pre-commit closures ran: part 3 renamed away, part 7 published). -/
example : (preLoop [.put 7 [9], .del 3] 0 2 (registerAll [.put 7 [9], .del 3] 0 (emptyFiles.set (.part 3) (some [4])))).1 (.part 3) = none
    ∧ (preLoop [.put 7 [9], .del 3] 0 2 (registerAll [.put 7 [9], .del 3] 0 (emptyFiles.set (.part 3) (some [4])))).1 (.part 7) = some [9] := by
  decide

/-- A successful commit of the same transaction, for contrast, does change the directory. -/
example : (commitOk [.put 7 [9], .del 3] (emptyFiles.set (.part 3) (some [4]))).files (.part 7) = some [9]
    ∧ (commitOk [.put 7 [9], .del 3] (emptyFiles.set (.part 3) (some [4]))).files (.part 3) = none
    ∧ (commitOk [.put 7 [9], .del 3] (emptyFiles.set (.part 3) (some [4]))).files (.backup 3 1) = none := by
  decide

open Pithos.S3 in
/-- **step_error_state_eq.** In the storage model, for *every* operation (bucket, object,
versioning, copy, append, multipart, tagging, transition, listings), every quirk setting and
every state: an operation that answers an error — NoSuchBucket, NoSuchKey, PreconditionFailed,
InvalidPart, InvalidPartOrder, InvalidWriteOffset, BucketNotEmpty, … — returns the state it was
given; only the logical clock (one tick per request, never observable by itself) advances. -/
theorem step_error_state_eq (q : Quirks) (s : State) (op : Op) (e : Err)
    (h : (step q s op).2 = .err e) : (step q s op).1 = { s with clock := s.clock + 1 } :=
  stepT_err_same (congrArg Out.isErr h)

open Pithos.S3 in
/-- Corollary in the property's words: after a failing operation every bucket — its versioning
state, every object row (content, metadata, tags, class, version id, latest flag, delete
markers, timestamps), every pending upload and its parts — and every id counter is unchanged, so
every later listing and read answers as if the call had not been made. -/
theorem step_error_leaves_no_trace (q : Quirks) (s : State) (op : Op) (e : Err)
    (h : (step q s op).2 = .err e) :
    (step q s op).1.buckets = s.buckets ∧ (step q s op).1.nextVid = s.nextVid ∧
    (step q s op).1.nextUid = s.nextUid ∧ (step q s op).1.nextRow = s.nextRow := by
  rw [step_error_state_eq q s op e h]
  exact ⟨rfl, rfl, rfl, rfl⟩

open Pithos.S3 in
/-- Non-vacuity: a failing conditional write (If-None-Match: * on an existing key) on a
non-empty state answers an error. -/
example :
    (match (step Quirks.code (run Quirks.code {} [.mkb "b", .put "b" "k" [1] {} false .none]).1
        (.put "b" "k" [2] {} true .none)).2 with
     | .err e => e == .preconditionFailed
     | _ => false) = true
    ∧ ((run Quirks.code {} [.mkb "b", .put "b" "k" [1] {} false .none]).1.buckets.isEmpty = false) := by
  decide

-- T1. `Pithos.Gen.TxFsHooks` is regenerated from /repo on every run; these equalities tie the
-- rollback side of the model to the current source text: a changed closure, a changed failure
-- path of Commit/WithTx or an unknown loop shape breaks an obligation.

open Pithos.Gen in
/-- `TxController.Rollback`: finalise the SQL transaction, then run every rollback closure — in
registration order (`rollbackReverse = false`, model `rev = false`) or last-registered-first
(`rollbackReverse = true`, model `rev = true`); no other shape is modelled. -/
theorem code_rollback_is_modelled :
    TxFsHooks.rollbackSkeleton =
      ["[!t.ownsFinalization] return nil", "sql.Rollback", "[t.finalized] return err", "finalized=true",
       (match TxFsHooks.rollbackReverse with
        | false => "loop-forward onRollback"
        | true => "loop-reverse onRollback"),
       "[in-loop] Point tx.rollback", "[in-loop] call fn(ctx)", "end-loop", "return err"] := rfl

open Pithos.Gen in
/-- `TxController.Commit`: every failure before `tx.Commit()` returns through `Rollback`
(model: `commitFault`), pre-commit closures run in registration order, nothing after a
successful `tx.Commit()` can fail the transaction. -/
theorem code_commit_is_modelled :
    TxFsHooks.commitSkeleton =
      ["[!t.ownsFinalization] return nil", "[t.finalized] return nil", "loop-forward onPreCommit",
       "[in-loop] Point tx.precommit", "[in-loop][pointErr!=nil] Rollback", "[in-loop][pointErr!=nil] return pointErr",
       "[in-loop] call fn(ctx)", "[in-loop][hookErr!=nil] Rollback", "[in-loop][hookErr!=nil] return hookErr", "end-loop",
       "Point tx.commit", "[pointErr!=nil] Rollback", "[pointErr!=nil] return pointErr", "sql.Commit",
       "[err!=nil] Rollback", "[err!=nil] return err", "finalized=true", "Point tx.committed",
       "loop-forward onAfterCommit", "[in-loop] Point tx.aftercommit", "[in-loop] call fn(ctx)",
       "[in-loop][hookErr!=nil] return hookErr", "end-loop", "Point tx.done", "return nil"] := rfl

open Pithos.Gen in
/-- `WithTx`: a failing body is rolled back (model: `commitFault … 0`), a succeeding one committed. -/
theorem code_withtx_is_modelled :
    TxFsHooks.withTxSkeleton =
      ["BeginTx", "[err!=nil] return err", "call fn(ctx,tx)", "[err!=nil] Rollback",
       "[err!=nil][rollbackErr!=nil] return rollbackErr", "[err!=nil] return err", "Commit", "return tx.Commit(ctx)"] := rfl

open Pithos.Gen in
/-- The rollback closures of the filesystem part store (model: `rollbackHook`), and what PutPart
does when its own call fails (temp file removed, nothing registered). -/
theorem code_rollback_closures_are_modelled :
    TxFsHooks.putPartOnRollback =
      ["[published] Remove filename", "[published][backupCreated] Rename backupName filename",
       "[!published] Remove tempName", "Return nil"]
    ∧ TxFsHooks.deletePartOnRollback = ["[backupCreated] Rename backupName filename", "Return nil"]
    ∧ TxFsHooks.putPartCallTime =
      ["CreateTemp", "[err!=nil] Return err", "Copy tempFile reader", "[err!=nil] Close tempFile",
       "[err!=nil] Remove tempName", "[err!=nil] Return err", "Close tempFile", "[err!=nil] Remove tempName",
       "[err!=nil] Return err", "Return nil"]
    ∧ TxFsHooks.deletePartCallTime = ["Return nil"] := ⟨rfl, rfl, rfl, rfl⟩

/-- **nested_hooks_run_with_root.** With the routing the code has (every registration method
appends to the ROOT controller's list of its own kind), the root's three closure lists after any
sequence of part-store calls are the same whether each call was made through the root handle or
through a child handle (an operation nested in an enclosing transaction): in call order, nothing
lost. Hence a nested operation is finalised — committed, failed, rolled back — exactly like a
direct one, and `rollback_restores_files` / `commit_statement_failure_restores_files` apply to it. -/
theorem nested_hooks_run_with_root (calls : List (Handle × Reg)) :
    Ctl.registerAll Routing.code {} calls 0 =
      Ctl.registerAll Routing.code {} (calls.map fun x => (Handle.root, x.2)) 0
    ∧ (Ctl.registerAll Routing.code {} calls 0).rollback = closuresOf .rollback (calls.map (·.2)) 0 := by
  rw [registerAll_code, registerAll_code]
  simp [List.map_map, Function.comp_def]

/-- … in particular the failing COMMIT of a nested transaction leaves the same directory. -/
theorem nested_commit_failure_eq_direct (rev : Bool) (calls : List (Handle × Reg)) (fsT : Files) :
    Ctl.commitFails rev (Ctl.registerAll Routing.code {} calls 0) fsT =
      Ctl.commitFails rev (Ctl.registerAll Routing.code {} (calls.map fun x => (Handle.root, x.2)) 0) fsT := by
  rw [(nested_hooks_run_with_root calls).1]

/-- **Negation witness for a receiver-routed OnRollback** (`t.onRollback = append(t.onRollback, fn)`):
a DeletePart made through a child handle loses its rollback closure; when the COMMIT fails, part 3
stays renamed away. With the code's routing it is restored. -/
theorem receiver_routed_rollback_loses_closure :
    let fs0 := emptyFiles.set (.part 3) (some [4])
    let bad : Routing := { Routing.code with onRollback := ⟨false, .rollback⟩ }
    (Ctl.commitFails true (Ctl.registerAll bad {} [(.child, .del 3)] 0) fs0).2 (.part 3) = none
    ∧ (Ctl.commitFails true (Ctl.registerAll Routing.code {} [(.child, .del 3)] 0) fs0).2 (.part 3) = some [4]
    ∧ (Ctl.commitFails true (Ctl.registerAll bad {} [(.root, .del 3)] 0) fs0).2 (.part 3) = some [4] := by
  decide

/-- The generic list runner and the closure-level model agree on a mixed transaction (new part 7
published through the root handle, old part 3 deleted through a child handle, COMMIT fails). -/
example :
    let fs0 := emptyFiles.set (.part 3) (some [4])
    let regs := [Reg.put 7 [9], Reg.del 3]
    ∀ nm ∈ [FName.part 3, .part 7, .backup 3 1, .temp 7 0],
      (Ctl.commitFails true (Ctl.registerAll Routing.code {} [(.root, regs[0]), (.child, regs[1])] 0)
          (registerAll regs 0 fs0)).2 nm = (commitFault true regs 2 fs0).files nm := by
  decide

open Pithos.Gen in
/-- T1: the list every registration method of `TxController` appends to (`root` = `t.rootTx()`). -/
theorem code_hook_routing_is_modelled :
    TxFsHooks.hookRouting =
      ["OnPreCommit root.onPreCommit", "OnAfterCommit root.onAfterCommit", "OnRollback root.onRollback"]
    ∧ TxFsHooks.hookRoutingRoot =
      ["OnPreCommit root:=t.rootTx()", "OnAfterCommit root:=t.rootTx()", "OnRollback root:=t.rootTx()"] := ⟨rfl, rfl⟩

end Pithos.C03
