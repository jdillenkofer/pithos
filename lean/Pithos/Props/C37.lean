/-
C37 — storage migration copies every object faithfully.

Model: `Pithos.Model.Migrator` (mirrors internal/storage/migrator/migrator.go; the destination is
written through `S3.step`, the shared storage model). Which attributes are carried is computed from
the T1 table `Pithos.Gen.MigratorFlow`, regenerated from the Go source on every run.
Helper lemmas, the guard invariant `Untouched`, `SrcWF` and `migrate_spec`: `Pithos.Lemmas.Migrator`.
-/
import Pithos.Lemmas.Migrator

namespace Pithos.C37
open Pithos.S3 Pithos.Migrator

/-- The one evaluation of the generated table; the other facts about it are read off this list. -/
theorem current_carried : migratedFields genTable = [.content, .contentType, .cacheControl, .contentDisposition,
    .contentEncoding, .contentLanguage, .expires, .websiteRedirect, .userMetadata, .tags, .storageClass] := by
  decide +kernel

/-- Each attribute the property names is among the attributes the model carries … -/
theorem migrate_fields_complete_carried : ∀ f ∈ observableFields, f ∈ migratedFields genTable :=
  fun _ hf => current_carried ▸ hf

/-- **migrate_fields_complete.** Every attribute the property names flows, in the current source, from
the source object through `s3.PutObjectInput` and the uploader adapter into the destination's
`PutObject` (single-put path) and — separately — into its `CreateMultipartUpload`/`UploadPart` (multipart
path, objects above the 5 MiB part size); on both paths the options struct that carries it is built
whenever the attribute is present (the guarding condition tests its value). -/
theorem migrate_fields_complete :
    ∀ f ∈ observableFields, flowsPut genTable f = true ∧ flowsMultipart genTable f = true :=
  fun f hf => flows_of_carried (migrate_fields_complete_carried f hf)

/-- The current table has no gap (before /repo commit ae066fa it was `[.storageClass]`). -/
theorem current_gap : observableFields.filter (fun f => !flows genTable f) = [] := by
  rw [gap_eq, current_carried]; decide

/-- `Expires` is the one attribute converted on the way (`parseExpires`, then `Format(http.TimeFormat)`):
it survives exactly when it is a fixed point of that conversion. -/
theorem expires_is_converted : (conversions genTable .expires).contains "parseExpires" = true := by decide +kernel

/-- The table of the migrator before the repair (/repo commit ae066fa): the current one without the
`StorageClass` assignment and adapter options. The witnesses of the recorded defect are stated on it. -/
def preFixTable : FlowTable :=
  { genTable with
    inputAssignments := genTable.inputAssignments.filter (fun a => a.1 != "StorageClass"),
    adapterFlows := genTable.adapterFlows.filter (fun a => a.2.1 != "StorageClass"),
    optionValues := genTable.optionValues.filter (fun a => a.2.1 != "StorageClass") }

theorem preFixTable_eq : preFixTable = dropField genTable "StorageClass" := rfl

/-- Without the `StorageClass` rows the storage class does not flow; nothing else notices: no other
attribute travels in an input or option field of that name. -/
theorem flows_preFix (f : Field) : flows preFixTable f = (f != .storageClass && flows genTable f) := by
  rw [preFixTable_eq]
  by_cases hf : f = .storageClass
  · subst hf
    exact flows_dropField_self genTable (f := .storageClass)
  · rw [bne_iff_ne.2 hf, Bool.true_and]
    exact flows_dropField genTable (route_ne_storageClass hf).1 (route_ne_storageClass hf).2

theorem preFix_carried : migratedFields preFixTable = [.content, .contentType, .cacheControl, .contentDisposition,
    .contentEncoding, .contentLanguage, .expires, .websiteRedirect, .userMetadata, .tags] := by
  have : migratedFields preFixTable = (migratedFields genTable).filter (· != .storageClass) := by
    unfold migratedFields
    rw [List.filter_filter]
    exact List.filter_congr fun f _ => flows_preFix f
  rw [this, current_carried]
  rfl

/-- Negation witness (code before the repair): the storage class was the one attribute not carried. -/
theorem preFix_storage_class_not_migrated :
    observableFields.filter (fun f => !flows preFixTable f) = [.storageClass] := by
  rw [gap_eq, preFix_carried]; decide

/-- The destination-emptiness test lists every object of the destination bucket (the paginating helper
`storage.ListAllObjectsOfBucket`: no delimiter, no prefix, no page limit) and refuses as soon as there is
one — this is what `Migrator.hasCurrent` models: any current object, whatever the shape of its key. -/
theorem destination_probe_lists_every_object :
    Gen.MigratorFlow.destinationProbe = "storage.ListAllObjectsOfBucket(ctx, destination, bucketName)" ∧
    Gen.MigratorFlow.destinationNotEmptyCondition = "len(destinationObjects) != 0" := ⟨rfl, rfl⟩

/-- **never_overwrites.** Whatever the source and the destination are and however the run ends, every
object that was current in the destination before the migration is still there, unchanged. -/
theorem never_overwrites (q : Quirks) (P : Params) (src dst : State) (b k : String) (v : View)
    (hv : cur dst b k = some v) : cur (migrate q P src dst).dst b k = some v := by
  unfold migrate
  have h0 := untouched_createMissing q dst (src.buckets.map (·.name))
  have hu := (migrateBuckets_guard q P dst src.buckets _ h0).1 b (hasCurrent_of_cur hv)
  rw [cur_congr hu k]; exact hv

/-- **nonempty_dst_fails_unchanged.** If the destination has a bucket of a source bucket's name that
lists a current object, the migration fails, and nothing that was in the destination is overwritten
(for every source state, every destination state, every set of carried attributes). -/
theorem nonempty_dst_fails_unchanged (q : Quirks) (P : Params) (src dst : State)
    (hex : ∃ bk ∈ src.buckets, hasCurrent dst bk.name = true) :
    (migrate q P src dst).ok = false ∧
    ∀ b k v, cur dst b k = some v → cur (migrate q P src dst).dst b k = some v := by
  refine ⟨?_, fun b k v hv => never_overwrites q P src dst b k v hv⟩
  unfold migrate
  exact (migrateBuckets_guard q P dst _ _ (untouched_createMissing q dst _)).2 hex

/-- **migrate_into_empty** (any set of carried attributes `P`). Migrating into a destination without
buckets succeeds, and for every source bucket and every key the destination's current object is the
source's current object as `P` carries it — in particular absent exactly when the source has none. -/
theorem migrate_into_empty (q : Quirks) (P : Params) (src dst : State) (hdst : dst.buckets = [])
    (hwf : SrcWF src) :
    (migrate q P src dst).ok = true ∧
    ∀ bk ∈ src.buckets, ∀ k, cur (migrate q P src dst).dst bk.name k = (cur src bk.name k).map (carry P) :=
  migrate_spec q P src dst (fun _ h => by rw [hdst] at h; cases h) hwf
    fun _ _ => by unfold hasCurrent findBucket; rw [hdst]; rfl

/-- **migrate_empty_dst_equiv.** With every attribute carried and none converted (the table of the
patched migrator on objects whose `Expires` is an RFC 1123 date), migrating into an empty destination
reproduces, bucket by bucket and key by key, exactly the source's current objects: content, content
type, system and user metadata, tags and storage class. -/
theorem migrate_empty_dst_equiv (q : Quirks) (src dst : State) (hdst : dst.buckets = []) (hwf : SrcWF src) :
    (migrate q idealParams src dst).ok = true ∧
    ∀ bk ∈ src.buckets, ∀ k, cur (migrate q idealParams src dst).dst bk.name k = cur src bk.name k := by
  obtain ⟨hok, h⟩ := migrate_into_empty q idealParams src dst hdst hwf
  refine ⟨hok, fun bk hbk k => ?_⟩
  rw [h bk hbk k]
  cases cur src bk.name k with
  | none => rfl
  | some v => exact congrArg some (carry_ideal v)

/-- **migrate_empty_dst_equiv_partial** (the migrator as it is: the attributes of `genTable`, `Expires`
through the HTTP-date round trip `ex`). Objects whose `Expires` value that round trip leaves alone
(or that have none) arrive identical — content, content type, metadata, tags and storage class. -/
theorem migrate_empty_dst_equiv_partial (q : Quirks) (ex : String → Option String) (src dst : State)
    (hdst : dst.buckets = []) (hwf : SrcWF src) (bk : Bucket) (hbk : bk ∈ src.buckets) (k : String) (v : View)
    (hv : cur src bk.name k = some v)
    (hex : ∀ p ∈ v.md, p.1 = "!ex" → ex p.2 = some p.2) :
    cur (migrate q (codeParams genTable ex) src dst).dst bk.name k = some v := by
  obtain ⟨_, h⟩ := migrate_into_empty q (codeParams genTable ex) src dst hdst hwf
  rw [h bk hbk k, hv]
  refine congrArg some (carry_eq_self _ v current_carried fun p hp hk => ?_)
  unfold codeParams
  simp only [expires_is_converted, if_true]
  exact hex p hp hk

def witnessRow : Row :=
  { rowId := 0, key := "k", vid := none, latest := true, created := 0, updated := 0, wrote := 0, parts := [[1]],
    cls := some "GLACIER" }
def witnessSrc : State := { buckets := [{ name := "b", rows := [witnessRow] }] }

/-- Negation witness for the migrator before the repair (ae066fa): a one-object source whose object is
in GLACIER arrived without its storage class (the history of harness case 0); the current table
carries it. -/
theorem preFix_loses_storage_class :
    (migrate Quirks.code (codeParams preFixTable some) witnessSrc {}).ok = true ∧
    (cur witnessSrc "b" "k").map (·.cls) = some (some "GLACIER") ∧
    (cur (migrate Quirks.code (codeParams preFixTable some) witnessSrc {}).dst "b" "k").map (·.cls) = some none ∧
    (cur (migrate Quirks.code (codeParams genTable some) witnessSrc {}).dst "b" "k").map (·.cls) = some (some "GLACIER") := by
  rw [codeParams_some, codeParams_some, preFix_carried, current_carried]
  decide

def exRows : List Row :=
  [{ rowId := 0, key := "k", vid := some 0, latest := false, created := 0, updated := 0, wrote := 0, parts := [[1]] },
   { rowId := 1, key := "k", vid := some 1, latest := true, created := 1, updated := 1, wrote := 1, parts := [[2], [3]],
     ct := some "text/plain", md := [("!cc", "no-cache"), ("color", "x")], tags := [("t", "v")], cls := some "GLACIER" },
   { rowId := 2, key := "gone", vid := some 2, dm := true, latest := true, created := 2, updated := 2, wrote := 2 }]
def exSrc : State := { buckets := [{ name := "a", ver := .enabled, rows := exRows }, { name := "b" }] }

/-- Non-vacuity: a two-bucket source with a delete marker, a noncurrent version and a fully attributed
object satisfies `SrcWF`; its migration into the empty state reproduces it. -/
example :
    SrcWF exSrc ∧ (migrate Quirks.code idealParams exSrc {}).ok = true ∧
      cur (migrate Quirks.code idealParams exSrc {}).dst "a" "k" = cur exSrc "a" "k" ∧
      (cur exSrc "a" "k").isSome = true ∧
      cur (migrate Quirks.code idealParams exSrc {}).dst "a" "gone" = none := by
  refine ⟨⟨by decide, ?_⟩, by decide +kernel, by decide +kernel, by decide +kernel, by decide +kernel⟩
  intro bk hbk
  simp only [exSrc, List.mem_cons, List.mem_nil_iff, or_false] at hbk
  rcases hbk with rfl | rfl <;> unfold LatestUnique <;> decide

/-- `hasCurrent` does not depend on the shape of the keys: a destination bucket holding only keys below
folder-like prefixes blocks the migration like any other (the history of directed case 7). -/
def nestedRow : Row :=
  { rowId := 0, key := "photos/2024/a.jpg", vid := none, latest := true, created := 0, updated := 0, wrote := 0,
    parts := [[9]] }
def nestedOnlyDst : State := { buckets := [{ name := "a", rows := [nestedRow] }] }

theorem nested_only_destination_blocks :
    (migrate Quirks.code idealParams exSrc nestedOnlyDst).ok = false ∧
    cur (migrate Quirks.code idealParams exSrc nestedOnlyDst).dst "a" "photos/2024/a.jpg" = cur nestedOnlyDst "a" "photos/2024/a.jpg" ∧
    cur (migrate Quirks.code idealParams exSrc nestedOnlyDst).dst "a" "k" = none := by decide +kernel

/-- Non-vacuity of `nonempty_dst_fails_unchanged`: a destination bucket of a source bucket's name with
one object. -/
example : ∃ bk ∈ exSrc.buckets, hasCurrent witnessSrc bk.name = true := ⟨{ name := "b" }, by decide, by decide⟩

end Pithos.C37
