/-
C08 — no referenced part content is ever deleted.

Property theorems only.  Model: `Pithos.Model.Parts` (atomic steps = SQL write transactions of
the writers + every single transaction / post-commit deletion of the garbage collector);
invariant and step lemmas: `Pithos.Lemmas.Parts`, `Pithos.Lemmas.PartsGrace`.

All statements are for every configuration `cfg` (any grace window, any number of named stores,
any mix of in-transaction / post-commit deleting stores) and for every finite sequence of atomic
steps — i.e. for every interleaving of writer transactions (each an arbitrary script of
acquire / dedupe / rawput / save / rm micro steps, committed only if every step succeeds and every
pre-acquired reference ended in a row), environment steps (time, orphaned bytes) and collector
steps with arbitrary candidates, at arbitrary points.
-/
import Pithos.Lemmas.Parts
import Pithos.Lemmas.PartsGrace
import Pithos.Gen.PartsSql

namespace Pithos.C08
open Pithos.Parts

/-- **regenerated_sql_facts_sound** (T1).  The statements of the current
`partregistry/sqlite.go` (regenerated into `Pithos.Gen.partsSql` on every run) guard the
collector's repairs by the *exact* observed version.  Every theorem below takes this as its
hypothesis `cfg.sql.Sound`; `…_code` instantiates it with the regenerated facts. -/
theorem regenerated_sql_facts_sound : Pithos.Gen.partsSql.Sound := by decide

/-- **regenerated_register_is_insert_or_fail** (T1).  `RegisterParts` is a plain INSERT: handing
`savePartRows` an already registered part without a pre-acquired reference fails loudly. -/
theorem regenerated_register_is_insert_or_fail : Pithos.Gen.partsSql.register = .fail := by decide

/-- **regenerated_tryadd_guarded** (T1). -/
theorem regenerated_tryadd_guarded : Pithos.Gen.partsSql.addGuardPositive = true := by decide

/-- **refinv_preserved.** Every atomic step preserves `RefInv`: registry count = number of part
rows (never 0), every part row's id present in its named store, dedup entries point to present
registered parts, ids queued for deletion are unreferenced for good, version-CAS observations stay
truthful. -/
theorem refinv_preserved (cfg : Cfg) (hq : cfg.sql.Sound) (s : St) (a : Act) (h : RefInv s) :
    RefInv (step cfg s a) :=
  step_inv cfg hq h a

/-- **refinv_run.** … hence every sequence of atomic steps does — every interleaving of writers,
copiers, deleters, transitions and collector steps, with the collector at arbitrary points and on
arbitrary candidate ids. -/
theorem refinv_run (cfg : Cfg) (hq : cfg.sql.Sound) (acts : List Act) : RefInv (run cfg St.init acts) :=
  run_inv cfg hq refinv_init acts

/-- … in particular for the statements regenerated from the code, whatever the store configuration. -/
theorem refinv_run_code (grace : Nat) (names : List Store) (txFree : Store → Bool) (acts : List Act) :
    RefInv (run ⟨grace, names, txFree, Pithos.Gen.partsSql⟩ St.init acts) :=
  refinv_run _ regenerated_sql_facts_sound acts

/-- **committed_objects_readable.** In every reachable state, every part row — of a completed
object version or of a pending upload — has its part in the store the row names. -/
theorem committed_objects_readable (cfg : Cfg) (hq : cfg.sql.Sound) (acts : List Act) :
    ∀ r ∈ (run cfg St.init acts).rows, (run cfg St.init acts).stores r.store r.pid ≠ none :=
  (refinv_run cfg hq acts).rowsIn

/-- … and this survives any further step (the form used "after every step" by the judge). -/
theorem referenced_part_survives_step (cfg : Cfg) (hq : cfg.sql.Sound) (acts : List Act) (a : Act) :
    ∀ r ∈ (step cfg (run cfg St.init acts) a).rows,
      (step cfg (run cfg St.init acts) a).stores r.store r.pid ≠ none :=
  (step_inv cfg hq (refinv_run cfg hq acts) a).rowsIn

/-- Does `Condemn p` report "condemned" in state `s`? (the two successful exits of `Condemn`) -/
def condemns (s : St) (p : PartId) : Bool :=
  match s.reg p with
  | none => refs s.rows p == 0
  | some (c, _) => c == 0 && refs s.rows p == 0

/-- **gc_condemn_safe.** A successful `Condemn p` — in any reachable state, for any id — means
that no part row references `p` at that step, and afterwards still every part row's part is
present (so the deletion that follows, in the transaction or after it, hits no referenced part). -/
theorem gc_condemn_safe (cfg : Cfg) (hq : cfg.sql.Sound) (acts : List Act) (st : Store) (p : PartId)
    (hc : condemns (run cfg St.init acts) p = true) :
    refs (run cfg St.init acts).rows p = 0 ∧
    RefInv (step cfg (run cfg St.init acts) (.gcCondemn st p)) := by
  refine ⟨?_, step_inv cfg hq (refinv_run cfg hq acts) _⟩
  unfold condemns at hc
  split at hc
  · simpa using hc
  · simp at hc; exact hc.2

/-- **remove_refs_zero_only_when_unreferenced.** Inside any transaction of any reachable state:
when `RemoveReferences` brings a part's count to zero (the part is then deleted from its store),
no remaining part row and no reference acquired earlier in the transaction points to it. -/
theorem remove_refs_zero_only_when_unreferenced (s : St) (pend : List Pend) (h : TxInv s pend)
    (owner : Owner) (seq : Option Nat) (q : PartId)
    (hz : rmZero s.reg (s.rows.filter (rmSel owner seq)) q = true) :
    refs (rmStep s owner seq).rows q = 0 ∧ credits pend q = 0 := by
  have := rm_zero_facts h _ q hz
  exact ⟨this.1, this.2.1⟩

/-- **tryadd_guard_redundant.** Under the invariant a registry row never has `ref_count = 0`, so
with SQLite's serialised write transactions the `ref_count > 0` guard of `TryAddReferences` never
decides anything: a mutant dropping it is behaviourally equivalent on this stack. -/
theorem tryadd_guard_redundant (cfg : Cfg) (hq : cfg.sql.Sound) (acts : List Act) (p c v : Nat)
    (h : (run cfg St.init acts).reg p = some (c, v)) : 0 < c :=
  ((refinv_run cfg hq acts).cnt p c v h).2

/-- **condemn_recheck_redundant.** Likewise the re-check of `parts` rows inside `Condemn`: a
missing registry row already implies that no part row references the id. -/
theorem condemn_recheck_redundant (cfg : Cfg) (hq : cfg.sql.Sound) (acts : List Act) (p : PartId)
    (h : (run cfg St.init acts).reg p = none) : refs (run cfg St.init acts).rows p = 0 :=
  (refinv_run cfg hq acts).regd p h

/-- The mutation "share part rows without `TryAddPartReferences`": the reference is recorded as
pre-acquired although the registry was not incremented. -/
def shareWithoutAcquire (t : St × List Pend) (p : PartId) (st : Store) : St × List Pend :=
  (t.1, t.2 ++ [⟨p, true, st⟩])

/-- **acquire_needed** (negation witness for the mutated protocol): put k0; copy k0→k1 sharing the
part without taking the registry reference; delete k0 — the registry count reaches zero, the part
is deleted, and k1's row points at a part that is gone. -/
theorem acquire_needed :
    let q := SqlFacts.designed
    let s1 := (runTx q St.init [.dedupe 0 0 0, .save 0 0 (some 0)]).getD St.init
    let t2 := (micro q (shareWithoutAcquire (s1, []) 0 0) (.save 1 0 (some 0))).getD (s1, [])
    let s3 := (runTx q t2.1 [.rm 0 none]).getD t2.1
    (s3.rows.map (·.owner) = [1]) ∧ (s3.rows.all fun r => (s3.stores r.store r.pid).isNone) = true := by
  decide

/-- The same history with the reference taken (the code as it is) keeps the part. -/
theorem acquire_present_ok :
    let q := SqlFacts.designed
    let s1 := (runTx q St.init [.dedupe 0 0 0, .save 0 0 (some 0)]).getD St.init
    let s2 := (runTx q s1 [.acquire 0 0, .save 1 0 (some 0)]).getD s1
    let s3 := (runTx q s2 [.rm 0 none]).getD s2
    (s3.rows.map (·.owner) = [1]) ∧ (s3.rows.all fun r => (s3.stores r.store r.pid).isSome) = true := by
  decide

/-- The caller bug "hand `savePartRows` an existing part without a pre-acquired reference" (what
AppendObject would do if it forgot that a suspended bucket's current ULID version must not be
extended in place). -/
def reuseWithoutReference (t : St × List Pend) (p : PartId) (st : Store) : St × List Pend :=
  (t.1, t.2 ++ [⟨p, false, st⟩])

/-- **loud_register.** With a plain INSERT the bug above cannot commit: `savePartRows` of an
already registered, not pre-acquired part fails the transaction — for every state. -/
theorem loud_register (q : SqlFacts) (hq : q.register = .fail) (s : St) (e : Pend) (rest : List Pend)
    (hp : e.pre = false) (hr : s.reg e.pid ≠ none) (owner : Owner) (seq : Nat) (ck : Option CKey) :
    micro q (s, e :: rest) (.save owner seq ck) = none := by
  simp only [micro]
  split
  · rfl
  · cases hreg : s.reg e.pid with
    | none => exact absurd hreg hr
    | some cv => simp [hp, hq]

/-- **register_conflict_must_fail** (negation witness for `ON CONFLICT … DO NOTHING`): put k0
(version V1, part 0); an append writes a second owner re-using part 0 without a reference.  With the
plain INSERT the transaction fails; with a silently ignored conflict it commits with ref_count 1
for 2 rows, and deleting V1 deletes the part the other owner still references. -/
theorem register_conflict_must_fail :
    let s1 := (runTx SqlFacts.designed St.init [.dedupe 0 0 0, .save 0 0 (some 0)]).getD St.init
    let bug (q : SqlFacts) := micro q (reuseWithoutReference (s1, []) 0 0) (.save 1 0 (some 0))
    let ign : SqlFacts := { SqlFacts.designed with register := .ignore }
    let t2 := (bug ign).getD (s1, [])
    let s3 := (runTx ign t2.1 [.rm 0 none]).getD t2.1
    (bug SqlFacts.designed).isNone = true ∧
    t2.1.reg 0 = some (1, 1) ∧ refs t2.1.rows 0 = 2 ∧
    (s3.rows.map (·.owner) = [1]) ∧ (s3.rows.all fun r => (s3.stores r.store r.pid).isNone) = true := by
  decide

/-- A damaged (over-counted) registry as left by a leak: part 0 has one row and ref_count 2. -/
def overCounted : St :=
  let s1 := (runTx SqlFacts.designed St.init [.dedupe 0 0 0, .save 0 0 (some 0)]).getD St.init
  { s1 with reg := upd1 s1.reg 0 (some (2, 2)) }

/-- **version_guard_needed** (negation witness for `version >= observed`): the collector observes
(part 0: 1 row, ref 2, version 2); a copy commits (2 rows, ref 3, version 3); the repair is applied.
With `version = observed` it is rejected and nothing is lost; with `>=` the stale count 1 is
written for 2 rows, deleting the copy brings it to 0 and the source's part is deleted. -/
theorem version_guard_needed :
    let go (q : SqlFacts) : St :=
      run ⟨1, [0], fun _ => true, q⟩ overCounted
        [.gcObserve, .tx [.acquire 0 0, .save 1 0 (some 0)], .gcReconcile, .tx [.rm 1 none]]
    let bad := go { SqlFacts.designed with updateGuard := .ge }
    let good := go SqlFacts.designed
    (bad.rows.map (·.owner) = [0]) ∧ (bad.rows.all fun r => (bad.stores r.store r.pid).isNone) = true ∧
    (good.rows.map (·.owner) = [0]) ∧ (good.rows.all fun r => (good.stores r.store r.pid).isSome) = true := by
  decide

open Pithos.Parts.Grace in
/-- **grace_window_safe.** With a part store that shows uncommitted parts, the collector never
removes a part that ends up referenced, provided that at every listing no part of a still-open
transaction is older than the grace window (`Timely`).  This is the only place the grace window
is needed; `refinv_run` above does not mention it. -/
theorem grace_window_safe (grace : Nat) (acts : List GA) (ht : Timely grace G.init acts) :
    Safe (grun grace G.init acts) :=
  (grun_inv grace ginv_init acts ht).safe

open Pithos.Parts.Grace in
/-- For a transactional store (`listTx`: uncommitted parts are not listed — filesystem store: temp
files until the pre-commit publication; SQL store: same transaction) no timing assumption is needed. -/
theorem grace_window_not_needed_for_transactional_stores (grace : Nat) (acts : List GA)
    (hn : GA.list ∉ acts) : Safe (grun grace G.init acts) := by
  apply grace_window_safe
  have : ∀ (g : G) (as : List GA), GA.list ∉ as → Timely grace g as := by
    intro g as
    induction as generalizing g with
    | nil => intro _; trivial
    | cons a as ih =>
      intro hn
      refine ⟨fun heq => absurd (by rw [heq]; simp) hn, ih _ (fun hm => hn (List.mem_cons_of_mem _ hm))⟩
  exact this _ _ hn

open Pithos.Parts.Grace in
/-- **grace_window_needed** (negation witness): a transaction that stays open longer than the
grace window (5) loses its part: put, 10 ticks, list, condemn, commit. -/
theorem grace_window_needed :
    ¬ Safe (grun 5 G.init [.put 1, .tick 10, .list, .condemn, .commit 1]) := by
  unfold Safe; decide

/-- A non-trivial reachable state: two keys with identical content share one part (dedup hit), a
copy shares it again, one owner is deleted, the collector condemns arbitrary ids in between — the
remaining rows all point at a present part with the right count. -/
example :
    let cfg : Cfg := ⟨1, [0], fun _ => true, SqlFacts.designed⟩
    let s := run cfg St.init
      [.tx [.dedupe 0 7 0, .save 0 0 (some 7)], .tx [.dedupe 0 7 1, .save 1 0 (some 7)], .gcObserve,
       .tx [.acquire 0 0, .save 2 0 (some 7)], .gcCondemn 0 0, .gcCondemn 0 1, .gcReconcile,
       .tx [.rm 0 none], .gcExtDelete, .gcDedup, .orphan 0 9, .tick 5, .gcCondemn 0 9, .gcExtDelete]
    s.rows.length = 2 ∧ s.reg 0 = some (2, 4) ∧ (s.stores 0 0).isSome ∧ s.stores 0 9 = none := by
  decide

end Pithos.C08
