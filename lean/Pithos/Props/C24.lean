/-
C24 — bucket-routed storages are isolated.

Property theorems about the model of the conditional (bucket-routing) middleware
(`Pithos.Model.Routing`, tied to /repo/internal/storage/middlewares/conditional/conditional.go by
the differential harness c24*.go + Driver/C24.lean). All statements are for every configuration
(any map, any default), every list of backing-storage states and every call — nothing is bounded.

Isolation holds for the code as it is and for the repaired variant (`Fixes`): a call changes no storage
other than the one its (destination) bucket is routed to (`route_isolation`), and its answer and effect
depend only on the storages its bucket arguments are routed to (`route_reads_only`). Two claims hold for the
repaired variant only; each comes with a witness against the code as it is and with the condition under
which the code as it is meets it. ListBuckets is the duplicate-free union of the storages' buckets
(`list_buckets_union_nodup`; `list_buckets_duplicates_witness`: a storage that is the value of two entries;
`list_buckets_union_nodup_partial`, and `list_buckets_union_nodup_reachable`: every history from empty
storages, when the configuration lists no storage twice). A cross-storage CopyObject leaves in the
destination storage what a same-storage CopyObject leaves (`cross_copy_eq_same_copy`;
`cross_copy_drops_metadata_witness`: metadata, tags and class are dropped;
`cross_copy_eq_same_copy_partial`: when the copy carries nothing but the content type). UploadPartCopy across
storages is the one inside one storage in both variants (`cross_part_copy_eq_same_part_copy`). The
cross-storage evaluator of the copy-source preconditions decides like the same-storage one
(`cross_conditions_eq_same`, `copy_conditions_spec`), which gives the copy and isolation theorems with
preconditions (`*_if`). Proofs: `Pithos.Lemmas.Routing`.
-/
import Pithos.Lemmas.Routing

namespace Pithos.C24
open Pithos.S3 Pithos.S3Ext Pithos.Routing

/-- **route_isolation.** Whatever the call, the configuration and the states: every backing
storage other than the one the call's (destination) bucket is routed to is left exactly as it was
— and `ListBuckets` changes none. Holds for the code as it is and for the repaired variant. -/
theorem route_isolation (fx : Fixes) (q : Quirks) (c : Cfg) (ss : Stores) (op : XOp) (j : Nat)
    (h : j ∉ targets c op) : (rstep fx q c ss op).1[j]? = ss[j]? := by
  rcases rstep_run fx q c ss op with h' | ⟨t, ht, _, _, h'⟩
  · rw [h']
  · rw [h', List.getElem?_set_ne]
    rintro rfl
    exact h ht

/-- The list of backing storages keeps its length (no storage appears or disappears). -/
theorem route_keeps_storages (fx : Fixes) (q : Quirks) (c : Cfg) (ss : Stores) (op : XOp) :
    (rstep fx q c ss op).1.length = ss.length := by
  rcases rstep_run fx q c ss op with h | ⟨_, _, _, _, h⟩
  · rw [h]
  · rw [h, List.length_set]

/-- Isolation along a whole history: a storage that no call of the history targets is unchanged. -/
theorem route_isolation_history (fx : Fixes) (q : Quirks) (c : Cfg) (ops : List XOp) (ss : Stores) (j : Nat)
    (h : ∀ op ∈ ops, j ∉ targets c op) : (rrun fx q c ss ops).1[j]? = ss[j]? := by
  induction ops generalizing ss with
  | nil => rfl
  | cons op ops ih =>
    simp only [rrun]
    rw [ih (rstep fx q c ss op).1 (fun o ho => h o (List.mem_cons_of_mem _ ho))]
    exact route_isolation fx q c ss op j (h op (List.mem_cons_self ..))

/-- **route_reads_only.** The answer of a call (and which storages it calls), and the new state of
the storage it targets, are functions of the states of the storages its bucket arguments are
routed to (for `ListBuckets`: of the storages it lists) — no other storage is read. -/
theorem route_reads_only (fx : Fixes) (q : Quirks) (c : Cfg) (ss ss' : Stores) (op : XOp)
    (h : ∀ i ∈ sources c op, getS ss i = getS ss' i) :
    (rstep fx q c ss op).2 = (rstep fx q c ss' op).2 ∧
    ∀ t ∈ targets c op, t < ss.length → t < ss'.length →
      getS (rstep fx q c ss op).1 t = getS (rstep fx q c ss' op).1 t := by
  unfold rstep targets
  unfold sources at h
  split
  · next b hb =>
    rw [hb] at h
    have hb' := h (storageOf c b) (by simp)
    dsimp only
    rw [hb']
    exact ⟨rfl, List.forall_mem_singleton.mpr fun h1 h2 => by simp [getS_set_eq h1, getS_set_eq h2]⟩
  · next sb db hb =>
    rw [hb] at h
    have hs := h (storageOf c sb) (by simp)
    have hd := h (storageOf c db) (by simp)
    dsimp only
    split
    · rw [hd]
      exact ⟨rfl, List.forall_mem_singleton.mpr fun h1 h2 => by simp [getS_set_eq h1, getS_set_eq h2]⟩
    · have := crossCopy_reads_only fx q ss ss' (storageOf c sb) (storageOf c db) op hs hd
      exact ⟨this.1, List.forall_mem_singleton.mpr this.2⟩
  · next hb =>
    rw [hb] at h
    refine ⟨?_, by simp⟩
    simp only [listBuckets, List.flatMap_def,
      List.map_congr_left (l := listSources c) fun i hi => congrArg bucketNames (h i hi)]

/-- **list_buckets_union_nodup** (repaired variant, fixes/C24-list-buckets-dedup.patch): for every
configuration and all storage states, `ListBuckets` contains exactly the bucket names some listed
storage holds, each once. -/
theorem list_buckets_union_nodup (cm : Bool) (c : Cfg) (ss : Stores) :
    (listBuckets ⟨cm, true⟩ c ss).Nodup ∧
    ∀ n, n ∈ listBuckets ⟨cm, true⟩ c ss ↔ ∃ i ∈ listSources c, n ∈ bucketNames (getS ss i) := by
  refine ⟨?_, mem_listBuckets _ c ss⟩
  unfold listBuckets
  exact ((isSort _).perm _).nodup_iff.mpr (by simpa using nodup_dedup _)

/-- As-is, without the de-duplication, the same holds when no storage is listed twice (no storage
is the value of two map entries, the default storage is not mapped explicitly), every storage's
own bucket names are distinct, and different storages hold different names (which the middleware
itself guarantees for the buckets it created: a bucket is created in `storageOf name` only). -/
theorem list_buckets_union_nodup_partial (cm : Bool) (c : Cfg) (ss : Stores)
    (hsrc : (listSources c).Nodup)
    (hown : ∀ i ∈ listSources c, (bucketNames (getS ss i)).Nodup)
    (hdisj : ∀ i ∈ listSources c, ∀ j ∈ listSources c, i ≠ j →
      ∀ n, n ∈ bucketNames (getS ss i) → n ∉ bucketNames (getS ss j)) :
    (listBuckets ⟨cm, false⟩ c ss).Nodup ∧
    ∀ n, n ∈ listBuckets ⟨cm, false⟩ c ss ↔ ∃ i ∈ listSources c, n ∈ bucketNames (getS ss i) := by
  refine ⟨?_, mem_listBuckets _ c ss⟩
  unfold listBuckets
  exact ((isSort _).perm _).nodup_iff.mpr (by simpa using nodup_flatMap_of _ _ hsrc hown hdisj)

/-- **list_buckets_union_nodup_reachable** (the code AS IT IS). If the configuration lists no
storage twice (no storage is the value of two map entries, the default is not mapped explicitly),
then after ANY history through the middleware from empty storages, `ListBuckets` is the
duplicate-free union — the disjointness and distinctness hypotheses of `list_buckets_union_nodup_partial` are
invariants (`Placed`: a bucket is only ever created in the storage its name is routed to). So the
duplicates of `list_buckets_duplicates_witness` arise exactly from a storage being listed twice. -/
theorem list_buckets_union_nodup_reachable (cm : Bool) (fx : Fixes) (q : Quirks) (c : Cfg) (n : Nat)
    (ops : List XOp) (hsrc : (listSources c).Nodup) :
    (listBuckets ⟨cm, false⟩ c (rrun fx q c (List.replicate n {}) ops).1).Nodup ∧
    ∀ nm, nm ∈ listBuckets ⟨cm, false⟩ c (rrun fx q c (List.replicate n {}) ops).1 ↔
      ∃ i ∈ listSources c, nm ∈ bucketNames (getS (rrun fx q c (List.replicate n {}) ops).1 i) := by
  have hp := placed_run fx q c ops _ (placed_empty c n)
  refine list_buckets_union_nodup_partial cm c _ hsrc (fun i _ => (hp i).1) ?_
  intro i _ j _ hij nm hi hj
  exact hij (((hp i).2 nm hi).symm.trans ((hp j).2 nm hj))

def wcfg : Cfg := { map := [("b0", 1), ("b1", 1)], dflt := 0 }

/-- Negation witness for the code as it is: two bucket names mapped to storage 1, one bucket
created through the middleware — `ListBuckets` reports it twice. -/
theorem list_buckets_duplicates_witness :
    listBuckets Fixes.asIs wcfg (rrun Fixes.asIs Quirks.code wcfg [{}, {}] [.base (.mkb "b0")]).1 = ["b0", "b0"] := by
  decide

example : ¬ (listBuckets Fixes.asIs wcfg (rrun Fixes.asIs Quirks.code wcfg [{}, {}] [.base (.mkb "b0")]).1).Nodup := by
  rw [list_buckets_duplicates_witness]; decide

/-- **cross_copy_eq_same_copy** (repaired variant, fixes/C24-cross-copy-carries-metadata.patch).
Let `sb` and `db` be routed to different storages, and let `s` be the state of the destination's
storage. Then a `CopyObject sb/sk → db/dk` through the middleware leaves the destination's storage
in the state — and gives the caller the outcome (error, or new version id) — that the *same-storage*
`CopyObject` would, run on a storage `s` that holds the source bucket as the source's storage
holds it; "same" up to part structure / ETag (`flatten`: the cross-storage copy writes one part).
So the destination object has the same content, content type, metadata, tags and storage class,
for every directive combination, every source version, every destination versioning state. -/
theorem cross_copy_eq_same_copy (ld : Bool) (q : Quirks) (c : Cfg) (ss : Stores) (s : State)
    (sb sk db dk : String) (svid : Option (Option Nat)) (rm rt : Bool) (o : WriteOpts)
    (hne : storageOf c sb ≠ storageOf c db)
    (hdi : storageOf c db < ss.length)
    (hsrc : findBucket (getS ss (storageOf c sb)) sb = findBucket s sb)
    (hdst : getS ss (storageOf c db) = s) :
    flatten (getS (rstep ⟨true, ld⟩ q c ss (.base (.copy sb sk svid db dk rm rt o))).1 (storageOf c db))
      = flatten (step q s (.copy sb sk svid db dk rm rt o)).1
    ∧ writeOutcome (rstep ⟨true, ld⟩ q c ss (.base (.copy sb sk svid db dk rm rt o))).2.out
      = writeOutcome (.base (step q s (.copy sb sk svid db dk rm rt o)).2) :=
  cross_copy_eq_same_copy_aux ⟨true, ld⟩ q c ss s sb sk db dk svid rm rt o hne hdi hsrc hdst
    (fun _ _ => rfl)

/-- What the same-storage copy would store besides the content type: nothing. -/
def CarriesNothing (rm rt : Bool) (o : WriteOpts) (src : Row) : Prop :=
  (copyOpts rm rt o src).md = [] ∧ (copyOpts rm rt o src).tags = [] ∧ (copyOpts rm rt o src).cls = none

instance (rm rt : Bool) (o : WriteOpts) (src : Row) : Decidable (CarriesNothing rm rt o src) :=
  inferInstanceAs (Decidable (_ ∧ _ ∧ _))

/-- As-is (`PutObject(…, nil, nil)`), the same conclusion holds exactly when the excluded trigger
is absent: the same-storage copy of the addressed source would carry no metadata, no tags and no
storage class. -/
theorem cross_copy_eq_same_copy_partial (ld : Bool) (q : Quirks) (c : Cfg) (ss : Stores) (s : State)
    (sb sk db dk : String) (svid : Option (Option Nat)) (rm rt : Bool) (o : WriteOpts)
    (hne : storageOf c sb ≠ storageOf c db)
    (hdi : storageOf c db < ss.length)
    (hsrc : findBucket (getS ss (storageOf c sb)) sb = findBucket s sb)
    (hdst : getS ss (storageOf c db) = s)
    (hnothing : ∀ sbk src, findBucket s sb = some sbk → resolve sbk sk svid = .ok src → CarriesNothing rm rt o src) :
    flatten (getS (rstep ⟨false, ld⟩ q c ss (.base (.copy sb sk svid db dk rm rt o))).1 (storageOf c db))
      = flatten (step q s (.copy sb sk svid db dk rm rt o)).1
    ∧ writeOutcome (rstep ⟨false, ld⟩ q c ss (.base (.copy sb sk svid db dk rm rt o))).2.out
      = writeOutcome (.base (step q s (.copy sb sk svid db dk rm rt o)).2) := by
  refine cross_copy_eq_same_copy_aux ⟨false, ld⟩ q c ss s sb sk db dk svid rm rt o hne hdi hsrc hdst ?_
  intro src hr
  obtain ⟨sbk, h1, h2⟩ := readSource_ok hr
  obtain ⟨hm, ht, hc⟩ := hnothing sbk src h1 h2
  have : copyOpts rm rt o src = { ct := if rm then o.ct else src.ct } := by
    have hct : (copyOpts rm rt o src).ct = if rm then o.ct else src.ct := rfl
    generalize copyOpts rm rt o src = w at hm ht hc hct
    cases w
    simp_all
  simp [crossOpts, this]

def xcfg : Cfg := { map := [("b0", 1)], dflt := 0 }
def xopts : WriteOpts :=
  { ct := some "text/plain", md := [("!cc", "no-cache"), ("a", "1")], tags := [("t", "v")], cls := some "STANDARD_IA" }
def xprep : List XOp :=
  [.base (.mkb "b0"), .base (.mkb "b1"), .base (.put "b0" "k0" [1, 2, 3] xopts false .none)]
def xcopy : XOp := .base (.copy "b0" "k0" none "b1" "k1" false false { cls := some "GLACIER" })

/-- Negation witness for the code as it is (DESIGN §10, directed case 0 of c24_gen.go): `b0` lives
on storage 1, `b1` on the default storage. The object `b0/k0` carries Cache-Control, user
metadata, a tag and a class; it is copied to `b1/k1` with the COPY directives and class GLACIER.
Across storages the destination has the content and content type only; the same copy inside one
storage (no bucket mapped) keeps metadata and tags and gets the requested class. -/
theorem cross_copy_drops_metadata_witness :
    observe (getS (rrun Fixes.asIs Quirks.code xcfg [{}, {}] (xprep ++ [xcopy])).1 0)
      = [("b1", [{ key := "k1", body := [1, 2, 3], ct := some "text/plain", md := [], tags := [], cls := none }])]
    ∧ observe (getS (rrun Fixes.asIs Quirks.code { map := [], dflt := 0 } [{}] (xprep ++ [xcopy])).1 0)
      = [("b0", [{ key := "k0", body := [1, 2, 3], ct := some "text/plain", md := [("!cc", "no-cache"), ("a", "1")],
                   tags := [("t", "v")], cls := some "STANDARD_IA" }]),
         ("b1", [{ key := "k1", body := [1, 2, 3], ct := some "text/plain", md := [("!cc", "no-cache"), ("a", "1")],
                   tags := [("t", "v")], cls := some "GLACIER" }])] := by
  decide

/-- … and the repaired variant produces, across storages, what the same-storage copy produces. -/
theorem cross_copy_repaired_witness :
    observe (getS (rrun Fixes.repaired Quirks.code xcfg [{}, {}] (xprep ++ [xcopy])).1 0)
      = [("b1", [{ key := "k1", body := [1, 2, 3], ct := some "text/plain", md := [("!cc", "no-cache"), ("a", "1")],
                   tags := [("t", "v")], cls := some "GLACIER" }])] := by
  decide

/-- Non-vacuity of `cross_copy_eq_same_copy_partial`: a source object without metadata, tags and
class, copied without a class, meets `CarriesNothing`. -/
example : CarriesNothing false false {}
    (mkRow 0 "k" none 0 0 { parts := [[1]], etag := singleETag [1], o := { ct := some "text/plain" } }) := by decide

/-- **cross_part_copy_eq_same_part_copy.** `UploadPartCopy` from a bucket on one storage into an
upload on another leaves the destination's storage in the state, and answers the caller, exactly
as the same-storage `UploadPartCopy` would (source version, byte range, errors included) — for the
code as it is and for the repaired variant. (States compared up to the storage's logical clock.) -/
theorem cross_part_copy_eq_same_part_copy (fx : Fixes) (q : Quirks) (c : Cfg) (ss : Stores) (s : State)
    (sb sk db dk : String) (svid : Option (Option Nat)) (uid n : Nat) (range : Option (Nat × Nat))
    (hne : storageOf c sb ≠ storageOf c db)
    (hdi : storageOf c db < ss.length)
    (hsrc : findBucket (getS ss (storageOf c sb)) sb = findBucket s sb)
    (hdst : getS ss (storageOf c db) = s) :
    flatten (getS (rstep fx q c ss (.partCopy sb sk svid db dk uid n range)).1 (storageOf c db))
      = flatten (xstep q s (.partCopy sb sk svid db dk uid n range)).1
    ∧ (rstep fx q c ss (.partCopy sb sk svid db dk uid n range)).2.out
      = (xstep q s (.partCopy sb sk svid db dk uid n range)).2 := by
  have hne' : (storageOf c sb == storageOf c db) = false := by simpa using hne
  simp only [rstep, route, hne', crossCopy, readSource_of_findBucket hsrc sk svid, hdst, xstep, Bool.false_eq_true, if_false]
  cases readSource s sb sk svid with
  | error e => exact ⟨by rw [hdst]; rfl, rfl⟩
  | ok src =>
    dsimp only
    cases sliceOf src.content range with
    | error e => exact ⟨by rw [hdst]; rfl, rfl⟩
    | ok body => exact ⟨by rw [getS_set_eq hdi], rfl⟩

/-- Non-vacuity of the hypotheses of the cross-copy theorems: the witness configuration after its
preparation meets them for the copy `b0/k0 → b1/k1` (`s` = the default storage plus the source
bucket as storage 1 holds it). -/
example :
    let ss := (rrun Fixes.repaired Quirks.code xcfg [{}, {}] xprep).1
    storageOf xcfg "b0" ≠ storageOf xcfg "b1" ∧ storageOf xcfg "b1" < ss.length ∧
    findBucket (getS ss (storageOf xcfg "b0")) "b0"
      = findBucket { getS ss 0 with buckets := (getS ss 0).buckets ++ (getS ss 1).buckets } "b0" := by
  decide

/-- **cross_conditions_eq_same.** The precondition evaluator of the cross-storage branch
(`copySourceConditionsSatisfied`) decides exactly like the one of a copy inside one storage
(`evaluateCopySourceConditions`): for every combination of If-Match / If-None-Match / If-Unmodified-Since
/ If-Modified-Since, every relation of the ETags to the source's and every distance of the two
instants from the source's Last-Modified (to the millisecond, both signs, zero included). (`rfl`:
transcribed line by line, the two Go functions give the same term up to the name of a local; that
each definition is its function is the tie's part.) -/
theorem cross_conditions_eq_same (c : CopyCond) : condOkCross c = condOkSame c := rfl

/-- What the evaluators decide, spelled out (the S3 rules): If-Match must be `*` or the source's
ETag; If-None-Match must name a different ETag; If-Unmodified-Since must not lie before the
source's Last-Modified second unless If-Match passed; If-Modified-Since must lie strictly before
it — an instant EQUAL to the Last-Modified second fails. -/
theorem copy_conditions_spec (c : CopyCond) :
    condOkSame c = true ↔
      (c.im ≠ .other) ∧ (c.inm = .none ∨ c.inm = .other) ∧
      (∀ d, c.ius = some d → 0 ≤ d ∨ c.im = .star ∨ c.im = .same) ∧
      (∀ d, c.ims = some d → d < 0) := by
  unfold condOkSame
  exact (guards_pass _ _ _ _).trans (and_congr (ifMatch_guard c.im) (and_congr (ifNoneMatch_guard c.inm)
    (and_congr (ifUnmodified_guard c.im c.ius) (ifModified_guard c.ims))))

/-- The boundary instants: If-Modified-Since one millisecond before / equal to / after the
source's Last-Modified second; If-Unmodified-Since likewise (without and with a passing If-Match). -/
example : condOkCross { ims := some (-1) } = true ∧ condOkCross { ims := some 0 } = false ∧
    condOkCross { ims := some 1 } = false ∧ condOkCross { ius := some (-1) } = false ∧
    condOkCross { ius := some 0 } = true ∧ condOkCross { ius := some 1 } = true ∧
    condOkCross { ius := some (-1), im := .same } = true ∧ condOkCross { ius := some (-1), im := .other } = false := by
  decide

/-- **route_isolation_if.** Preconditions do not widen what a copy touches. -/
theorem route_isolation_if (fx : Fixes) (q : Quirks) (c : Cfg) (ss : Stores) (cond : CopyCond) (op : XOp) (j : Nat)
    (h : j ∉ targets c op) : (rstepIf fx q c ss cond op).1[j]? = ss[j]? := by
  unfold rstepIf
  split
  · next sb db _ sk svid hr hc =>
    dsimp only
    split
    · have hj : j ≠ storageOf c db := by simpa [targets, hr] using h
      simp [List.getElem?_set_ne (Ne.symm hj)]
    · split
      · exact route_isolation fx q c ss op j h
      · split
        · exact route_isolation fx q c ss op j h
        · rfl
  · exact route_isolation fx q c ss op j h

/-- **cross_copy_if_eq_same_copy_if.** `cross_copy_eq_same_copy` with copy-source preconditions:
a conditional CopyObject across storages leaves the destination's storage in the state, and gives
the caller the outcome (PreconditionFailed included), of the conditional copy inside one storage —
for every precondition set. -/
theorem cross_copy_if_eq_same_copy_if (ld : Bool) (q : Quirks) (c : Cfg) (ss : Stores) (s : State) (cond : CopyCond)
    (sb sk db dk : String) (svid : Option (Option Nat)) (rm rt : Bool) (o : WriteOpts)
    (hne : storageOf c sb ≠ storageOf c db)
    (hdi : storageOf c db < ss.length)
    (hsrc : findBucket (getS ss (storageOf c sb)) sb = findBucket s sb)
    (hdst : getS ss (storageOf c db) = s) :
    flatten (getS (rstepIf ⟨true, ld⟩ q c ss cond (.base (.copy sb sk svid db dk rm rt o))).1 (storageOf c db))
      = flatten (xstepIf q s cond (.base (.copy sb sk svid db dk rm rt o))).1
    ∧ writeOutcome (rstepIf ⟨true, ld⟩ q c ss cond (.base (.copy sb sk svid db dk rm rt o))).2.out
      = writeOutcome (xstepIf q s cond (.base (.copy sb sk svid db dk rm rt o))).2 := by
  have hbase := cross_copy_eq_same_copy ld q c ss s sb sk db dk svid rm rt o hne hdi hsrc hdst
  have hne' : (storageOf c sb == storageOf c db) = false := by simpa using hne
  have hrs := readSource_of_findBucket hsrc sk svid
  simp only [rstepIf, xstepIf, route, routeBase, copySource, hne', Bool.false_eq_true, if_false, hrs, xstep]
  cases readSource s sb sk svid with
  | error e => exact hbase
  | ok src =>
    dsimp only
    rw [cross_conditions_eq_same]
    cases condOkSame cond with
    | true => simpa using hbase
    | false => simp [hdst, flatten, tick, writeOutcome]

/-- **cross_part_copy_if_eq_same_part_copy_if.** Likewise for UploadPartCopy (as-is and repaired). -/
theorem cross_part_copy_if_eq_same_part_copy_if (fx : Fixes) (q : Quirks) (c : Cfg) (ss : Stores) (s : State)
    (cond : CopyCond) (sb sk db dk : String) (svid : Option (Option Nat)) (uid n : Nat) (range : Option (Nat × Nat))
    (hne : storageOf c sb ≠ storageOf c db)
    (hdi : storageOf c db < ss.length)
    (hsrc : findBucket (getS ss (storageOf c sb)) sb = findBucket s sb)
    (hdst : getS ss (storageOf c db) = s) :
    flatten (getS (rstepIf fx q c ss cond (.partCopy sb sk svid db dk uid n range)).1 (storageOf c db))
      = flatten (xstepIf q s cond (.partCopy sb sk svid db dk uid n range)).1
    ∧ (rstepIf fx q c ss cond (.partCopy sb sk svid db dk uid n range)).2.out
      = (xstepIf q s cond (.partCopy sb sk svid db dk uid n range)).2 := by
  have hbase := cross_part_copy_eq_same_part_copy fx q c ss s sb sk db dk svid uid n range hne hdi hsrc hdst
  have hne' : (storageOf c sb == storageOf c db) = false := by simpa using hne
  have hrs := readSource_of_findBucket hsrc sk svid
  simp only [rstepIf, xstepIf, route, copySource, hne', Bool.false_eq_true, if_false, hrs]
  cases hr : readSource s sb sk svid with
  | error e => exact hbase
  | ok src =>
    dsimp only
    rw [cross_conditions_eq_same]
    cases condOkSame cond with
    | true => simpa using hbase
    | false => simp [hdst, flatten, tick]

/-- `route_isolation` is about something: a put into `b4` (default storage 0) does not target
storage 1, a cross-storage copy `b0 → b4` targets storage 0 only, `ListBuckets` targets none. -/
example : 1 ∉ targets wcfg (.base (.put "b4" "k" [] {} false .none)) ∧
    targets wcfg (.base (.copy "b0" "k" none "b4" "k" false false {})) = [0] ∧
    sources wcfg (.base (.copy "b0" "k" none "b4" "k" false false {})) = [1, 0] ∧
    targets wcfg (.base .listBuckets) = [] := by decide

/-- The hypotheses of `list_buckets_union_nodup_partial` are met by a configuration in which
every storage is listed once, after buckets were created through the middleware. -/
example :
    let c : Cfg := { map := [("b0", 1)], dflt := 0 }
    let ss := (rrun Fixes.asIs Quirks.code c [{}, {}] [.base (.mkb "b0"), .base (.mkb "b1"), .base (.mkb "b2")]).1
    (listSources c).Nodup ∧ (∀ i ∈ listSources c, (bucketNames (getS ss i)).Nodup) ∧
    (∀ i ∈ listSources c, ∀ j ∈ listSources c, i ≠ j → ∀ n ∈ bucketNames (getS ss i), n ∉ bucketNames (getS ss j)) ∧
    listBuckets Fixes.asIs c ss = ["b0", "b1", "b2"] := by
  decide

end Pithos.C24
