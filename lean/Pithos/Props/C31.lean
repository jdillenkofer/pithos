/-
C31 — no request takes effect without the authorizer's permission.

Three kinds of theorem.

(1) Over the route table regenerated from /repo on every run (`Pithos.Gen.Routes.routes`): the
quantifier "every registered route, every storage call reachable from its handler" ranges over a
finite generated table, so `decide` is a proof — about the table. That the table is what the code
does is the tie (T1 extractor + T2 differential run, see design/C31.md).

(2) Over the per-item filter loops (`Pithos.AuthzModel.filterLoop`, `deleteObjects`): for every
`allow` function, every page sequence and every entry list, by induction; what each loop computes,
from any accumulator, is in `Lemmas/Authz.lean`.

(3) Over every valuation of the routers' discriminators, hence every request: `one_branch_taken`,
from one check over the table (`routers_are_trees`) through `Lemmas/DecisionTree.lean`.
-/
import Pithos.Spec.Authz
import Pithos.Lemmas.DecisionTree
import Pithos.Lemmas.Authz

namespace Pithos.C31
open Pithos.Gen.Routes Pithos.Authz Pithos.AuthzModel

/-- The call is dominated by one of the route's authorize calls, every operation name that call may
carry covers the storage method, and it was asked about exactly the bucket, key and copy source the
storage call acts on. -/
def callOk (r : Route) (c : StorageCall) : Bool :=
  match c.auth with
  | none => false
  | some i =>
    match r.auth[i]? with
    | none => false
    | some a =>
      !a.ops.isEmpty && a.ops.all (fun alt => covers alt.op c.method) &&
      a.bucket == c.bucket && a.key == c.key && a.srcBucket == c.srcBucket && a.srcKey == c.srcKey

/-- The one call site excluded below: the website endpoints read the configured error document. -/
def isErrorDocumentRead (c : StorageCall) : Bool := c.key == .websiteErrorDoc

/-- **api_calls_authorized.** On the S3 API mux EVERY storage call of every handler — not only the
effectful ones — comes after a successful authorize call of the same handler, under an operation
name that covers it, for the same bucket/key/copy source. (Full strength for the API endpoints.) -/
theorem api_calls_authorized :
    ∀ r ∈ routes, r.mux = .api → ∀ c ∈ r.calls, callOk r c = true := by decide +kernel

/-- Does the tree under check contain the repair `fixes/C31-website-error-document-authz.patch`
(the website endpoints ask the authorizer about the error document before reading it)?
`true` as of /repo 57b7ba3: the theorem below then IS the full statement. -/
def errorDocumentRepaired : Bool := true

/-- The full statement: on every mux, every storage call that reads object data or changes state
comes after a successful authorize call under a covering operation name, for the same bucket, key
and copy source. -/
def EffectsAuthorized : Prop :=
  ∀ r ∈ routes, ∀ c ∈ r.calls, effectful c.method = true → callOk r c = true

/-- What holds on the tree before 57b7ba3: the same with the error-document read excluded … -/
def EffectsAuthorizedPartial : Prop :=
  ∀ r ∈ routes, ∀ c ∈ r.calls, effectful c.method = true → isErrorDocumentRead c = false →
    callOk r c = true

/-- … together with the negation witness: a website route reads object data (`GetObject` of the
error document) for a key the authorizer was never asked about. -/
def ErrorDocumentReadNotAuthorized : Prop :=
  ∃ r ∈ routes, ∃ c ∈ r.calls, readsObjectData c.method = true ∧ isErrorDocumentRead c = true ∧
    callOk r c = false

instance : Decidable EffectsAuthorized := by unfold EffectsAuthorized; infer_instance
instance : Decidable EffectsAuthorizedPartial := by unfold EffectsAuthorizedPartial; infer_instance
instance : Decidable ErrorDocumentReadNotAuthorized := by unfold ErrorDocumentReadNotAuthorized; infer_instance

/-- **effects_authorized.** Repaired tree (the current one): the full statement. Unrepaired tree:
the `_partial` statement and the witness that the full one fails exactly at the error-document read. -/
theorem effects_authorized :
    if errorDocumentRepaired then EffectsAuthorized
    else EffectsAuthorizedPartial ∧ ErrorDocumentReadNotAuthorized := by decide +kernel

/-- Non-vacuity of `EffectsAuthorizedPartial`: the table has effectful calls that are not the
excluded one, on both muxes (mutations on the API mux, the object read on the website mux). -/
example : (∃ r ∈ routes, r.mux = .api ∧ ∃ c ∈ r.calls, mutating c.method = true ∧ isErrorDocumentRead c = false) ∧
    (∃ r ∈ routes, r.mux = .website ∧ ∃ c ∈ r.calls, readsObjectData c.method = true ∧ isErrorDocumentRead c = false) := by
  decide +kernel

/-- **pre_authorization_calls_are_configuration_reads.** The only storage calls reachable before a
handler's authorize call has succeeded are reads of the bucket's website configuration; together
with the request middlewares (CORS rule lookup) and the authorizer's own lazy tag resolvers, none of
them reads object data or changes state. -/
theorem pre_authorization_calls_are_configuration_reads :
    (∀ r ∈ routes, ∀ c ∈ r.calls, c.auth = none → c.method = .GetBucketWebsiteConfiguration) ∧
    (∀ m ∈ middlewareCalls, ∀ c ∈ m.2.2, effectful c = false) ∧
    (∀ c ∈ authorizerSideCalls, effectful c = false) := by decide +kernel

/-- **readOnly_ops_do_not_mutate.** A route whose authorize call can carry an operation the Lua
authorizer reports as read-only reaches no mutating storage method. -/
theorem readOnly_ops_do_not_mutate :
    ∀ r ∈ routes, ∀ a ∈ r.auth, ∀ alt ∈ a.ops, isReadOnly alt.op = true →
      ∀ c ∈ r.calls, mutating c.method = false := by decide +kernel

theorem readOnly_list_covers_no_mutation :
    ∀ op ∈ luaReadOnlyTrue, ∀ m ∈ SM.all, covers op m = true → mutating m = false := by decide +kernel

/-- …and, independently of the routes, no read-only operation can even *cover* a mutating method. -/
theorem readOnly_covers_no_mutation :
    ∀ op ∈ Op.all, ∀ m ∈ SM.all, isReadOnly op = true → covers op m = true → mutating m = false :=
  -- only the operations of the Lua switch's `true` case have anything to show
  fun op _ m hm hro => readOnly_list_covers_no_mutation op (List.contains_iff_mem.1 hro) m hm

/-- `Op.all` / `SM.all` really are all constructors (so the previous statement is about every
operation and every method). -/
theorem op_all_complete : ∀ op : Op, op ∈ Op.all := by intro op; cases op <;> decide +kernel
theorem sm_all_complete : ∀ m : SM, m ∈ SM.all := by intro m; cases m <;> decide +kernel

/-- The two case lists of the Lua `isReadOnly` switch do not overlap, and every operation it calls
read-only is one that some route can be authorized under. -/
theorem lua_readonly_lists_consistent :
    (∀ op ∈ luaReadOnlyTrue, op ∉ luaReadOnlyFalse) ∧
    (∀ op ∈ luaReadOnlyTrue, ∃ r ∈ routes, ∃ a ∈ r.auth, ∃ alt ∈ a.ops, alt.op = op) := by decide +kernel

/-- **unauthorized_routes_are_inert.** A route without an authorize call reaches no storage method
and only writes a fixed status. -/
theorem unauthorized_routes_are_inert :
    ∀ r ∈ routes, r.auth = [] → r.calls = [] ∧ r.status.isSome = true := by decide +kernel

/-- **version_operations_keyed_on_versionId.** An operation alternative is conditional only on the
`versionId` query parameter, the conditional alternative is a `…Version…` operation and the
unconditional one is not. -/
theorem version_operations_keyed_on_versionId :
    ∀ r ∈ routes, ∀ a ∈ r.auth, ∀ alt ∈ a.ops,
      (alt.ifQuery = none ∧ versionOp alt.op = false) ∨
      (alt.ifQuery = some "versionId" ∧ versionOp alt.op = true) := by decide +kernel

/-! ### Totality of the routers

Every router is an ordered `if` chain; the path condition of a branch is the list of
(discriminator, polarity) pairs in `Route.guards`. For every valuation of the discriminators
exactly one branch of a (mux, method, pattern) group is taken: `one_branch_taken`, for any
`ev : Cond → Bool`, so for `evalCond req` of any request. The guard lists of a router are the
root-to-leaf paths of a binary decision tree, which `isTree` checks over the table, and exactly one
path of a tree holds under any valuation (`isTree_sound`; both in `Lemmas/DecisionTree.lean`).

`atomsOf`, `evalAtoms`, `groupAtoms`, `valuations` and `matching` serve only to state the enumerated
form `routers_total_and_unambiguous`: there a condition is evaluated through the atoms it is built
from (`evalAtoms ρ`, with `ρ` the set of true atoms), and the valuations are all subsets of the
atoms a router tests. It is the case `ev := evalAtoms ρ` of `one_branch_taken`. -/

def atomsOf : Cond → List String
  | .has q => ["has:" ++ q]
  | .hdr h => ["hdr:" ++ h]
  | .qeq q v => ["qeq:" ++ q ++ "=" ++ v]
  | .or a b => atomsOf a ++ atomsOf b

def evalAtoms (ρ : String → Bool) : Cond → Bool
  | .has q => ρ ("has:" ++ q)
  | .hdr h => ρ ("hdr:" ++ h)
  | .qeq q v => ρ ("qeq:" ++ q ++ "=" ++ v)
  | .or a b => evalAtoms ρ a || evalAtoms ρ b

def groupKeys : List (Mux × String × String) :=
  (routes.map (fun r => (r.mux, r.method, r.pattern))).eraseDups

def groupOf (k : Mux × String × String) : List Route :=
  routes.filter (fun r => r.mux == k.1 && r.method == k.2.1 && r.pattern == k.2.2)

def groupAtoms (g : List Route) : List String :=
  (g.flatMap (fun r => r.guards.flatMap (fun c => atomsOf c.1))).eraseDups

/-- all valuations of a list of atoms, as "the set of true atoms" -/
def valuations : List String → List (List String)
  | [] => [[]]
  | a :: as => (valuations as).flatMap (fun v => [v, a :: v])

def matching (g : List Route) (trueAtoms : List String) : Nat :=
  (g.filter (fun r => r.guards.all (fun c => evalAtoms (fun a => trueAtoms.contains a) c.1 == c.2))).length

deriving instance DecidableEq for Cond

/-- The guard lists of every router are the paths of a decision tree (a tree with `l` leaves is no
deeper than `l`). -/
theorem routers_are_trees :
    ∀ k ∈ groupKeys, DecisionTree.isTree (groupOf k).length ((groupOf k).map (·.guards)) = true := by
  decide +kernel

/-- Whatever the discriminators evaluate to — `evalCond req` for a request, `evalAtoms ρ` for a
valuation of the atoms — exactly one branch of a router is taken. -/
theorem one_branch_taken (k : Mux × String × String) (hk : k ∈ groupKeys) (ev : Cond → Bool) :
    ((groupOf k).filter fun r => DecisionTree.holds ev r.guards).length = 1 := by
  rw [← DecisionTree.isTree_sound ev _ _ (routers_are_trees k hk), List.filter_map, List.length_map]; rfl

/-- **routers_total_and_unambiguous.** For every registered (mux, method, pattern) and every
valuation of the query/header discriminators its routers test, exactly one branch matches: no
method/query combination falls through a router, none is claimed by two handlers. -/
theorem routers_total_and_unambiguous :
    ∀ k ∈ groupKeys, ∀ v ∈ valuations (groupAtoms (groupOf k)), matching (groupOf k) v = 1 :=
  fun k hk v _ => one_branch_taken k hk (evalAtoms fun a => v.contains a)

/-- Non-vacuity: the largest router distinguishes 8 discriminators (256 valuations). -/
example : (groupKeys.map (fun k => (groupAtoms (groupOf k)).length)).foldl max 0 = 8 := by decide +kernel

/-- Does the tree under check contain the repair `fixes/C31-list-object-versions-item-hook.patch`
(`GET ?versions` filters keys and common prefixes through the listObject hook)? `true` as of /repo
9840f80. -/
def versionsHookRepaired : Bool := true

/-- The full statement: every route that lists buckets, objects, object versions, multipart uploads
or parts, or bulk-deletes, consults the per-item hook responsible for what it returns. -/
def ListingsConsultHooks : Prop :=
  ∀ r ∈ routes, ∀ c ∈ r.calls, ∀ h, itemHookOf c.method = some h → h ∈ r.itemHooks

def ListingsConsultHooksPartial : Prop :=
  ∀ r ∈ routes, ∀ c ∈ r.calls, c.method ≠ .ListObjectVersions →
    ∀ h, itemHookOf c.method = some h → h ∈ r.itemHooks

/-- Negation witness: the `?versions` listing returns object keys without consulting any per-item hook. -/
def ListObjectVersionsConsultsNoHook : Prop :=
  ∃ r ∈ routes, (∃ c ∈ r.calls, c.method = .ListObjectVersions) ∧ r.itemHooks = []

instance : Decidable ListingsConsultHooks := by unfold ListingsConsultHooks; infer_instance
instance : Decidable ListingsConsultHooksPartial := by unfold ListingsConsultHooksPartial; infer_instance
instance : Decidable ListObjectVersionsConsultsNoHook := by unfold ListObjectVersionsConsultsNoHook; infer_instance

/-- **listings_consult_their_hook.** Repaired tree (the current one): the full statement. Unrepaired
tree: everything but `ListObjectVersions`, and the witness for `ListObjectVersions`. -/
theorem listings_consult_their_hook :
    if versionsHookRepaired then ListingsConsultHooks
    else ListingsConsultHooksPartial ∧ ListObjectVersionsConsultsNoHook := by decide +kernel

section Loops
variable {α : Type}

/-- **listed_entries_exactly_the_allowed_ones.** For every `allow`, every positive limit and every
sequence of storage pages: the entries the filtered listing returns are exactly the allowed entries
of the scanned pages, in their order, cut at the limit — no denied entry, no allowed entry missing
before the cut. -/
theorem listed_entries_exactly_the_allowed_ones [BEq α] (allow : α → Bool) (max : Nat) (hmax : 0 < max)
    (pages : List (Page α)) :
    (filterLoop allow max pages ([], [])).1 = ((pages.flatMap (·.objects)).filter allow).take max := by
  simpa using filterLoop_objects_aux allow max pages [] [] (by simpa using hmax)

/-- **listed_prefixes_all_allowed.** No denied common prefix is ever returned. -/
theorem listed_prefixes_all_allowed [BEq α] (allow : α → Bool) (max : Nat) (pages : List (Page α))
    (objs prefs : List α) (hp : ∀ p ∈ prefs, allow p = true) :
    ∀ p ∈ (filterLoop allow max pages (objs, prefs)).2, allow p = true := by
  induction pages generalizing objs prefs with
  | nil => simpa [filterLoop] using hp
  | cons pg ps ih =>
    simp only [filterLoop]
    rcases collectObjects allow max objs pg.objects with ⟨objs', full⟩
    cases full with
    | true => simpa using hp
    | false => exact ih objs' _ (collectPrefixes_allowed allow prefs pg.prefixes hp)

/-- **delete_entries_exactly_the_allowed_ones.** For every entry list, validity predicate and hook:
storage is asked to delete exactly the valid entries the hook allowed, in request order; exactly the
valid entries it denied are reported back as denied; the rest are the invalid ones. -/
theorem delete_entries_exactly_the_allowed_ones (valid allow : α → Bool) (es : List α) :
    deleteObjects valid allow es =
      (es.filter (fun e => !valid e),
       es.filter (fun e => valid e && !allow e),
       es.filter (fun e => valid e && allow e)) := by
  simp [deleteObjects, validEntries_eq_filter, authorizeEntries_eq_filter, List.filter_filter, Bool.and_comm]

/-- …hence every entry meets exactly one fate, and a denied entry never reaches storage. -/
theorem denied_entry_never_deleted (valid allow : α → Bool) (es : List α) (e : α)
    (hd : allow e = false) : e ∉ (deleteObjects valid allow es).2.2 := by
  rw [delete_entries_exactly_the_allowed_ones]
  simp [hd]

end Loops

/-- Non-vacuity of the loop theorems on a concrete two-page listing with a denied key in each page,
a limit reached inside the second page, and a repeated common prefix. -/
example :
    filterLoop (fun k => k != "b" && k != "d/") 3
      [⟨["a", "b", "c"], ["d/", "e/"]⟩, ⟨["f", "g", "h"], ["e/", "i/"]⟩] ([], []) =
      (["a", "c", "f"], ["e/"]) ∧
    deleteObjects (fun k => k != "") (fun k => k != "b") ["a", "", "b", "c"] = ([""], ["b"], ["a", "c"]) := by
  decide +kernel

end Pithos.C31
