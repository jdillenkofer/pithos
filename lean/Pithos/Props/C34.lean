/-
C34 — CORS headers are granted only by a matching rule.

Property theorems over the middleware model `Pithos.Cors.respond` and the spec predicate
`Pithos.Cors.Spec.allowed`, for arbitrary rule lists (any number of rules, any patterns — also
patterns the PUT-time validation would reject) and arbitrary requests. What the matcher computes
and what `respond` does without a matching rule (`respond_of_not_allowed`, on which the theorems
about grants rest) is proved in `Pithos.Lemmas.Cors`.
-/
import Pithos.Lemmas.Cors

namespace Pithos.C34
open Pithos.Ascii Pithos.Cors Pithos.Cors.Spec

/-- **wildcardMatch, patterns with at most one star** (what S3 documents and PUT accepts): the
pattern matches exactly the values obtained by replacing the star with an arbitrary string; a
star-free pattern matches only itself. Matching is case-sensitive here — the callers lower-case
both sides (origins, header names) first. -/
theorem wildcardMatch_one_star (p v : List Char) (h1 : p.count '*' ≤ 1) :
    wildcardMatch p v = true ↔
      ('*' ∉ p ∧ v = p) ∨ (∃ pre suf m, p = pre ++ '*' :: suf ∧ v = pre ++ m ++ suf) := by
  rw [wildcardMatch_iff]
  constructor
  · rintro (h | ⟨pre, suf, m, hp, _, hv⟩)
    · exact Or.inl h
    · exact Or.inr ⟨pre, suf, m, hp, hv⟩
  · rintro (h | ⟨pre, suf, m, hp, hv⟩)
    · exact Or.inl h
    · exact Or.inr ⟨pre, suf, m, hp, (star_once hp h1).1, hv⟩

/-- **wildcardMatch, any pattern**: only the FIRST star is a wildcard; what follows it — further
stars included — is a literal suffix. -/
theorem wildcardMatch_any (p v : List Char) :
    wildcardMatch p v = true ↔
      ('*' ∉ p ∧ v = p) ∨
      (∃ pre suf m, p = pre ++ '*' :: suf ∧ '*' ∉ pre ∧ v = pre ++ m ++ suf) :=
  wildcardMatch_iff p v

/-- The code's matcher never accepts more than the documented reading "each star = any sequence",
and coincides with it on patterns with at most one star. -/
theorem wildcardMatch_sound (p v : List Char) (h : wildcardMatch p v = true) : glob p v = true :=
  glob_of_wildcardMatch p v h

theorem wildcardMatch_exact_one_star (p v : List Char) (h1 : p.count '*' ≤ 1) :
    wildcardMatch p v = glob p v := by
  refine Bool.eq_iff_iff.2 ⟨glob_of_wildcardMatch p v, fun hg => ?_⟩
  by_cases hm : '*' ∈ p
  · obtain ⟨pre, suf, rfl, hnp⟩ := List.eq_append_cons_of_mem hm
    obtain ⟨w, rfl, hg'⟩ := (glob_lit_prefix _ v hnp).1 hg
    obtain ⟨k, _, hk⟩ := (glob_star_iff suf w).1 hg'
    -- the text after the only star is literal, so `w` ends in it
    have hd := (glob_lit suf _ (star_once rfl h1).2).1 hk
    exact (wildcardMatch_star suf _ hnp).2 ⟨w.take k, by rw [List.append_assoc, ← hd, List.take_append_drop]⟩
  · exact (wildcardMatch_lit v hm).2 ((glob_lit p v hm).1 hg)

/-- With two stars the code is stricter than the glob reading (such patterns are rejected at
PUT time): the second star is literal. -/
theorem two_stars_second_is_literal :
    wildcardMatch "a*b*c".toList "axbyc".toList = false ∧ glob "a*b*c".toList "axbyc".toList = true ∧
    wildcardMatch "a*b*c".toList "axb*c".toList = true := by
  -- a literal is `String.ofList` of its characters: read `toList` off that (decoding UTF-8 in the
  -- kernel costs far more than the matching)
  repeat rw [String.toList_ofList]
  decide +kernel

/-- **allow_origin_only_if_rule_matches.** If the middleware puts `Access-Control-Allow-Origin` on
the response — on an actual request or on a preflight — then the bucket's configuration has a rule
matching the request's origin, method and (preflight) requested headers. -/
theorem allow_origin_only_if_rule_matches (rules : List Rule) (req : Request)
    (h : (respond rules req).allowOrigin.isSome = true) : allowed rules req = true := by
  cases ha : allowed rules req with
  | true => rfl
  | false =>
    obtain ⟨vary, e⟩ := respond_of_not_allowed rules req ha
    rw [e] at h
    split at h <;> cases h

/-- **preflight_succeeds_only_if_rule_matches.** The middleware answers 200 only under a
matching rule. -/
theorem preflight_succeeds_only_if_rule_matches (rules : List Rule) (req : Request)
    (h : (respond rules req).status = some 200) : allowed rules req = true := by
  cases ha : allowed rules req with
  | true => rfl
  | false =>
    obtain ⟨vary, e⟩ := respond_of_not_allowed rules req ha
    rw [e] at h
    split at h <;> cases h

/-- **preflight_rejected_without_rule.** A preflight (OPTIONS with an Origin and an
Access-Control-Request-Method) for which no rule matches is answered 403 by the middleware itself:
no `Access-Control-Allow-*` header, and the wrapped handler does not run. -/
theorem preflight_rejected_without_rule (rules : List Rule) (req : Request)
    (hc : isCors req = true) (hp : isPreflight req = true) (h : allowed rules req = false) :
    (respond rules req).status = some 403 ∧ (respond rules req).next = false ∧
    (respond rules req).allowOrigin = none ∧ (respond rules req).allowMethods = none ∧
    (respond rules req).allowHeaders = none ∧ (respond rules req).maxAge = none := by
  obtain ⟨vary, e⟩ := respond_of_not_allowed rules req h
  simp [e, hc, hp]

/-- **non_cors_unaffected.** A request without an `Origin` (absent, empty or blank) is handed to
the wrapped handler and the middleware adds nothing: no status, no `Access-Control-*`, no `Vary`. -/
theorem non_cors_unaffected (rules : List Rule) (req : Request) (h : isCors req = false) :
    respond rules req = { next := true } := by
  have ho : (trimSpace req.origin).isEmpty = true := by simpa [isCors] using h
  simp [respond, ho]

/-- An actual (non-preflight) CORS request always reaches the wrapped handler (bare, when no rule
matches: `respond_of_not_allowed`). -/
theorem actual_request_always_served (rules : List Rule) (req : Request)
    (hp : isPreflight req = false) : (respond rules req).next = true := by
  rw [respond_next, hp, Bool.and_false]; rfl

def ruleA : Rule :=
  { origins := ["https://*.example.com".toList], methods := ["GET".toList, "PUT".toList],
    headers := ["x-amz-*".toList, "content-type".toList], expose := ["ETag".toList], maxAge := some 600 }

/-- A wildcard origin + wildcard header rule grants a matching preflight, refuses one asking for
a header outside the rule, and grants the actual request. -/
example :
    let pre : Request := { method := "OPTIONS".toList, origin := "https://App.Example.com".toList,
                           acrm := "put".toList, acrh := "X-Amz-Date, Content-Type".toList }
    (respond [ruleA] pre).status = some 200 ∧
    (respond [ruleA] pre).allowOrigin = some "https://App.Example.com".toList ∧
    allowed [ruleA] pre = true ∧
    (respond [ruleA] { pre with acrh := "x-amz-date, authorization".toList }).status = some 403 ∧
    allowed [ruleA] { pre with acrh := "x-amz-date, authorization".toList } = false ∧
    (respond [ruleA] { pre with method := "GET".toList, acrm := [] }).allowOrigin.isSome = true ∧
    (respond [ruleA] { pre with origin := "https://example.org".toList }).status = some 403 := by
  dsimp only [ruleA]
  repeat rw [String.toList_ofList]
  decide +kernel

end Pithos.C34
