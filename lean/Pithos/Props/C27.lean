/-
C27 — audit log tampering is always detected.

Model: `Pithos.Model.AuditLog`, instantiated with the tables regenerated from /repo by the T1
extractor `auditlog` in `Pithos.Model.AuditLogCode`; helper lemmas: `Pithos.Lemmas.AuditLog` (the
encoding, what an accepting run establishes, the abstract chain) and `Pithos.Lemmas.AuditChain`
(`CollisionFree`, the side conditions `ChainTables` on a hash table, `Sealed` entries and `Genuine`
logs with the hub `Genuine.pos_unique`, fields the validator does not see).
All chain theorems quantify over every log, every position and every block size; the hash is an
arbitrary function with the explicit hypothesis `CollisionFree`, signatures are arbitrary functions.
-/
import Pithos.Model.AuditLogCode
import Pithos.Lemmas.AuditChain
namespace Pithos.C27
open Pithos.AuditLog Pithos.AuditLog.Code

/-- **Only prefixes verify (the tamper-evidence theorem).** Let `L` be a log the validator accepts
and `L'` any other accepted log whose entry hashes all occur in `L` (`pool`: the tamperer re-uses,
drops, repeats or reorders entries; with a configured verifier this follows from unforgeability,
see `pool_of_signatures`). Then `L'` agrees with `L` position by position — in the stored hash and in
every hashed field: `L'` is `L` with a suffix cut off. No bound on the logs. -/
theorem only_prefixes_verify {T : Tables} (ct : ChainTables T) {C : Crypto} (cf : CollisionFree C.H)
    (bs : Nat) (L L' : List Rec)
    (wfL : ∀ e ∈ L, wfH T e = true) (wfL' : ∀ e ∈ L', wfH T e = true)
    (hL : accepts T C bs L = true) (hL' : accepts T C bs L' = true)
    (pool : ∀ e' ∈ L', ∃ e ∈ L, hashOf e' = hashOf e) :
    ∀ (k : Nat) (e' : Rec), L'[k]? = some e' →
      ∃ e, L[k]? = some e ∧ hashOf e' = hashOf e ∧ ∀ f ∈ hashedNames T e', get e' f = get e f := by
  have G := Genuine.of_accepts wfL hL
  have G' := Genuine.of_accepts wfL' hL'
  intro k e' he'
  have hm := List.mem_of_getElem? he'
  obtain ⟨e, heL, heq⟩ := pool e' hm
  obtain ⟨j, hj⟩ := List.getElem?_of_mem heL
  obtain rfl := G.pos_unique ct cf G' hj he' heq.symm
  exact ⟨e, hj, heq, (G'.sealed e' hm).agree ct.ok cf (G.sealed e heL) heq⟩

/-- With a configured Ed25519 verifier the `pool` hypothesis is what unforgeability gives: if the only
hashes for which the tamperer can present a verifying signature are those the writer signed as
entries of `L`, every entry of an accepted `L'` carries a hash of `L`. -/
theorem pool_of_signatures {T : Tables} {C : Crypto} {bs : Nat} {L L' : List Rec}
    (v : Bytes → Bytes → Bool) (hv : C.vEd = some v)
    (unforgeable : ∀ e' ∈ L', v (hashOf e') (sigOf e') = true → ∃ e ∈ L, hashOf e' = hashOf e)
    (hL' : accepts T C bs L' = true) :
    ∀ e' ∈ L', ∃ e ∈ L, hashOf e' = hashOf e := by
  obtain ⟨_, _, hs⟩ := accepts_facts hL'
  intro e' he'
  have := hs e' he'
  rw [hv] at this
  exact unforgeable e' he' (by simpa [sigOk] using this)

theorem accepted_hashes_distinct {T : Tables} (ct : ChainTables T) {C : Crypto} (cf : CollisionFree C.H)
    (bs : Nat) (L : List Rec) (wfL : ∀ e ∈ L, wfH T e = true) (hL : accepts T C bs L = true) :
    ∀ (i j : Nat) (a b : Rec), i < j → L[i]? = some a → L[j]? = some b → hashOf a ≠ hashOf b :=
  fun _ _ _ _ hij ha hb heq =>
    have G := Genuine.of_accepts wfL hL
    Nat.ne_of_lt hij (G.pos_unique ct cf G ha hb heq)

/-- **Deletion is detected**: removing an entry that is not the last one makes the validator reject. -/
theorem delete_detected {T : Tables} (ct : ChainTables T) {C : Crypto} (cf : CollisionFree C.H)
    (bs : Nat) (L : List Rec) (wfL : ∀ e ∈ L, wfH T e = true) (hL : accepts T C bs L = true)
    (i : Nat) (hi : i + 1 < L.length) : accepts T C bs (L.eraseIdx i) = false := by
  apply Bool.eq_false_iff.2
  intro hacc
  have hk : (L.eraseIdx i)[i]? = some L[i+1] := by
    rw [List.getElem?_eraseIdx]; simp [List.getElem?_eq_getElem hi]
  exact Nat.succ_ne_self i ((Genuine.of_accepts wfL hL).pos_unique ct cf
    (Genuine.of_accepts (fun e he => wfL e (List.mem_of_mem_eraseIdx he)) hacc) (List.getElem?_eq_getElem hi) hk rfl)

/-- **Insertion and duplication are detected**: inserting, anywhere, an entry whose hash already
occurs in the log (a copy of any entry — adjacent or distant) makes the validator reject. -/
theorem insert_copy_detected {T : Tables} (ct : ChainTables T) {C : Crypto} (cf : CollisionFree C.H)
    (bs : Nat) (L : List Rec) (wfL : ∀ e ∈ L, wfH T e = true) (hL : accepts T C bs L = true)
    (i : Nat) (hi : i ≤ L.length) (x : Rec) (wx : wfH T x = true) (hx : ∃ e ∈ L, hashOf x = hashOf e) :
    accepts T C bs (L.insertIdx i x) = false := by
  apply Bool.eq_false_iff.2
  intro hacc
  have hmem : ∀ e ∈ L.insertIdx i x, e = x ∨ e ∈ L := fun e he => (List.mem_insertIdx hi).1 he
  have hlen : (L.insertIdx i x).length = L.length + 1 := List.length_insertIdx_of_le_length hi x
  have hlast : (L.insertIdx i x)[L.length]? = some (L.insertIdx i x)[L.length] :=
    List.getElem?_eq_getElem (by omega)
  obtain ⟨e, he, _⟩ := only_prefixes_verify ct cf bs L (L.insertIdx i x) wfL
    (fun e he => by rcases hmem e he with rfl | h; exact wx; exact wfL e h) hL hacc
    (fun e he => by rcases hmem e he with rfl | h; exact hx; exact ⟨e, h, rfl⟩) L.length _ hlast
  rw [List.getElem?_eq_none (Nat.le_refl _)] at he
  cases he

/-- **A foreign entry inserted before the end is detected** even without signatures: the entry after
it still points to its old predecessor. -/
theorem insert_foreign_detected {T : Tables} {C : Crypto}
    (bs : Nat) (L : List Rec) (hL : accepts T C bs L = true)
    (i : Nat) (hi : i < L.length) (x : Rec) (hx : ∀ e ∈ L, hashOf x ≠ hashOf e)
    (seedx : hashOf x ≠ C.H pithos) :
    accepts T C bs (L.insertIdx i x) = false := by
  apply Bool.eq_false_iff.2
  intro hacc
  obtain ⟨_, hc, _⟩ := accepts_facts hL
  obtain ⟨_, hc', _⟩ := accepts_facts hacc
  have h1 : (L.insertIdx i x)[i]? = some x := by
    rw [List.getElem?_insertIdx]; simp; omega
  have h2 : (L.insertIdx i x)[i+1]? = some L[i] := by
    rw [List.getElem?_insertIdx]
    have : ¬ (i + 1 < i) := by omega
    simp [this, List.getElem?_eq_getElem hi]
  have hp := hc'.2 i x L[i] h1 h2
  cases i with
  | zero =>
    have := hc.1 L[0] (List.getElem?_eq_getElem hi)
    exact seedx (by rw [← hp, this])
  | succ j =>
    have hj : j < L.length := by omega
    have := hc.2 j L[j] L[j+1] (List.getElem?_eq_getElem hj) (List.getElem?_eq_getElem hi)
    exact hx L[j] (List.getElem_mem hj) (by rw [← hp, this])

/-- **Reordering is detected**: any accepted log built from the entries of `L` that has the same
length carries, at every position, the hash `L` has there; so a rearrangement that moves some entry
(exchanges two entries, adjacent or distant; rotates; …) is rejected. -/
theorem reorder_detected {T : Tables} (ct : ChainTables T) {C : Crypto} (cf : CollisionFree C.H)
    (bs : Nat) (L L' : List Rec) (wfL : ∀ e ∈ L, wfH T e = true) (hL : accepts T C bs L = true)
    (hsub : ∀ e ∈ L', e ∈ L)
    (k : Nat) (a b : Rec) (ha : L[k]? = some a) (hb : L'[k]? = some b) (hne : hashOf b ≠ hashOf a) :
    accepts T C bs L' = false := by
  apply Bool.eq_false_iff.2
  intro hacc
  obtain ⟨e, he, heq, _⟩ := only_prefixes_verify ct cf bs L L' wfL (fun e he => wfL e (hsub e he)) hL hacc
    (fun e he => ⟨e, hsub e he, rfl⟩) k b hb
  rw [ha] at he
  cases he
  exact hne heq

/-- Exchanging the entries at positions `i < j` (adjacent or distant) is rejected. -/
theorem swap_detected {T : Tables} (ct : ChainTables T) {C : Crypto} (cf : CollisionFree C.H)
    (bs : Nat) (L : List Rec) (wfL : ∀ e ∈ L, wfH T e = true) (hL : accepts T C bs L = true)
    (i j : Nat) (hij : i < j) (hj : j < L.length) :
    accepts T C bs ((L.set i L[j]).set j (L[i]'(by omega))) = false := by
  have hi : i < L.length := by omega
  apply reorder_detected ct cf bs L _ wfL hL ?_ i L[i] L[j] (List.getElem?_eq_getElem hi)
  · rw [List.getElem?_set_ne (by omega), List.getElem?_set_self hi]
  · exact (accepted_hashes_distinct ct cf bs L wfL hL i j L[i] L[j] hij
      (List.getElem?_eq_getElem hi) (List.getElem?_eq_getElem hj)).symm
  · intro e he
    rcases List.mem_or_eq_of_mem_set he with h | rfl
    · rcases List.mem_or_eq_of_mem_set h with h | rfl
      · exact h
      · exact List.getElem_mem hj
    · exact List.getElem_mem hi

theorem hashed_field_change_changes_hash {T : Tables} (ok : TablesOK T) {C : Crypto} (cf : CollisionFree C.H)
    (e e' : Rec) (we : wfH T e = true) (we' : wfH T e' = true)
    (f : String) (hf : f ∈ hashedNames T e) (hne : get e f ≠ get e' f) :
    C.H (hashInput T e) ≠ C.H (hashInput T e') := by
  intro h
  exact hne ((hashInput_inj T ok e e' we we' (cf _ _ h)).2 f hf)

/-- **A changed hashed field is detected**: replace entry `i` of an accepted log by `e'`, which keeps
the stored hash (and anything else) but differs in some field the hash covers: rejected. -/
theorem field_change_detected {T : Tables} (ok : TablesOK T) {C : Crypto} (cf : CollisionFree C.H)
    (bs : Nat) (L : List Rec) (hL : accepts T C bs L = true)
    (i : Nat) (e e' : Rec) (hi : L[i]? = some e) (we : wfH T e = true) (we' : wfH T e' = true)
    (hsame : hashOf e' = hashOf e)
    (f : String) (hf : f ∈ hashedNames T e) (hne : get e f ≠ get e' f) :
    accepts T C bs (L.set i e') = false := by
  apply Bool.eq_false_iff.2
  intro hacc
  have hlt : i < L.length := (List.getElem?_eq_some_iff.1 hi).1
  have se : Sealed T C e := ⟨we, (accepts_facts hL).1 e (List.mem_of_getElem? hi)⟩
  have se' : Sealed T C e' :=
    ⟨we', (accepts_facts hacc).1 e' (List.mem_of_getElem? (List.getElem?_set_self hlt))⟩
  exact hne (se.agree ok cf se' hsame.symm f hf)

/-- **…also when the tamperer recomputes the entry's hash**: if the replaced entry is not the last
one, its successor still points to the old hash. -/
theorem rehashed_change_detected {T : Tables} {C : Crypto}
    (bs : Nat) (L : List Rec) (hL : accepts T C bs L = true)
    (i : Nat) (hi : i + 1 < L.length) (e' : Rec) (hnew : hashOf e' ≠ hashOf (L[i]'(by omega))) :
    accepts T C bs (L.set i e') = false := by
  apply Bool.eq_false_iff.2
  intro hacc
  obtain ⟨_, hc, _⟩ := accepts_facts hL
  obtain ⟨_, hc', _⟩ := accepts_facts hacc
  have hi0 : i < L.length := by omega
  have h1 : (L.set i e')[i]? = some e' := List.getElem?_set_self hi0
  have h2 : (L.set i e')[i+1]? = some L[i+1] := by
    rw [List.getElem?_set_ne (by omega)]; exact List.getElem?_eq_getElem hi
  have hp := hc'.2 i e' L[i+1] h1 h2
  have hq := hc.2 i L[i] L[i+1] (List.getElem?_eq_getElem hi0) (List.getElem?_eq_getElem hi)
  exact hnew (by rw [← hp, hq])

/-- …and for the last entry (or an appended one) the signature decides: an entry whose signature
does not verify is rejected when a verifier is configured. -/
theorem unsigned_entry_rejected {T : Tables} {C : Crypto} (bs : Nat) (L : List Rec)
    (v : Bytes → Bytes → Bool) (hv : C.vEd = some v)
    (e : Rec) (he : e ∈ L) (hbad : v (hashOf e) (sigOf e) = false) :
    accepts T C bs L = false := by
  apply Bool.eq_false_iff.2
  intro hacc
  obtain ⟨_, _, hs⟩ := accepts_facts hacc
  have := hs e he
  rw [hv] at this
  simp [sigOk, hbad] at this

/-- The exemption is real: cutting off a suffix of an accepted log leaves an accepted log. -/
theorem suffix_cut_accepted {T : Tables} {C : Crypto} (bs : Nat) (L : List Rec) (n : Nat)
    (hL : accepts T C bs L = true) : accepts T C bs (L.take n) = true := by
  obtain ⟨s', hs⟩ := accepts_iff.1 hL
  rw [← List.take_append_drop n L, runFrom_append] at hs
  split at hs
  · exact accepts_iff.2 ⟨_, ‹_›⟩
  · cases hs

/-- The generated `CalculateHash` table meets the side conditions of all theorems above. -/
theorem code_tables_ok : ChainTables hashT :=
  ⟨⟨by decide +kernel, by decide +kernel, by decide +kernel⟩, by decide +kernel, by decide +kernel⟩

/-- Field names of a current-version entry of kind `k` (0 genesis, 1 log, 2 grounding): what the
binary encoder writes, what the JSON decoder reads, what `CalculateHash` covers. -/
def binNames (k : Nat) : List String :=
  (binW.pre ++ (binW.details Gen.AuditLog.currentVersion k ++ binW.tail)).map (·.1)
def jsonNames (k : Nat) : List String := (jsonR Gen.AuditLog.currentVersion k).map (·.1)
def hashNames (k : Nat) : List String :=
  (hashT.pre ++ hashT.details Gen.AuditLog.currentVersion k).map (·.1) ++ hashT.tail

theorem hashedNames_current {r : Rec} {k : Nat} (hv : version r = Gen.AuditLog.currentVersion)
    (hk : kind hashT r = k) : hashedNames hashT r = hashNames k := by
  unfold hashedNames specOf hashNames
  rw [hv, hk]

/-- **encode_injective** for the field list of the current code: two well-formed entries with the
same `CalculateHash` input agree on every field that list contains. If a field is missing from the
list, injectivity fails exactly there (`unhashed_field_collision`). -/
theorem encode_injective (r1 r2 : Rec) (w1 : wfH hashT r1 = true) (w2 : wfH hashT r2 = true)
    (h : hashInput hashT r1 = hashInput hashT r2) :
    ∀ f ∈ hashedNames hashT r1, get r1 f = get r2 f :=
  (hashInput_inj hashT code_tables_ok.ok r1 r2 w1 w2 h).2

/-- Injectivity fails exactly at a field that is not in the list: any two records that differ only
there have the same hash input. -/
theorem unhashed_field_collision (T : Tables) (r : Rec) (f : String) (v : Bytes)
    (hv : f ≠ "Version") (ht : f ≠ "Type") (hf : f ∉ hashedNames T r) :
    hashInput T (set r f v) = hashInput T r :=
  hashInput_set_unhashed T r f v hv ht hf

/-- The copy-source fields: recorded (and serialised) but not hashed. FLIP when the code hashes them:
set this list to `[]` and delete `hash_misses_copy_source` / `copy_source_collision` /
`copy_source_change_accepted`. -/
def knownUnhashed : List String := ["Log.Resource.SourceBucket", "Log.Resource.SourceKey"]

/-- The recorded LOG fields the hash of the current version does not cover are exactly the copy
source. Evaluated over the generated tables: dropping any other `writeString` from `CalculateHash`
breaks this theorem, and the three theorems after it follow from it. -/
theorem unhashed_are_exactly_copy_source :
    recordedLog.filter (fun f => !(hashedLogNames Gen.AuditLog.currentVersion).contains f) = knownUnhashed := by
  decide +kernel

/-- **hash_covers_all_fields (partial)**: every recorded field of a LOG entry of the current
version — and every hash-input field of the entry header — is fed to the hash, *except* the copy
source. -/
theorem hash_covers_all_fields_partial :
    ∀ f ∈ recordedEntry ++ recordedLog, f ∉ knownUnhashed →
      f ∈ hashedLogNames Gen.AuditLog.currentVersion := by
  have header : ∀ f ∈ recordedEntry, f ∈ hashedLogNames Gen.AuditLog.currentVersion := by decide +kernel
  intro f hf hk
  rcases List.mem_append.1 hf with he | hl
  · exact header f he
  · -- were `f` not hashed, the filter of `unhashed_are_exactly_copy_source` would keep it
    refine Decidable.byContradiction fun hh => hk ?_
    rw [← unhashed_are_exactly_copy_source]
    exact List.mem_filter.2 ⟨hl, by simpa using hh⟩

/-- …and every recorded field of a GROUNDING entry. -/
theorem hash_covers_all_grounding_fields :
    ∀ f ∈ recordedEntry ++ recordedGrounding, f ∈ hashedGroundingNames := by decide +kernel

/-- The property speaks of: operation, phase, resource including copy source, actor, request,
outcome, timestamp, version. Nothing recorded is outside that list's struct fields. -/
theorem recorded_fields_nonempty : recordedLog.length = 18 ∧ recordedEntry.length = 4 := by decide +kernel

theorem knownUnhashed_spec {f : String} (hf : f ∈ knownUnhashed) :
    f ∈ recordedLog ∧ f ∉ hashedLogNames Gen.AuditLog.currentVersion := by
  rw [← unhashed_are_exactly_copy_source, List.mem_filter] at hf
  exact ⟨hf.1, by simpa using hf.2⟩

/-- **Negation witness (table level)**: the full statement `hash_covers_all_fields` is false for
the current code. -/
theorem hash_misses_copy_source :
    ¬ (∀ f ∈ recordedLog, f ∈ hashedLogNames Gen.AuditLog.currentVersion) := fun h =>
  have hf : "Log.Resource.SourceKey" ∈ knownUnhashed := List.mem_cons_of_mem _ List.mem_cons_self
  (knownUnhashed_spec hf).2 (h _ (knownUnhashed_spec hf).1)

def witness1 : Rec :=
  [("Version", [0, 3]), ("Timestamp", [0, 0, 0, 0, 0, 0, 0, 1]), ("Type", ascii "LOG"),
   ("Log.Operation", ascii "CopyObject"), ("Log.Phase", ascii "COMPLETE"),
   ("Log.Resource.Bucket", ascii "dst"), ("Log.Resource.Key", ascii "k"),
   ("Log.Resource.SourceBucket", ascii "src"), ("Log.Resource.SourceKey", ascii "secret-a"),
   ("Log.Resource.PartNumber", [0, 0, 0, 0]), ("Log.Outcome.StatusCode", [0, 0, 0, 200]),
   ("Log.Outcome.DurationMs", [0, 0, 0, 0, 0, 0, 0, 0])]
def witness2 : Rec := set witness1 "Log.Resource.SourceKey" (ascii "secret-b")

/-- **Negation witness (encoding level)**: two well-formed version-3 CopyObject entries that differ
in the recorded `SourceKey` and have the same `CalculateHash` input. The harness replays this pair
through the real `CalculateHash` and `Validator` (known finding C27.unhashed-field.SourceKey). -/
theorem copy_source_collision :
    hashInput hashT witness1 = hashInput hashT witness2 ∧
    get witness1 "Log.Resource.SourceKey" ≠ get witness2 "Log.Resource.SourceKey" ∧
    wfH hashT witness1 = true ∧ wfH hashT witness2 = true := by decide +kernel

/-- **Negation witness (validator level)**: in every accepted log, the copy source of any current-version
LOG entry can be rewritten at will and the log is still accepted. -/
theorem copy_source_change_accepted (C : Crypto) (bs : Nat) (A B : List Rec) (e : Rec) (v : Bytes)
    (f : String) (hf : f ∈ knownUnhashed)
    (hver : version e = Gen.AuditLog.currentVersion) (hk : kind hashT e = 1)
    (hL : accepts hashT C bs (A ++ e :: B) = true) : accepts hashT C bs (A ++ set e f v :: B) = true := by
  have hnot : f ∉ hashedNames hashT e := by
    rw [hashedNames_current hver hk]
    exact (knownUnhashed_spec hf).2
  have hv : ∀ g ∈ knownUnhashed, g ∉ validatorReads := by decide +kernel
  exact unhashed_change_accepted hashT C bs A B e f v hnot (hv f hf) hL

/-- Non-vacuity of `CollisionFree`: the identity is collision free (toy instance), and with it two
entries that differ in a hashed field get different hashes while the copy-source pair collides. -/
example : CollisionFree (fun b => b) := fun _ _ h => h
example : hashInput hashT witness1 ≠ hashInput hashT (set witness1 "Log.Resource.Key" (ascii "other")) := by decide +kernel

/-- Non-vacuity of the chain theorems: a concrete three-entry log (genesis, START, COMPLETE) built by
the writer model with the toy hash `id` is accepted,
every entry is well formed, and deleting its second entry is rejected;
with block size 2 the same calls produce a grounding entry and are accepted too. -/
def toyC : Crypto := { H := fun b => b, vEd := some (fun d s => s == d), vMl := some (fun d s => s == 1 :: d) }
def toyS : Signer := { signEd := fun d => d, signMl := fun d => 1 :: d }
def toyMeta : Rec := [("Version", [0, 3]), ("Timestamp", [0, 0, 0, 0, 0, 0, 0, 7])]
def toyLog (bs : Nat) : List Rec :=
  (wRun hashT toyC toyS bs (wInit hashT toyC toyS toyMeta)
    [(witness1, toyMeta), (witness2, toyMeta)]).out

/-- The three checks below share the entries of `toyLog`, so they are evaluated together. -/
theorem toyLog_checks :
    (accepts hashT toyC 5 (toyLog 5) = true ∧ (toyLog 5).length = 3 ∧ (toyLog 5).all (wfH hashT) = true) ∧
    accepts hashT toyC 5 ((toyLog 5).eraseIdx 1) = false ∧
    (accepts hashT toyC 2 (toyLog 2) = true ∧ (toyLog 2).length = 4) := by
  decide +kernel

set_option maxRecDepth 100000 in
example : accepts hashT toyC 5 (toyLog 5) = true ∧ (toyLog 5).length = 3 ∧ (toyLog 5).all (wfH hashT) = true :=
  toyLog_checks.1
set_option maxRecDepth 100000 in
example : accepts hashT toyC 5 ((toyLog 5).eraseIdx 1) = false := toyLog_checks.2.1
set_option maxRecDepth 100000 in
example : accepts hashT toyC 2 (toyLog 2) = true ∧ (toyLog 2).length = 4 := toyLog_checks.2.2

/-- The binary decoder reads exactly the fields the binary encoder writes, in the same order with the
same widths — for every version and kind. -/
theorem binary_reads_what_it_writes :
    binW.pre = binR.pre ∧ (∀ v k, binW.details v k = binR.details v k) ∧ binW.tail = binR.tail := by
  refine ⟨rfl, fun v k => ?_, rfl⟩
  match k, v with
  | 0, _ => rfl
  | 2, _ => rfl
  | _ + 3, _ => rfl
  | 1, 0 => rfl
  | 1, 1 => rfl
  | 1, 2 => rfl
  | 1, 3 => rfl
  | 1, _ + 4 => rfl

theorem binW_eq_binR : binW = binR := by
  obtain ⟨h1, h2, h3⟩ := binary_reads_what_it_writes
  have hd : binW.details = binR.details := funext fun v => funext (h2 v)
  show BinTables.mk binW.pre binW.details binW.tail _ _ _ = binR
  rw [h1, hd, h3]
  rfl

/-- Recorded ⊆ serialised and hashed ⊆ serialised, evaluated in one go: the statements compare the
same field names with the same tables, and the kernel does each comparison once. The three theorems
that state these inclusions one by one are its parts. -/
theorem serialiser_tables :
    ((Gen.AuditLog.entryFields.map (·.1) ++ recordedLog ⊆ binNames 1 ∧
        Gen.AuditLog.entryFields.map (·.1) ++ recordedGrounding ⊆ binNames 2) ∧
      (Gen.AuditLog.entryFields.map (·.1) ++ recordedLog ⊆ jsonNames 1 ∧
        Gen.AuditLog.entryFields.map (·.1) ++ recordedGrounding ⊆ jsonNames 2)) ∧
    ∀ k ∈ [0, 1, 2], hashNames k ⊆ jsonNames k ∧ hashNames k ⊆ binNames k := by
  decide +kernel

/-- Every recorded field of a current-version LOG / GROUNDING entry (header included, with Hash and
signature) is written by the binary encoder. -/
theorem binary_writes_all_fields :
    (∀ f ∈ Gen.AuditLog.entryFields.map (·.1) ++ recordedLog,
      f ∈ (binW.pre ++ (binW.details Gen.AuditLog.currentVersion 1 ++ binW.tail)).map (·.1)) ∧
    (∀ f ∈ Gen.AuditLog.entryFields.map (·.1) ++ recordedGrounding,
      f ∈ (binW.pre ++ (binW.details Gen.AuditLog.currentVersion 2 ++ binW.tail)).map (·.1)) :=
  serialiser_tables.1.1

/-- **Binary round trip**: `decode (encode e ++ rest) = (e, rest)` on all fields of the entry's
version and kind, for every well-formed entry; and for whole files (`binary_file_roundtrip`). -/
theorem binary_roundtrip (r : Rec) (hw : wf (binSpec binW r) r = true) (rest : Bytes) :
    binDecode binR (binEncode binW r ++ rest) = some (proj (binSpec binW r) r, rest) ∧
    ∀ f ∈ (binSpec binW r).map (·.1), get (proj (binSpec binW r) r) f = get r f := by
  rw [← binW_eq_binR]
  exact ⟨binDecode_binEncode binW (by decide +kernel) (by decide +kernel) r hw rest, get_proj _ r⟩

theorem binary_file_roundtrip (L : List Rec) (hw : ∀ r ∈ L, wf (binSpec binW r) r = true) :
    binDecodeAll binR L.length (L.flatMap (binEncode binW)) = some (L.map fun r => proj (binSpec binW r) r) := by
  rw [← binW_eq_binR]
  exact binDecodeAll_roundtrip binW (by decide +kernel) (by decide +kernel) (by decide +kernel) L hw

/-- JSON: no path is used twice, every field the decoder reads is written under the same path with
the same codec, every recorded field is read, and `omitempty` is only applied where the omitted
value is the Go zero value of the field's type — for the current version's LOG and GROUNDING layouts
(and GENESIS, which has no details). -/
theorem json_tables_consistent :
    ∀ k ∈ [0, 1, 2],
      ((jsonW Gen.AuditLog.currentVersion k).map (·.2.1)).Nodup ∧
      (∀ x ∈ jsonR Gen.AuditLog.currentVersion k, ∃ om, (x.1, x.2.1, om, x.2.2.2) ∈ jsonW Gen.AuditLog.currentVersion k) ∧
      (∀ x ∈ jsonW Gen.AuditLog.currentVersion k, x.2.2.1 = true →
        (x.2.2.2 = "num" ∧ 0 < widthOf x.1) ∨ (x.2.2.2 ≠ "num" ∧ widthOf x.1 = 0)) := by
  decide +kernel

theorem json_reads_all_fields :
    (∀ f ∈ Gen.AuditLog.entryFields.map (·.1) ++ recordedLog, f ∈ (jsonR Gen.AuditLog.currentVersion 1).map (·.1)) ∧
    (∀ f ∈ Gen.AuditLog.entryFields.map (·.1) ++ recordedGrounding, f ∈ (jsonR Gen.AuditLog.currentVersion 2).map (·.1)) :=
  serialiser_tables.1.2

/-- **JSON round trip** for the current version (kind `k` = 0 genesis, 1 log, 2 grounding): with
round-tripping leaf codecs, every field the decoder reads comes back unchanged, provided integer
fields have their declared width. -/
theorem json_roundtrip_code (lf : Leaf) (hleaf : ∀ c b, lf.dec c (lf.enc c b) = b)
    (k : Nat) (hk : k ∈ [0, 1, 2]) (r : Rec)
    (hwid : ∀ x ∈ jsonW Gen.AuditLog.currentVersion k, 0 < widthOf x.1 → (get r x.1).length = widthOf x.1) :
    ∀ f ∈ (jsonR Gen.AuditLog.currentVersion k).map (·.1),
      get (jsonRead lf zeroOf (jsonR Gen.AuditLog.currentVersion k)
            (jsonWrite lf (jsonW Gen.AuditLog.currentVersion k) r)) f = get r f := by
  obtain ⟨hnd, hsub, hom⟩ := json_tables_consistent k hk
  apply json_roundtrip lf zeroOf _ _ r hleaf hnd hsub
  intro x hx hox hzero
  unfold omitted at hzero
  rcases hom x hx hox with ⟨hc, hw⟩ | ⟨hc, hw⟩
  · simp only [hc, beq_self_eq_true, if_true] at hzero
    exact List.eq_replicate_iff.2 ⟨hwid x hx hw, by simpa using hzero⟩
  · have hcb : (x.2.2.2 == "num") = false := by simpa using hc
    simp only [hcb, Bool.false_eq_true, if_false, List.isEmpty_iff] at hzero
    simp [zeroOf, hw, hzero]

/-- **Timestamps are handled as instants everywhere** (T1): the hash and the binary serializer use
`UnixNano` / `time.Unix(0, ns)`; the JSON writer converts to UTC before it formats with the layout
whose zone designator is the literal "Z", and the reader parses RFC 3339. -/
theorem timestamp_codecs_are_instants :
    Gen.AuditLog.hashTime = "UnixNano" ∧ Gen.AuditLog.binTimeW = "UnixNano" ∧ Gen.AuditLog.binTimeR = "Unix(0,ns)" ∧
    jsonTimeUTC = true ∧ Gen.AuditLog.jsonTimeLayout = "2006-01-02T15:04:05.999999999Z" ∧
    Gen.AuditLog.jsonTimeRead = ["Parse", "RFC3339Nano"] := by decide +kernel

theorem zone_leaf_roundtrip (offNs : Nat) (c : String) (b : Bytes) :
    (zoneLeaf jsonTimeUTC offNs).dec c ((zoneLeaf jsonTimeUTC offNs).enc c b) = b := by
  have h : jsonTimeUTC = true := timestamp_codecs_are_instants.2.2.2.1
  simp [zoneLeaf, h]

/-- …and without the conversion to UTC it does not: the written reading is the instant shifted by the offset (here +02:00). -/
example : (zoneLeaf false 7200000000000).dec "time" ((zoneLeaf false 7200000000000).enc "time" [0, 0, 0, 0, 0, 0, 0, 1])
    ≠ [0, 0, 0, 0, 0, 0, 0, 1] := by decide +kernel

/-- **JSON round trip for all zones**: whatever Location the entry's timestamp carries, every field the
decoder reads — the timestamp as an instant included — comes back unchanged. -/
theorem json_roundtrip_all_zones (offNs : Nat) (k : Nat) (hk : k ∈ [0, 1, 2]) (r : Rec)
    (hwid : ∀ x ∈ jsonW Gen.AuditLog.currentVersion k, 0 < widthOf x.1 → (get r x.1).length = widthOf x.1) :
    ∀ f ∈ (jsonR Gen.AuditLog.currentVersion k).map (·.1),
      get (jsonRead (zoneLeaf jsonTimeUTC offNs) zeroOf (jsonR Gen.AuditLog.currentVersion k)
            (jsonWrite (zoneLeaf jsonTimeUTC offNs) (jsonW Gen.AuditLog.currentVersion k) r)) f = get r f :=
  json_roundtrip_code _ (zone_leaf_roundtrip offNs) k hk r hwid

theorem hashed_fields_are_serialised :
    ∀ k ∈ [0, 1, 2],
      (∀ f ∈ (hashT.pre ++ hashT.details Gen.AuditLog.currentVersion k).map (·.1) ++ hashT.tail,
        f ∈ (jsonR Gen.AuditLog.currentVersion k).map (·.1)) ∧
      (∀ f ∈ (hashT.pre ++ hashT.details Gen.AuditLog.currentVersion k).map (·.1) ++ hashT.tail,
        f ∈ (binW.pre ++ (binW.details Gen.AuditLog.currentVersion k ++ binW.tail)).map (·.1)) :=
  serialiser_tables.2

/-- **hash (decode (encode e)) = hash e, JSON, all zones**: a genuinely produced current-version entry
still hashes to its recorded hash after the JSON round trip, whatever zone its timestamp carries. -/
theorem hash_preserved_by_json_roundtrip (offNs : Nat) (k : Nat) (hk : k ∈ [0, 1, 2]) (r : Rec)
    (hv : version r = Gen.AuditLog.currentVersion) (hkind : kind hashT r = k)
    (hwid : ∀ x ∈ jsonW Gen.AuditLog.currentVersion k, 0 < widthOf x.1 → (get r x.1).length = widthOf x.1) :
    hashInput hashT (jsonRead (zoneLeaf jsonTimeUTC offNs) zeroOf (jsonR Gen.AuditLog.currentVersion k)
        (jsonWrite (zoneLeaf jsonTimeUTC offNs) (jsonW Gen.AuditLog.currentVersion k) r)) = hashInput hashT r := by
  apply hashInput_eq_of_agree code_tables_ok.ok _ (json_roundtrip_all_zones offNs k hk r hwid)
  rw [hashedNames_current hv hkind]
  exact (hashed_fields_are_serialised k hk).1

/-- **hash (decode (encode e)) = hash e, binary** (the binary format stores the instant). -/
theorem hash_preserved_by_binary_roundtrip (k : Nat) (hk : k ∈ [0, 1, 2]) (r : Rec)
    (hv : version r = Gen.AuditLog.currentVersion) (hkind : kind hashT r = k) :
    hashInput hashT (proj (binSpec binW r) r) = hashInput hashT r := by
  have hkb : binW.kind r = k := hkind
  apply hashInput_eq_of_agree code_tables_ok.ok _ (get_proj _ r)
  rw [hashedNames_current hv hkind]
  unfold binSpec
  rw [hkb, hv]
  exact (hashed_fields_are_serialised k hk).2

end Pithos.C27
