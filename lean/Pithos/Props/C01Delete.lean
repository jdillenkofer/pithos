/-
C01, continued: an acknowledged key-only DeleteObject makes the key read as absent.
-/
import Pithos.Props.C01

namespace Pithos.C01
open Pithos.S3

/-- **get_after_delete.** In every state satisfying the invariant (hence every reachable state),
for every versioning state of the bucket and every setting of the model switches: after an
acknowledged unconditional key-only DeleteObject the next plain GET of the key answers NoSuchKey —
the current row was removed (unversioned) or a delete marker became current (Enabled / Suspended). -/
theorem get_after_delete (q : Quirks) (s s1 : State) (hinv : Inv s) (b k : String) (bk : Bucket)
    (hfb : findBucket s b = some bk) (vid : Option (Option Nat)) (dm : Bool)
    (hack : step q s (.del b k none .none) = (s1, .deleted vid dm)) :
    (step q s1 (.get b k none)).2 = .err .noSuchKey := by
  rw [get_nosuchkey_iff]
  exact absent_after_delete q s s1 hinv b k bk hfb .none vid dm hack

end Pithos.C01
