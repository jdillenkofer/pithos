/-
C13 — an existing object version never changes under the caller.
-/
import Pithos.Lemmas.S3Frozen
import Pithos.Lemmas.S3Edit
import Pithos.Props.C01

namespace Pithos.C13
open Pithos.S3

/-- The deletes that may remove or replace version `r` of bucket `b`: the explicit delete of that
very version, and — only while the bucket is unversioned — a key-only delete of its key. -/
def DeletesVersion (op : Op) (b : String) (bk : Bucket) (r : Row) : Prop :=
  ∃ k' vid im, op = .del b k' vid im ∧ k' = r.key ∧ (vid = some r.vid ∨ (vid = none ∧ bk.ver = .off))

/-- **version_frozen.** Take any row `r` that carries a version id (a ULID version or a delete
marker — not the null version). After ANY operation other than the explicit delete of that very
version (and other than a key-only delete in an unversioned bucket) — writes, copies, appends,
multipart operations, tag changes, versioning-state changes, storage-class transitions, bucket
operations, reads, key-only deletes in a versioned bucket, explicit deletes of OTHER versions
including the one that makes `r` current again — the bucket still holds a row with the same row id,
key, version id, delete-marker flag, parts (hence content and size) and ETag. When Last-Modified
is not bumped by mere row saves (`touchOnAnySave = false`) its `updated` value is unchanged too.
Holds for every state satisfying the row invariant, i.e. every reachable state, for the code's
append behaviour since /repo 8a5dc41 (`appendLatestInPlace = false`). -/
theorem version_frozen (q : Quirks) (hq : q.appendLatestInPlace = false) (s : State) (hinv : Inv s) (op : Op)
    (b : String) (bk : Bucket) (r : Row) (hfb : findBucket s b = some bk)
    (hr : r ∈ bk.rows) (hv : r.vid ≠ none) (hnd : ¬ DeletesVersion op b bk r) :
    ∃ bk', findBucket (step q s op).1 b = some bk' ∧ ∃ r' ∈ bk'.rows, frozenEq q r r' := by
  refine version_frozen_T q hq _ (inv_tick hinv) op b bk r hfb hr hv ?_
  intro b' k' vid im hop hbb
  subst hbb
  constructor
  · intro h; exact hnd ⟨k', vid, im, hop, h.1, Or.inl h.2⟩
  · intro hvn hoff hk; exact hnd ⟨k', vid, im, hop, hk, Or.inr ⟨hvn, hoff⟩⟩

/-- The same after any history: the state reached by `ops` satisfies the invariant. -/
theorem version_frozen_reachable (q : Quirks) (hq : q.appendLatestInPlace = false) (ops : List Op) (op : Op)
    (b : String) (bk : Bucket) (r : Row) (hfb : findBucket (run q {} ops).1 b = some bk)
    (hr : r ∈ bk.rows) (hv : r.vid ≠ none) (hnd : ¬ DeletesVersion op b bk r) :
    ∃ bk', findBucket (step q (run q {} ops).1 op).1 b = some bk' ∧ ∃ r' ∈ bk'.rows,
      r'.parts = r.parts ∧ r'.etag = r.etag ∧ r'.vid = r.vid ∧ r'.key = r.key ∧
      (q.touchOnAnySave = false → r'.updated = r.updated) := by
  obtain ⟨bk', h1, r', h2, h3⟩ := version_frozen q hq _ (C01.reachable_inv q ops) op b bk r hfb hr hv hnd
  exact ⟨bk', h1, r', h2, h3.2.2.2.2.1.symm, h3.2.2.2.2.2.1.symm, h3.2.2.1.symm, h3.2.1.symm,
    fun h => (h3.2.2.2.2.2.2 h).symm⟩

/-- Deletes that can be recognised as harmless for version `r` of (b, key) from the operation
alone (without knowing the bucket's versioning state): anything that is not a delete, deletes in
other buckets or of other keys, and explicit deletes of other version ids. -/
def HarmlessFor (op : Op) (b key : String) (vid : Option Nat) : Prop :=
  ∀ b' k' v im, op = .del b' k' v im → b' ≠ b ∨ k' ≠ key ∨ ∃ w, v = some w ∧ w ≠ vid

theorem HarmlessFor.not_deletes {op : Op} {b : String} {r r0 : Row} {q : Quirks} (h : HarmlessFor op b r.key r.vid)
    (he : frozenEq q r r0) (bk : Bucket) : ¬ DeletesVersion op b bk r0 := by
  rintro ⟨k', vid, im, rfl, hk, hv⟩
  rcases h b k' vid im rfl with h | h | ⟨w, rfl, hne⟩
  · exact h rfl
  · exact h (hk.trans he.2.1.symm)
  · rcases hv with hv | ⟨hv, _⟩
    · exact hne ((Option.some.inj hv).trans he.2.2.1.symm)
    · cases hv

/-- **version_frozen_run.** Through ANY sequence of such operations the version persists with the
same content: each step by `version_frozen`. -/
theorem version_frozen_run (q : Quirks) (hq : q.appendLatestInPlace = false) (ops : List Op) (b : String) (r : Row)
    (hv : r.vid ≠ none) (hops : ∀ op ∈ ops, HarmlessFor op b r.key r.vid) :
    ∀ (s : State) (bk : Bucket), Inv s → findBucket s b = some bk → (∃ r0 ∈ bk.rows, frozenEq q r r0) →
      ∃ bk', findBucket (run q s ops).1 b = some bk' ∧ ∃ r' ∈ bk'.rows, frozenEq q r r' := by
  intro s bk hinv hfb h
  refine (run_preserves_mem (P := fun s => Inv s ∧ ∃ bk, findBucket s b = some bk ∧ ∃ r0 ∈ bk.rows, frozenEq q r r0) q ops
    ?_ s ⟨hinv, bk, hfb, h⟩).2
  rintro op hop s ⟨hinv, bk, hfb, r0, hr0, he0⟩
  obtain ⟨bk1, hfb1, r1, hr1, he1⟩ := version_frozen q hq s hinv op b bk r0 hfb hr0 (he0.2.2.1 ▸ hv)
    ((hops op hop).not_deletes he0 bk)
  exact ⟨step_inv q s op hinv, bk1, hfb1, r1, hr1, he0.trans he1⟩

/-- **version_get_stable.** What the caller sees: take any reachable state and any object version
`r` with a version id in it. After ANY further sequence of operations that does not explicitly
delete that version (`HarmlessFor`), GET with that version id returns the same bytes, the same
size and the same ETag. -/
theorem version_get_stable (q : Quirks) (hq : q.appendLatestInPlace = false) (pre ops : List Op) (b : String)
    (bk : Bucket) (r : Row) (hfb : findBucket (run q {} pre).1 b = some bk) (hr : r ∈ bk.rows)
    (hv : r.vid ≠ none) (hdm : r.dm = false) (hops : ∀ op ∈ ops, HarmlessFor op b r.key r.vid) :
    ∃ v, (step q (run q (run q {} pre).1 ops).1 (.get b r.key (some r.vid))).2 = .obj v ∧
      v.body = r.content ∧ v.size = r.size ∧ v.etag = r.etag ∧ v.vid = r.vid := by
  obtain ⟨hinv0, hvinv0⟩ := (vrows_closed hq).reachable pre
  obtain ⟨bk', hfb', r', hr', he⟩ := version_frozen_run q hq ops b r hv hops _ bk hinv0 hfb ⟨r, hr, frozenEq.refl q r⟩
  obtain ⟨_, hvinv1⟩ := (vrows_closed hq).run ops _ hinv0 hvinv0
  have hrow := rowByVid_of_mem (hvinv1 bk' (findBucket_mem hfb')) hr'
  rw [← he.2.1, ← he.2.2.1] at hrow
  have hdm' : r'.dm = false := by rw [← he.2.2.2.1]; exact hdm
  refine ⟨viewOf r', (get_version hfb' hrow hdm').1, ?_, ?_, ?_, ?_⟩
  · simp [viewOf, Row.content, he.2.2.2.2.1]
  · simp [viewOf, Row.size, Row.content, he.2.2.2.2.1]
  · simp [viewOf, he.2.2.2.2.2.1]
  · simp [viewOf, he.2.2.1]

/-- **Negation witness (Last-Modified), code as it is** (`Quirks.code`: `touchOnAnySave = true`):
version v0 is written, then v1 is written to the same key; v0's `updated` (Last-Modified) moves,
because clearing its `is_latest` flag is a row save. Known finding C13.version-changed.last-modified. -/
def lmOps : List Op :=
  [.mkb "b", .setVer "b" .enabled, .put "b" "k" [1] {} false .none]

theorem code_bumps_last_modified :
    (match (step Quirks.code (run Quirks.code {} lmOps).1 (.head "b" "k" (some (some 0)))).2,
           (step Quirks.code (step Quirks.code (run Quirks.code {} lmOps).1 (.put "b" "k" [2] {} false .none)).1
              (.head "b" "k" (some (some 0)))).2 with
     | .obj v, .obj v' => (v.updated, v'.updated, v.body == v'.body)
     | _, _ => (0, 0, false)) = (3, 4, true) := by
  decide

/-- …while the reference behaviour (`touchOnAnySave = false`) leaves it alone on the same history. -/
theorem reference_keeps_last_modified :
    (match (step Quirks.none (run Quirks.none {} lmOps).1 (.head "b" "k" (some (some 0)))).2,
           (step Quirks.none (step Quirks.none (run Quirks.none {} lmOps).1 (.put "b" "k" [2] {} false .none)).1
              (.head "b" "k" (some (some 0)))).2 with
     | .obj v, .obj v' => (v.updated, v'.updated)
     | _, _ => (0, 1)) = (3, 3) := by
  decide

/-- **Negation witness for the code before /repo 8a5dc41** (`appendLatestInPlace = true`): in a
suspended bucket an append extended the current ULID version in place — content of v0 changed. -/
theorem before_fix_append_mutates_version :
    let ops : List Op := [.mkb "b", .setVer "b" .enabled, .put "b" "k" [1] {} false .none, .setVer "b" .suspended,
                          .append "b" "k" [9] none]
    (match (step Quirks.beforeAppendFix (run Quirks.beforeAppendFix {} ops).1 (.get "b" "k" (some (some 0)))).2 with
     | .obj v => v.body | _ => []) = [1, 9] ∧
    (match (step Quirks.code (run Quirks.code {} ops).1 (.get "b" "k" (some (some 0)))).2 with
     | .obj v => v.body | _ => []) = [1] := by
  decide

end Pithos.C13
