/-
C12 (sequential half) — AppendObject extends the object. The concurrent half ("no acknowledged
append is lost") is in `Pithos.Props.C12Concurrent`. The theorems speak of `existingParts`, `exMeta`,
`currentBody`, `currentSize`, defined here; what an acknowledged append leaves as the current row is
`S3.append_installs` (Lemmas/S3Read), stated over the storage model's `liveCur` and `partsOf`, and
`existingParts_eq`, `exMeta_eq`, `existingParts_is_current` are the bridges.
-/
import Pithos.Lemmas.S3Read
import Pithos.Props.C01

namespace Pithos.C12
open Pithos.S3

/-- the current object content of a key (empty when the key has no current object) -/
def currentBody (q : Quirks) (s : State) (b k : String) : Bytes :=
  match (step q s (.get b k none)).2 with
  | .obj v => v.body
  | _ => []

/-- the current object size, `none` when the key has no current object -/
def currentSize (q : Quirks) (s : State) (b k : String) : Option Nat :=
  match (step q s (.get b k none)).2 with
  | .obj v => some v.size
  | _ => none

/-- what an append extends: the parts of the current object (none when absent or a delete marker) -/
def existingParts (bk : Bucket) (k : String) : List Bytes :=
  match latestRow bk k with
  | some r => if r.dm then [] else r.parts
  | none => []

theorem existingParts_eq (bk : Bucket) (k : String) :
    existingParts bk k = partsOf (liveCur bk k) := by
  unfold existingParts liveCur partsOf
  cases latestRow bk k with
  | none => rfl
  | some r => by_cases hd : r.dm = true <;> simp [hd]

/-- **append_succeeds_only_at_size.** An acknowledged append that carried a write offset `n` found
the object at exactly that size (`n = 0` when the key had no current object): in every state. -/
theorem append_succeeds_only_at_size (q : Quirks) (s s1 : State) (b k : String) (body : Bytes) (n : Nat) (bk : Bucket)
    (hfb : findBucket s b = some bk) (e : ETag) (size : Nat)
    (hack : step q s (.append b k body (some n)) = (s1, .appended e size)) :
    n = (existingParts bk k).flatten.length := by
  rw [step_eq_stepT, stepT_append_eq, withB_some (findBucket_tick .. ▸ hfb)] at hack
  rw [existingParts_eq]
  exact appendFrom_offset hack

theorem existingParts_is_current (q : Quirks) (s : State) (b k : String) (bk : Bucket) (hfb : findBucket s b = some bk) :
    currentBody q s b k = (existingParts bk k).flatten := by
  unfold currentBody existingParts
  rw [step_get, hfb]
  simp only [resolve]
  cases latestRow bk k with
  | none => rfl
  | some r => by_cases hd : r.dm = true <;> simp [hd, viewOf, Row.content]

theorem flatten_snoc (l : List Bytes) (x : Bytes) : (l ++ [x]).flatten = l.flatten ++ x := by simp

/-- A successful write path (`putRow`) of `parts` into (b, k) is read back as their concatenation. -/
theorem get_after_putRow {q : Quirks} {s s' : State} {bk bkx : Bucket} {b k : String} {n : NewObj} {inm : Bool}
    {im : IfMatch} {vid : Option Nat} (hinv : Inv s) (hfb : findBucket s b = some bk)
    (hbx : bkx = bk) (hok : putRow q s bkx k n inm im = .ok (s', vid)) :
    ∃ v, (step q s' (.get b k none)).2 = .obj v ∧ v.body = n.parts.flatten ∧ v.size = n.parts.flatten.length := by
  subst hbx
  obtain ⟨bk', id, c, hfb', hl⟩ := putRow_installs hinv hfb hok
  exact ⟨_, (get_current (q := q) hfb' hl rfl).1, rfl, rfl⟩

/-- metadata of what an append extends (defaults when there is no current object) -/
def exMeta (bk : Bucket) (k : String) : Option String × Pairs × Pairs × Option String :=
  match latestRow bk k with
  | some r => if r.dm then (none, [], [], none) else (r.ct, r.md, r.tags, r.cls)
  | none => (none, [], [], none)

theorem exMeta_eq (bk : Bucket) (k : String) : exMeta bk k = metaOf (liveCur bk k) := by
  unfold exMeta liveCur metaOf
  cases latestRow bk k with
  | none => rfl
  | some r => by_cases hd : r.dm = true <;> simp [hd]

/-- **append_extends.** In every state satisfying the invariant (hence every reachable state) and
for every setting of the switches, an acknowledged AppendObject of `body` makes the next GET of the
key return the previous current content followed by `body` — nothing lost, nothing reordered — and
the acknowledged size is the size of exactly that. A key without a current object (absent, or
hidden by a delete marker) counts as empty. -/
theorem append_extends (q : Quirks) (s s1 : State) (hinv : Inv s) (b k : String) (body : Bytes) (off : Option Nat)
    (bk : Bucket) (hfb : findBucket s b = some bk) (e : ETag) (size : Nat)
    (hack : step q s (.append b k body off) = (s1, .appended e size)) :
    ∃ v, (step q s1 (.get b k none)).2 = .obj v ∧ v.body = (existingParts bk k).flatten ++ body ∧
      v.size = size ∧ size = ((existingParts bk k).flatten ++ body).length := by
  obtain ⟨bk', row, hf2, hl2, hdm, hp, hsz, _⟩ := append_installs (inv_tick hinv) (findBucket_tick .. ▸ hfb) hack
  rw [existingParts_eq, ← flatten_snoc, ← hp]
  exact ⟨viewOf row, (get_current (q := q) hf2 hl2 hdm).1, rfl, by rw [hsz, ← hp]; rfl, by rw [hsz, ← hp]⟩

/-- `append_extends` in terms of what GET reported before the append. -/
theorem append_extends_get (q : Quirks) (s s1 : State) (hinv : Inv s) (b k : String) (body : Bytes) (off : Option Nat)
    (e : ETag) (size : Nat) (hack : step q s (.append b k body off) = (s1, .appended e size)) :
    currentBody q s1 b k = currentBody q s b k ++ body ∧ currentSize q s1 b k = some size ∧
      size = (currentBody q s b k ++ body).length := by
  obtain ⟨bk, hfb⟩ := appended_bucket hack
  obtain ⟨v, hg, hb, hs, hsz⟩ := append_extends q s s1 hinv b k body off bk hfb e size hack
  rw [existingParts_is_current q s b k bk hfb]
  refine ⟨?_, ?_, hsz⟩
  · unfold currentBody; rw [hg]; exact hb
  · unfold currentSize; rw [hg]; simp [hs]

/-- Appends compose: two acknowledged appends in a row (any operations not writing the key in
between) leave the key holding old ++ first ++ second. -/
theorem two_appends (q : Quirks) (s s1 s2 : State) (hinv : Inv s) (b k : String) (x y : Bytes) (ox oy : Option Nat)
    (e1 e2 : ETag) (n1 n2 : Nat) (mid : List Op) (hmid : ∀ op ∈ mid, ¬ Writes op b k)
    (h1 : step q s (.append b k x ox) = (s1, .appended e1 n1))
    (h2 : step q (run q s1 mid).1 (.append b k y oy) = (s2, .appended e2 n2)) :
    currentBody q s2 b k = currentBody q s b k ++ x ++ y := by
  have hinv1 : Inv s1 := by have := step_inv q s (.append b k x ox) hinv; rw [h1] at this; exact this
  obtain ⟨a1, _, _⟩ := append_extends_get q s s1 hinv b k x ox e1 n1 h1
  obtain ⟨a2, _, _⟩ := append_extends_get q _ s2 (run_inv q mid s1 hinv1) b k y oy e2 n2 h2
  -- GET succeeds right after the first append, and the operations in between do not change what it returns
  obtain ⟨bk, hfb⟩ := appended_bucket h1
  obtain ⟨v, hgv, _⟩ := append_extends q s s1 hinv b k x ox bk hfb e1 n1 h1
  obtain ⟨v', hg', hb, _⟩ := Pithos.C01.get_stable q s1 hinv1 b k v hgv mid hmid
  have hstable : currentBody q (run q s1 mid).1 b k = currentBody q s1 b k := by
    unfold currentBody; rw [hg', hgv]; exact hb
  rw [a2, hstable, a1]

/-- **Negation witness for the code before /repo 8a5dc41**: in a suspended bucket whose current
version is a delete marker, an append turned the marker into an object under the marker's version
id instead of writing the null version. -/
theorem before_fix_append_revives_delete_marker :
    let ops : List Op := [.mkb "b", .setVer "b" .enabled, .put "b" "k" [1] {} false .none, .del "b" "k" none .none,
                          .setVer "b" .suspended, .append "b" "k" [7] (some 0)]
    (match (step Quirks.beforeAppendFix (run Quirks.beforeAppendFix {} ops).1 (.get "b" "k" none)).2 with
     | .obj v => v.vid | _ => some 99) = some 1 ∧
    (match (step Quirks.code (run Quirks.code {} ops).1 (.get "b" "k" none)).2 with
     | .obj v => v.vid | _ => some 99) = none := by
  decide

/-- Non-vacuity of `append_extends`: an append in an enabled bucket is acknowledged. -/
example : (step Quirks.code (run Quirks.code {} [.mkb "b", .setVer "b" .enabled, .put "b" "k" [1] {} false .none]).1
    (.append "b" "k" [2, 3] (some 1))).2 = .appended (multiETag [[1], [2, 3]]) 3 := by decide

end Pithos.C12
