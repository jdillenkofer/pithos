/-
C20 — the object-cache middleware is transparent.

Model: `Pithos.Model.ObjectCache` (hand-written, tied to the code by the lock-step differential of
harness/cmd/verifharness/c20.go). Table: `Pithos.Gen.ObjectCache` (regenerated from /repo on every run).

Sequential statement, for EVERY inner storage satisfying `InnerOK`, every history (including arbitrary
evictions at arbitrary moments) and every cache state reachable from the empty cache:
  the outputs behind the middleware = the outputs of the inner storage alone   (`cache_transparent`).
It needs (a) every mutating method to be covered by an invalidating override and (b) the cached head to
survive its JSON round trip. The tree before the two C20 repairs (DESIGN §13.3) failed both — (a) for
exactly one method, TransitionObjectStorageClass (`tableWithoutTransition`), (b) for `Object.Key`
(`keepKey = false`) — so the full theorem is stated for any covering table and `keepKey = true`, the
pre-repair parameters get negation witnesses, and `cache_transparent_asis_partial` states what holds for
whatever table the extractor regenerates (`uncovered_known` bounds what it may miss).

Concurrent statement: `body_matches_head` for the atomic-step model with version-tagged body entries;
negation witnesses for the untagged (as-is) design.

The assumptions `InnerOK` (on the inner storage) and `MutCovered` (on the override table), the coherence
invariant `Coh` and the step and run lemmas are in `Pithos.Lemmas.ObjectCache`; the invariant of the
concurrent machine, shown per kind of step of a thread, is in `Pithos.Lemmas.ObjectCacheConc`.
-/
import Pithos.Gen.ObjectCache
import Pithos.Lemmas.ObjectCache
import Pithos.Lemmas.ObjectCacheConc

namespace Pithos.C20
open Pithos.ObjectCache

/-- One evaluation of the two hand-written lists against the regenerated method set; the three
statements below are read off it. -/
theorem methods_partition :
    (mutatingMethods ++ nonMutatingMethods).Perm Gen.ObjectCache.storageMethods ∧
    ∀ m ∈ mutatingMethods, m ∉ nonMutatingMethods := by decide +kernel

/-- Every method of `storage.Storage` has been classified (a new method forces a decision). -/
theorem classification_total :
    ∀ m ∈ Gen.ObjectCache.storageMethods, m ∈ mutatingMethods ∨ m ∈ nonMutatingMethods :=
  fun _ h => List.mem_append.1 (methods_partition.1.mem_iff.2 h)

/-- …and no method is classified both ways; the mutating ones still exist. -/
theorem classification_disjoint : ∀ m ∈ mutatingMethods, m ∉ nonMutatingMethods := methods_partition.2
theorem mutating_are_methods : ∀ m ∈ mutatingMethods, m ∈ Gen.ObjectCache.storageMethods :=
  fun _ h => methods_partition.1.mem_iff.1 (List.mem_append_left _ h)

/-- Methods the middleware does not override reach the inner storage unchanged: the delegator's list
is the method set, literal by literal. -/
theorem delegator_passes_everything :
    ∀ m ∈ Gen.ObjectCache.storageMethods, m ∈ Gen.ObjectCache.delegatorPassThrough :=
  fun _ h => (rfl : Gen.ObjectCache.delegatorPassThrough = Gen.ObjectCache.storageMethods) ▸ h

/-- `invalidateObjectCaches` removes the body entry and the head entry. -/
theorem invalidate_removes_both :
    "objectCacheKey" ∈ Gen.ObjectCache.invalidateRemoves ∧ "headCacheKey" ∈ Gen.ObjectCache.invalidateRemoves := by decide +kernel

/-- Each invalidating override invalidates the key it wrote: the destination for CopyObject, the
deleted entry for DeleteObjects, the addressed key otherwise. -/
theorem invalidated_key_is_the_written_key :
    ∀ e ∈ Gen.ObjectCache.overrides, Mode.ofString e.2.1 ≠ .none →
      e.2.2 = (if e.1 = "CopyObject" then "dstBucket,dstKey"
               else if e.1 = "DeleteObjects" then "bucketName,entry.Key" else "bucketName,key") := by decide +kernel

def asIsMode : String → Mode := modeOfTable Gen.ObjectCache.overrides

/-- The mutating methods no override takes care of, according to the current source. -/
def uncovered : List String := mutatingMethods.filter (fun m => !covers (asIsMode m) m)

/-- The regenerated override table misses at most the one known method (exactly it in a tree without
`fixes/C20-invalidate-on-transition.patch`, none in a tree with it). Any OTHER mutating method losing its
invalidation breaks this obligation. -/
theorem uncovered_known : ∀ m ∈ uncovered, m = "TransitionObjectStorageClass" := by decide +kernel

/-- The table with the TransitionObjectStorageClass override taken out: the middleware as it was written. -/
def tableWithoutTransition : List (String × String × String) :=
  Gen.ObjectCache.overrides.filter (fun e => e.1 != "TransitionObjectStorageClass")

/-- Every invalidating override invalidates AFTER the inner storage has executed the call (an invalidation
before it would let a request served in between re-fill the cache with the old object: `early_invalidation_goes_stale`). -/
theorem invalidation_follows_inner_call : ∀ e ∈ Gen.ObjectCache.invalidationPosition, e.2 = "after" := by decide +kernel

theorem only_put_fills : ∀ e ∈ Gen.ObjectCache.overrides, Mode.ofString e.2.1 = .putFill → e.1 = "PutObject" := by decide +kernel

/-- The table after the proposed repair. -/
def repairedTable : List (String × String × String) :=
  tableWithoutTransition ++ [("TransitionObjectStorageClass", "on-success", "bucketName,key")]

theorem repaired_table_covers : ∀ m ∈ mutatingMethods, covers (modeOfTable repairedTable m) m = true := by decide +kernel
theorem repaired_only_put_fills : ∀ e ∈ repairedTable, Mode.ofString e.2.1 = .putFill → e.1 = "PutObject" := by decide +kernel

/-- **cache_transparent_partial.** For every inner storage, every history whose calls are covered, every
eviction behaviour, and every coherent starting cache: same outputs with and without the middleware. The
two theorems after it put in a table and the empty cache. -/
theorem cache_transparent_partial {σ} (I : Inner σ) (hI : InnerOK I) (p : Params) (hk : p.keepKey = true)
    (ops : List Op) (s : σ) (c : Cache) (hc : Coh I s c) (hops : ∀ op ∈ ops, OpCovered p op) :
    runCached I p s c ops = runInner I s ops := by
  rw [← runCachedSt_snd, ← runInnerSt_snd]
  exact (run_transparent_st I hI p hk ops s c hc hops).1

/-- **cache_transparent.** With a table that covers every mutating method and a head that survives its
round trip, the middleware is transparent for ALL histories, starting from the empty cache. -/
theorem cache_transparent {σ} (I : Inner σ) (hI : InnerOK I) (tbl : List (String × String × String)) (maxObj : Nat)
    (hcov : ∀ m ∈ mutatingMethods, covers (modeOfTable tbl m) m = true)
    (hput : ∀ e ∈ tbl, Mode.ofString e.2.1 = .putFill → e.1 = "PutObject")
    (ops : List Op) (s : σ) :
    runCached I ⟨modeOfTable tbl, true, maxObj⟩ s Cache.empty ops = runInner I s ops := by
  refine cache_transparent_partial I hI _ rfl ops s _ (coh_empty I s) ?_
  intro op _
  cases op with
  | call m => exact mutCovered_of_table tbl true maxObj hput m (hcov _)
  | _ => trivial

/-- The repaired middleware (Transition invalidates, the key survives) is transparent for all histories. -/
theorem cache_transparent_repaired {σ} (I : Inner σ) (hI : InnerOK I) (maxObj : Nat) (ops : List Op) (s : σ) :
    runCached I ⟨modeOfTable repairedTable, true, maxObj⟩ s Cache.empty ops = runInner I s ops :=
  cache_transparent I hI repairedTable maxObj repaired_table_covers repaired_only_put_fills ops s

/-- What holds for the override table of the current tree (with the key surviving): transparency for
every history that does not call a method the table leaves uncovered (today: a storage-class transition). -/
theorem cache_transparent_asis_partial {σ} (I : Inner σ) (hI : InnerOK I) (maxObj : Nat) (ops : List Op) (s : σ)
    (havoid : ∀ m, Op.call m ∈ ops → m.method ∉ uncovered) :
    runCached I ⟨asIsMode, true, maxObj⟩ s Cache.empty ops = runInner I s ops := by
  refine cache_transparent_partial I hI _ rfl ops s _ (coh_empty I s) ?_
  intro op hop
  cases op with
  | call m =>
    refine mutCovered_of_table Gen.ObjectCache.overrides true maxObj only_put_fills m (fun hm => ?_)
    show covers (asIsMode m.method) m.method = true
    have hnot := havoid m hop
    simp only [uncovered, List.mem_filter, not_and, Bool.not_eq_true'] at hnot
    simpa using hnot hm
  | _ => trivial

/-- **window_transparent.** An override that invalidates AFTER the inner call stays transparent when other
requests are served while the call is in flight at the inner storage: for every coherent cache, every covered
call and any requests in the window, the outputs are those of the inner storage alone and the cache stays
coherent — so every later read is answered like the inner storage answers it. -/
theorem window_transparent {σ} (I : Inner σ) (hI : InnerOK I) (p : Params) (hk : p.keepKey = true)
    (s : σ) (c : Cache) (hc : Coh I s c) (m : Mut) (hm : MutCovered p m) (reads : List Op)
    (hr : ∀ op ∈ reads, OpCovered p op) :
    (runWin I p false s c m reads).2 = (runInnerSt I s (reads ++ [.call m])).2 ∧
    Coh I (runWin I p false s c m reads).1.1 (runWin I p false s c m reads).1.2 := by
  have hops : ∀ op ∈ reads ++ [Op.call m], OpCovered p op := by
    intro op hop
    rcases List.mem_append.1 hop with h | h
    · exact hr op h
    · simp only [List.mem_singleton] at h; subst h; exact hm
  obtain ⟨h1, _, h3⟩ := run_transparent_st I hI p hk (reads ++ [.call m]) s c hc hops
  simp only [runWin, Bool.false_eq_true, if_false]
  exact ⟨h1, h3⟩

/-- A toy inner storage whose object "b/k" is replaced by CompleteMultipartUpload (state = which version). -/
def toy2 : Inner Bool where
  cur s k := if k = "b/k" then .ok (⟨if s then "e2" else "e1", 1, "k", "r"⟩, if s then "new" else "old") else .error "NoSuchKey"
  apply s m := if m.method = "CompleteMultipartUpload" ∧ m.key = "b/k" then (true, true, []) else (s, false, [])

/-- **Witness** (seeded change C20-3; realised on the real code by the gated-inner-store histories of the
harness): if the override invalidates before the inner call, a GetObject served in the window re-caches
the old object, and after the call has returned the middleware still answers the old object. -/
theorem early_invalidation_goes_stale :
    let p : Params := ⟨modeOfTable repairedTable, true, 100⟩
    let w := runWin toy2 p true false Cache.empty { method := "CompleteMultipartUpload", key := "b/k" } [.get "b/k" {} true]
    (stepCached toy2 p w.1.1 w.1.2 (.get "b/k" {} true)).2 ≠ (stepInner toy2 w.1.1 (.get "b/k" {} true)).2 := by
  decide +kernel

/-- …while the override as it is answers the new object (and `window_transparent` says so for all histories). -/
example :
    let p : Params := ⟨modeOfTable repairedTable, true, 100⟩
    let w := runWin toy2 p false false Cache.empty { method := "CompleteMultipartUpload", key := "b/k" } [.get "b/k" {} true]
    (stepCached toy2 p w.1.1 w.1.2 (.get "b/k" {} true)).2 = (stepInner toy2 w.1.1 (.get "b/k" {} true)).2 := by
  decide +kernel

def toyHead (cls : Bool) : Head := ⟨"e", 1, "k", if cls then "GLACIER" else "STANDARD"⟩

/-- A toy inner storage: one object "b/k" whose storage class is the state; only
TransitionObjectStorageClass of that key succeeds (and flips the class). -/
def toy : Inner Bool where
  cur s k := if k = "b/k" then .ok (toyHead s, "x") else .error "NoSuchKey"
  apply s m := if m.method = "TransitionObjectStorageClass" ∧ m.key = "b/k" then (!s, true, []) else (s, false, [])

/-- The toy storage meets every assumption of the theorem — the violation below is the middleware's. -/
theorem toy_ok : InnerOK toy := by
  constructor
  · intro s m k h b hcur hside
    simp only [toy] at hcur hside ⊢
    by_cases ht : m.method = "TransitionObjectStorageClass" ∧ m.key = "b/k"
    · simp only [ht, and_self, if_true] at hside ⊢
      rcases hside with h1 | h1 | h1
      · exact absurd (by decide) h1
      · cases h1
      · by_cases hk : k = "b/k"
        · exact absurd (by simp [targets, ht.1, ht.2, hk]) h1
        · simp [hk] at hcur
    · simpa [ht] using hcur
  · intro s m hm hok
    simp only [toy] at hok
    by_cases ht : m.method = "TransitionObjectStorageClass" ∧ m.key = "b/k"
    · rw [hm] at ht; exact absurd ht.1 (by decide)
    · simp [ht] at hok

def transitionHistory : List Op :=
  [.head "b/k" {}, .call { method := "TransitionObjectStorageClass", key := "b/k" }, .head "b/k" {}]

/-- **Witness 1** (the history replayed on the real code, known finding
`C20.stale-read-after-TransitionObjectStorageClass`): with the override table as it was written
(`tableWithoutTransition`) a HeadObject after a storage-class transition still answers the old class. -/
theorem asis_not_transparent_transition :
    runCached toy ⟨modeOfTable tableWithoutTransition, true, 100⟩ false Cache.empty transitionHistory
      ≠ runInner toy false transitionHistory := by decide +kernel

/-- …and the same history is answered correctly with the repaired table. -/
example : runCached toy ⟨modeOfTable repairedTable, true, 100⟩ false Cache.empty transitionHistory
      = runInner toy false transitionHistory := by decide +kernel

/-- **Witness 2** (known finding `C20.cached-object-key-empty`): when the JSON round trip drops
`Object.Key`, the second of two HeadObject calls answers a different object than the inner storage. -/
theorem asis_not_transparent_key :
    runCached toy ⟨modeOfTable repairedTable, false, 100⟩ false Cache.empty [.head "b/k" {}, .head "b/k" {}]
      ≠ runInner toy false [.head "b/k" {}, .head "b/k" {}] := by decide +kernel

/-- Non-vacuity of `cache_transparent_asis_partial`: a history with reads, a covered mutating call and an
eviction meets its hypothesis. -/
example : ∀ m, Op.call m ∈ ([.head "b/k" {}, .call { method := "DeleteObject", key := "b/k" }, .evict ["b/k"] [], .get "b/k" {} true] : List Op)
    → m.method ∉ ["TransitionObjectStorageClass"] := by
  intro m hm
  simp at hm
  subst hm
  decide

namespace Conc
open Pithos.ObjectCache.Conc

/-- **body_matches_head.** Tagged design: for any number of put/get/invalidate threads started with
empty locals (at any program point), any initial committed version and EVERY schedule, each pair handed
to a caller has the body of exactly the version whose head it carries, and that version was committed. -/
theorem body_matches_head (cur : Option Nat) (ts : List Thread) (hts : ∀ t ∈ ts, t.locals = [])
    (sched : List Nat) :
    ∀ p ∈ (run true (init cur ts) sched).returned, p.1 = p.2 ∧ p.1 ∈ (run true (init cur ts) sched).written := by
  have h0 : GInv (init cur ts) := by
    refine ⟨⟨?_, ?_, ?_, ?_⟩, ?_⟩
    · intro v hv; simp [init] at hv ⊢; exact hv
    · intro h hh; simp [init] at hh
    · intro b t hb; simp [init] at hb
    · intro p hp; simp [init] at hp
    · intro t ht x hx; simp [init] at ht; rw [hts t ht] at hx; cases hx
  exact (run_ginv _ sched h0).1.returned

/-- **Witness 3** (as-is, untagged; realised on the real code by schedule 1 of the harness, known
finding `C20.conc-body-of-other-version`): version 0 is cached; a put of version 1 has stored the new
body but not yet the new head; a concurrent get pairs the old head with the new body. -/
theorem untagged_pairs_old_head_with_new_body :
    (run false { inner := some 0, written := [0], chead := some 0, cbody := some (0, 0),
                 threads := [.put 1 true .p0 none, .get .g0 none none], returned := [] } [0, 1, 1]).returned
      = [(0, 1)] := by decide +kernel

/-- **Witness 4** (as-is; schedule 0 of the harness): a reader of version 0 is still streaming while a
put of version 1 completes; its late cache fill leaves head 1 / body 0 behind, and the next get returns
that pair — also once nothing runs concurrently any more. -/
theorem untagged_late_fill_leaves_mismatch :
    (run false (init (some 0) [.get .g0 none none, .put 1 true .p0 none, .get .g0 none none])
        [0, 0, 0, 0, 1, 1, 1, 1, 0, 2, 2]).returned = [(1, 0), (0, 0)] := by decide +kernel

/-- The tagged design answers both schedules consistently. -/
example :
    (run true { inner := some 0, written := [0], chead := some 0, cbody := some (0, 0),
                threads := [.put 1 true .p0 none, .get .g0 none none], returned := [] } [0, 1, 1, 1, 1, 1]).returned
      = [(0, 0)] := by decide +kernel

end Conc

end Pithos.C20
