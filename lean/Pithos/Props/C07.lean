/-
C07 — conditional writes are atomic under concurrency. Property theorems.

 (i)   the sequential specification `S3.step` (what a conditional write means, one at a time):
       `cond_write_spec` (all states), `inm_at_most_one_winner`, `inm_puts_exactly_first`
       (all reachable states) — proofs in Pithos.Lemmas.CondWrite, CondWriteInv; with the negation witness
       `inm_refused_on_absent_key_before_fix` for the code before the repair 373419f;
 (ii)  `atomic_ops_linearizable`, `checkCert_sound` — linearizability w.r.t. an arbitrary sequential
       specification (Pithos.Model.Linearize); the premise "every storage call takes effect atomically"
       is, for SQLite, the regenerated fact table `Pithos.Gen.TxFacts` (T1) — obligations below;
       `linearizable_inm_at_most_one_winner` joins (i) and (ii);
 (iii) `cas_no_lost_update` on `Pithos.MetaFine`, the statement-level model of the optimistic-lock
       protocol, for arbitrary interleavings (what matters off SQLite) — proofs in
       Pithos.Lemmas.MetaFine. The append theorems of the same model are in Props/C12Concurrent.lean.
 (iv)  the DATA FLOW of the real conditional write paths, regenerated from the sources
       (`Pithos.Gen.CondPaths`): `if_match_commits_only_on_the_compared_row` on `Pithos.CondProto`
       (one If-Match writer of an arbitrary path shape against an arbitrary environment) says which
       shapes are safe; `extracted_if_match_paths_lock_the_compared_row` decides that the extracted
       ones are; `reread_without_recompare_overwrites` is what happens otherwise.
-/
import Pithos.Lemmas.Linearize
import Pithos.Gen.TxFacts
import Pithos.Lemmas.CondWriteInv
import Pithos.Lemmas.MetaFine
import Pithos.Lemmas.CondProto
import Pithos.Gen.CondPaths

namespace Pithos.C07
open Pithos.Lin Pithos.Gen.TxFacts

section Spec
open Pithos.S3

/-- **cond_write_spec** (every state, every quirk setting). An If-Match put, complete or delete
succeeds only if the key's current object has that ETag; an If-None-Match put or complete succeeds
only if the key holds no object; a conditional write that fails changes nothing but the clock. -/
theorem cond_write_spec (q : Quirks) (s : State) (b k : String) :
    (∀ body o inm e vid et, (step q s (.put b k body o inm (.etag e))).2 = .wrote vid et →
      ∃ bk r, findBucket s b = some bk ∧ latestRow bk k = some r ∧ r.dm = false ∧ r.etag = e) ∧
    (∀ uid declared inm e vid et, (step q s (.complete b k uid declared inm (.etag e))).2 = .wrote vid et →
      ∃ bk r, findBucket s b = some bk ∧ latestRow bk k = some r ∧ r.dm = false ∧ r.etag = e) ∧
    (∀ e vid dm, (step q s (.del b k none (.etag e))).2 = .deleted vid dm →
      ∃ bk r, findBucket s b = some bk ∧ latestRow bk k = some r ∧ r.dm = false ∧ r.etag = e) ∧
    (∀ body o im vid et, (step q s (.put b k body o true im)).2 = .wrote vid et → present s b k = false) ∧
    (∀ uid declared im vid et, (step q s (.complete b k uid declared true im)).2 = .wrote vid et → present s b k = false) ∧
    (∀ body o inm im e, (step q s (.put b k body o inm im)).2 = .err e →
      (step q s (.put b k body o inm im)).1 = { s with clock := s.clock + 1 }) ∧
    (∀ uid declared inm im e, (step q s (.complete b k uid declared inm im)).2 = .err e →
      (step q s (.complete b k uid declared inm im)).1 = { s with clock := s.clock + 1 }) :=
  ⟨fun _ _ _ _ _ _ h => ((step_put_cases ..).wrote_ifMatch h).etag,
   fun _ _ _ _ _ _ h => ((step_complete_cases ..).wrote_ifMatch h).etag,
   fun _ _ _ h => (del_deleted_ifMatch h).etag,
   fun _ _ _ _ _ h => (step_put_cases ..).wrote_inm h,
   fun _ _ _ _ _ h => (step_complete_cases ..).wrote_inm h,
   fun _ _ _ _ _ h => (step_put_cases ..).err_state h,
   fun _ _ _ _ _ h => (step_complete_cases ..).err_state h⟩

/-- Well-formedness (distinct row ids below the counter, at most one latest row per key) holds in
every reachable state: it is preserved by EVERY operation of the specification. -/
theorem wf_reachable (q : Quirks) (ops : List Op) : WF (run q {} ops).1 := S3.wf_reachable q ops

/-- **inm_at_most_one_winner.** From any well-formed state, among ANY sequence of If-None-Match
writes (puts and completes, in any order, with any further If-Match argument) to one key at most
one succeeds, and after a success every later one fails. -/
theorem inm_at_most_one_winner (q : Quirks) (s : State) (b k : String) (ops : List Op) (hwf : WF s)
    (hops : ∀ op ∈ ops, IsInmWrite b k op) :
    ((run q s ops).2.filter Out.isWrote).length ≤ 1 ∧
    (run q s ops).2.Pairwise (fun o o' => o.isWrote = true → o'.isWrote = false) :=
  ⟨S3.inm_at_most_one_winner q s b k ops hwf hops, S3.inm_winner_then_all_fail q s b k ops hwf hops⟩

/-- **inm_puts_exactly_first** — full strength, the code since the repair 373419f. In EVERY
reachable state (after any history `pre` from the empty store, whatever versioning modes, delete
markers and null versions it left behind), on an absent key of an existing bucket, of any non-empty
sequence of If-None-Match puts exactly the first succeeds and all others are refused. -/
theorem inm_puts_exactly_first (q : Quirks) (pre : List Op) (b k : String) (bodies : List (Bytes × WriteOpts))
    (hb : (findBucket (run q {} pre).1 b).isSome = true) (ha : present (run q {} pre).1 b k = false)
    (hne : bodies ≠ []) :
    (run q (run q {} pre).1 (bodies.map fun (body, o) => Op.put b k body o true .none)).2
      = .wrote (if ((findBucket (run q {} pre).1 b).map (·.ver)) = some .enabled
                then some (run q {} pre).1.nextVid else none)
            (singleETag (bodies.head hne).1)
          :: List.replicate (bodies.length - 1) (.err .preconditionFailed) :=
  S3.inm_puts_exactly_first q _ b k bodies (S3.wf_reachable q pre) hb ha ((S3.mv_reachable q pre).noNullMarker b k) hne

/-- The same from an arbitrary state, with the two facts it rests on as explicit hypotheses:
well-formedness and "no delete marker is a null version" — both are invariants of every operation
(`wf_reachable`, `markers_versioned_reachable`). -/
theorem inm_puts_exactly_first_of_invariants (q : Quirks) (s : State) (b k : String) (bodies : List (Bytes × WriteOpts))
    (hwf : WF s) (hb : (findBucket s b).isSome = true) (ha : present s b k = false)
    (hm : NoNullMarker s b k) (hne : bodies ≠ []) :
    (run q s (bodies.map fun (body, o) => Op.put b k body o true .none)).2
      = .wrote (if ((findBucket s b).map (·.ver)) = some .enabled then some s.nextVid else none)
            (singleETag (bodies.head hne).1)
          :: List.replicate (bodies.length - 1) (.err .preconditionFailed) :=
  S3.inm_puts_exactly_first q s b k bodies hwf hb ha hm hne

theorem markers_versioned_reachable (q : Quirks) (ops : List Op) : MarkersVersioned (run q {} ops).1 :=
  S3.mv_reachable q ops

/-- Negation witness for the code BEFORE the repair 373419f (`putRowAsIs`: the write path with the
old test "a null version of the key exists"): a well-formed state in which the key is absent — a
delete marker is current, a null version lies underneath, the bucket is suspended — where the old
path refused an If-None-Match write (zero winners for any number of racers) and the repaired one
accepts it. The state is reachable: put; enable versioning; delete; suspend versioning. Replayed
on the implementation by directed histories 6/14/22 of c07.go (finding
`C07.inm.refused-on-absent-key-hidden-null-version`, fixed). -/
theorem inm_refused_on_absent_key_before_fix :
    present hiddenNullState "b" "k" = false ∧
    (putRowAsIs Quirks.code hiddenNullState hiddenNullBucket "k" { parts := [[2]], etag := singleETag [2] } true .none).toBool
      = false ∧
    (putRow Quirks.code hiddenNullState hiddenNullBucket "k" { parts := [[2]], etag := singleETag [2] } true .none).toBool
      = true ∧
    ((run Quirks.code {} [.mkb "b", .put "b" "k" [1] {} false .none, .setVer "b" .enabled,
        .del "b" "k" none .none, .setVer "b" .suspended]).1.buckets.map (fun bk => (bk.ver, bk.rows.map fun r => (r.vid, r.dm, r.latest))))
      = [(Versioning.suspended, [(none, false, false), (some 0, true, true)])] := by
  decide

/-- Non-vacuity and the repaired behaviour on that very history: the first If-None-Match put wins,
the second is refused. -/
example :
    (run Quirks.code {} [.mkb "b", .put "b" "k" [1] {} false .none, .setVer "b" .enabled,
      .del "b" "k" none .none, .setVer "b" .suspended, .put "b" "k" [2] {} true .none,
      .put "b" "k" [3] {} true .none]).2.map Out.isWrote
      = [false, true, false, false, false, true, false] := by
  decide

end Spec

/-- The storage methods the property is about. -/
def namedMutators : List String :=
  ["PutObject", "CompleteMultipartUpload", "DeleteObject", "DeleteObjects", "AppendObject"]

/-- Each of them runs exactly one transaction, a writable one on the storage's database, performs
every metadata-store / part-store call inside it, and starts no goroutine. -/
theorem named_mutators_run_in_one_writable_tx :
    ∀ n ∈ namedMutators, ∃ m ∈ methods, m.name = n ∧ m.withTx = 1 ∧ m.writable = 1 ∧
      m.storeCallsOutside = 0 ∧ m.goStmts = 0 ∧ 0 < m.storeCallsInside := by
  decide +kernel

/-- … and so does every other method of the storage that opens a writable transaction. -/
theorem every_writing_method_runs_in_one_tx :
    ∀ m ∈ methods, 1 ≤ m.writable → m.withTx = 1 ∧ m.writable = 1 ∧ m.storeCallsOutside = 0 ∧ m.goStmts = 0 := by
  decide +kernel

/-- SQLite: writable transactions begin on a pool of ONE connection whose transactions are
`BEGIN IMMEDIATE` — they are serialised, each is one atomic step. -/
theorem sqlite_write_transactions_serialised :
    writablePoolMaxOpenConns = 1 ∧ writableTxLock = "immediate" ∧ writeTxOnWritablePool = true := by
  decide +kernel

/-- The statements `Pithos.MetaFine` models have the modelled shape: guarded compare-and-swap
update/delete on (id, optimistic_lock_version), every update bumps the version, and a unique index
allows one latest completed row per key. -/
theorem cas_statements_have_the_modelled_shape :
    casUpdateGuarded = true ∧ casUpdateBumpsVersion = true ∧ casUpdateReportsRowsAffected = true ∧
    plainUpdateBumpsVersion = true ∧ casDeleteGuarded = true ∧
    latestUniqueIndex = some ("bucket_name,key,upload_status,is_latest", "upload_status = 'COMPLETED' AND is_latest = 1") ∧
    appendCasFailureIsInvalidWriteOffset = true := by
  decide +kernel

/-- … and they are used where the model uses them. -/
theorem cas_is_used_where_modelled :
    (∀ n ∈ ["PutObject", "CompleteMultipartUpload", "DeleteObject", "AppendObject"],
      ∃ m ∈ sqlMethods, m.name = n ∧ 1 ≤ m.casUpdates) ∧
    (∀ n ∈ ["PutObject", "CompleteMultipartUpload"], ∃ m ∈ sqlMethods, m.name = n ∧ 1 ≤ m.uniqueMapped) ∧
    (∀ n ∈ ["DeleteObject", "CompleteMultipartUpload"], ∃ m ∈ sqlMethods, m.name = n ∧ 1 ≤ m.casDeletes) := by
  decide +kernel

/-- **atomic_ops_linearizable.** If every operation of a concurrent history takes effect atomically
at a point between its invocation and its response — `order` lists the operations by effect point
and is sequentially legal for the specification `step` — then the history is linearizable with
respect to `step`. (Any specification, any state and operation types.) -/
theorem atomic_ops_linearizable {St Op Out Obs : Type} (step : St → Op → St × Out) (agree : Out → Obs → Bool)
    (s : St) (h order : List (Ev Op Obs)) (pt : Ev Op Obs → Nat)
    (hperm : order.Perm h)
    (hsorted : order.Pairwise (fun a b => pt a < pt b))
    (hwithin : ∀ e ∈ h, e.inv ≤ pt e ∧ pt e ≤ e.resp)
    (hlegal : Legal step agree s order) :
    Linearizable step agree s h :=
  Lin.atomic_ops_linearizable step agree s h order pt hperm hsorted hwithin hlegal

/-- **checkCert_sound.** The driver validates every linearization its search finds with
`Lin.checkCert`; an accepted order proves the recorded history linearizable. -/
theorem checkCert_sound {St Op Out Obs : Type} (step : St → Op → St × Out) (agree : Out → Obs → Bool) (s : St)
    (h : List (Ev Op Obs)) (order : List Nat) (hc : checkCert step agree s h order = true) :
    Linearizable step agree s h := by
  simp only [checkCert, Bool.and_eq_true] at hc
  obtain ⟨⟨hp, hr⟩, hl⟩ := hc
  exact ⟨pick h order, pick_perm h order hp, (realTimeB_iff _).1 hr, hl⟩

/-- Non-vacuity of the definition: a two-operation history of a register-like specification that is
linearizable only in the order opposite to the invocation order (overlapping calls), and one that
is not linearizable at all (the second call began after the first returned). -/
example :
    let step : Nat → Nat → Nat × Nat := fun s x => (x, s)      -- write x, return the old value
    let agree : Nat → Nat → Bool := fun a b => a == b
    checkCert step agree 0 [⟨1, 4, 7, 9⟩, ⟨2, 3, 9, 0⟩] [1, 0] = true ∧
    checkCert step agree 0 [⟨1, 4, 7, 9⟩, ⟨2, 3, 9, 0⟩] [0, 1] = false ∧
    checkCert step agree 0 [⟨1, 2, 7, 9⟩, ⟨3, 4, 9, 0⟩] [1, 0] = false := by
  decide

section Join
open Pithos.S3

/-- Observation of a recorded call for the winner count: did it succeed? -/
def wroteAgree (o : S3.Out) (b : Bool) : Bool := o.isWrote == b

theorem legal_obs_eq_run (q : Quirks) (s : State) (lin : List (Ev Op Bool))
    (h : legalB (step q) wroteAgree s lin = true) :
    lin.map (·.obs) = (run q s (lin.map (·.op))).2.map Out.isWrote := by
  induction lin generalizing s with
  | nil => simp [run]
  | cons e es ih =>
    simp only [legalB, Bool.and_eq_true] at h
    have h1 : (step q s e.op).2.isWrote = e.obs := by simpa [wroteAgree] using h.1
    have := ih (step q s e.op).1 h.2
    simp only [List.map_cons, run]
    rw [this, h1]

/-- **linearizable_inm_at_most_one_winner.** A concurrent history that consists of If-None-Match
writes to one key and is linearizable with respect to the specification from a reachable
(well-formed) state has at most one successful call — whatever the interleaving was. Together with
`atomic_ops_linearizable` and the T1 facts this is the property's first sentence for SQLite; the
driver establishes the premise `Linearizable` for each recorded history (`checkCert_sound`). -/
theorem linearizable_inm_at_most_one_winner (q : Quirks) (s : State) (b k : String) (h : List (Ev Op Bool))
    (hwf : WF s) (hops : ∀ e ∈ h, IsInmWrite b k e.op)
    (hlin : Linearizable (step q) wroteAgree s h) :
    (h.filter (·.obs)).length ≤ 1 := by
  obtain ⟨lin, hperm, _, hlegal⟩ := hlin
  have hobs := legal_obs_eq_run q s lin hlegal
  have hops' : ∀ op ∈ lin.map (·.op), IsInmWrite b k op := by
    intro op hop
    obtain ⟨e, he, rfl⟩ := List.mem_map.1 hop
    exact hops e (hperm.subset he)
  have hw := S3.inm_at_most_one_winner q s b k (lin.map (·.op)) hwf hops'
  have key : ∀ {α} (f : α → Bool) (l : List α), ((l.map f).filter id).length = (l.filter f).length :=
    fun f l => by rw [List.filter_map]; simp [Function.comp_def]
  rw [← (hperm.filter _).length_eq, ← key, hobs, key]
  exact hw

end Join

section Fine
open Pithos.MetaFine

/-- **cas_no_lost_update.** In `MetaFine`, for ARBITRARY interleavings of the reads and guarded
commits of any number of writers (puts/completes, deletes, appends; conditional or not): every
committed If-Match put/complete and If-Match delete replaced exactly a row with the parts (= ETag)
it named — the version compare-and-swap rules out that the row changed between the writer's read
and its commit; a committed If-None-Match writer replaced nothing (the unique index on the latest
row). So no acknowledged write is overwritten by a conditional writer that saw an older ETag. -/
theorem cas_no_lost_update (sz : PartId → Nat) (row : Option Cell) (nextId : Nat) (progs : List Prog) (sched : List Nat)
    (hid : ∀ c, row = some c → c.id < nextId) :
    ∀ cm ∈ (exec sz (init row nextId progs) sched).log,
      (∀ new e, progs[cm.tid]? = some (.put new (.im e)) → ∃ b, cm.before = some b ∧ b.parts = e) ∧
      (∀ e, progs[cm.tid]? = some (.del (some e)) → ∃ b, cm.before = some b ∧ b.parts = e) ∧
      (∀ new, progs[cm.tid]? = some (.put new .inm) → cm.before = none) :=
  MetaFine.cas_no_lost_update sz row nextId progs sched hid

/-- The row's history is exactly the chain of logged commits (nothing changes it silently), every
writer commits at most once, and an acknowledged put is in the log with its content. -/
theorem commits_form_the_row_history (sz : PartId → Nat) (row : Option Cell) (nextId : Nat) (progs : List Prog) (sched : List Nat) :
    Chain row (exec sz (init row nextId progs) sched).log (exec sz (init row nextId progs) sched).db.row ∧
    ((exec sz (init row nextId progs) sched).log.map (·.tid)).Nodup ∧
    (∀ (i : Nat) (t : Thread) (new : List PartId) (c : Cond),
      (exec sz (init row nextId progs) sched).threads[i]? = some t → t.prog = .put new c → t.loc = .done .ok →
      ∃ cm ∈ (exec sz (init row nextId progs) sched).log, cm.tid = i ∧ ∃ a, cm.after = some a ∧ a.parts = new) :=
  have h := (invB_init row nextId progs).exec sz sched
  ⟨h.chain, h.nodup, fun i t new c ht hp hl => h.ackPut i t ht new c hp hl⟩

/-- Non-vacuity: two writers that both read the same version and both name its ETag; whatever the
interleaving of their commits, exactly one is acknowledged (here: the second one to commit loses). -/
example :
    (exec (fun _ => 1) (init (some ⟨0, 1, [1]⟩) 1 [.put [5] (.im [1]), .put [6] (.im [1])]) [0, 1, 1, 0]).threads.map (·.loc)
      = [.done .precondition, .done .ok] ∧
    (exec (fun _ => 1) (init (some ⟨0, 1, [1]⟩) 1 [.put [5] (.im [1]), .put [6] (.im [1])]) [0, 1, 0, 1]).threads.map (·.loc)
      = [.done .ok, .done .precondition] := by
  decide

end Fine

section Paths
open Pithos.CondProto Pithos.Gen.CondPaths

/-- **if_match_commits_only_on_the_compared_row.** One If-Match writer whose code path reads the
latest row `reads` times, compares the ETag after the reads in `compared`, and takes the optimistic
lock with the (id, version) of read `lockGen`; between any two of its statements ANY other writers
may commit (updates that bump the version, deletes, inserts under fresh ids). If the lock-supplying
read is one of the compared reads (`Spec.Safe`), then for EVERY such interleaving the write commits
only by replacing a row that has the ETag it named. -/
theorem if_match_commits_only_on_the_compared_row (sp : Spec) (hs : sp.Safe) (e new : List Nat) (d : Db)
    (hd : ∀ r, d.row = some r → r.id < d.nextId) (evs : List Ev) :
    ∀ b, (run sp e new (d, {}) evs).2.st = .committed b → ∃ c, b = some c ∧ c.parts = e :=
  (inv_run new hs evs (inv_init sp e d hs hd)).done

/-- Negation witness for an unsafe shape — two reads, the ETag compared after the first only, the
lock taken with the version of the second (a "refresh before locking" that forgets to compare
again): the writer reads ETag [1]; another writer commits [5] (resp. deletes the key); the writer
re-reads, locks the NEW row (resp. takes no lock at all) and commits — it overwrites an
acknowledged write it never saw (resp. re-creates a deleted key), although nothing ever had the
ETag it named at that moment. -/
theorem reread_without_recompare_overwrites :
    (run ⟨2, [1], 2⟩ [1] [9] (⟨some ⟨0, 1, [1]⟩, 1⟩, {}) [.a, .env (.update 0 [5]), .a, .a])
      = (⟨some ⟨0, 5, [9]⟩, 1⟩, { pc := 2, lockSeen := some (some ⟨0, 2, [5]⟩), st := .committed (some ⟨0, 2, [5]⟩) }) ∧
    (run ⟨2, [1], 2⟩ [1] [9] (⟨some ⟨0, 1, [1]⟩, 1⟩, {}) [.a, .env .delete, .a, .a])
      = (⟨some ⟨1, 1, [9]⟩, 2⟩, { pc := 2, lockSeen := some none, st := .committed none }) ∧
    -- the safe shape (one read, compared, locked) on the same schedules: refused both times
    (run ⟨1, [1], 1⟩ [1] [9] (⟨some ⟨0, 1, [1]⟩, 1⟩, {}) [.a, .env (.update 0 [5]), .a]).2.st = .failed ∧
    (run ⟨1, [1], 1⟩ [1] [9] (⟨some ⟨0, 1, [1]⟩, 1⟩, {}) [.a, .env .delete, .a]).2.st = .failed := by
  decide

/-- The `CondProto` shape of an extracted path. -/
def specOf (p : CondPath) : Spec := ⟨p.reads, p.etagCompared, p.lockVersionGen.getD 0⟩

/-- Every conditional path the extractor is expected to find was found (it fails closed otherwise). -/
theorem extracted_paths_present :
    ∀ fk ∈ [("PutObject", "im"), ("PutObject", "imstar"), ("PutObject", "inm"), ("CompleteMultipartUpload", "im"),
            ("CompleteMultipartUpload", "imstar"), ("CompleteMultipartUpload", "inm"), ("DeleteObject", "im"),
            ("DeleteObject", "imstar"), ("AppendObject", "append")],
      ∃ p ∈ condPaths, (p.fn, p.kind) = fk ∧ p.lockVersionGen.isSome = true := by
  decide +kernel

/-- **extracted_if_match_paths_lock_the_compared_row** (T1, the code as it is). In every
If-Match path of PutObject, CompleteMultipartUpload and DeleteObject the read whose
optimistic_lock_version guards the lock is a read whose ETag was compared with the If-Match value;
the locked row id comes from the same read; the lock is skipped only if THAT read found no row (which
the comparison has excluded); a guarded delete uses the same read. -/
theorem extracted_if_match_paths_lock_the_compared_row :
    ∀ p ∈ condPaths, p.kind = "im" →
      (specOf p).Safe ∧ p.lockEntityGen = p.lockVersionGen ∧
      (p.lockOnlyIfRowGen = none ∨ p.lockOnlyIfRowGen = p.lockVersionGen) ∧
      (p.casDeleteVersionGen = none ∨ p.casDeleteVersionGen = p.lockVersionGen) := by
  decide +kernel

/-- The same for `If-Match: *` and `If-None-Match: *`: the lock-supplying read is one whose
existence / delete-marker state was tested as the precondition — for If-None-Match it is the LAST
read (the re-read is also re-tested). -/
theorem extracted_star_and_inm_paths_lock_the_checked_row :
    ∀ p ∈ condPaths, (p.kind = "imstar" ∨ p.kind = "inm") →
      (∃ g, p.lockVersionGen = some g ∧ p.existChecked.contains g = true ∧ 1 ≤ g ∧ g ≤ p.reads ∧
        (p.kind = "inm" → g = p.reads)) ∧
      p.lockEntityGen = p.lockVersionGen ∧
      (p.lockOnlyIfRowGen = none ∨ p.lockOnlyIfRowGen = p.lockVersionGen) := by
  decide +kernel

/-- AppendObject (metadata store): the guarded update uses the version of the row whose part rows
were read for the prefix check, and the prefix check is there. -/
theorem extracted_append_path_locks_the_row_it_read :
    ∀ p ∈ condPaths, p.kind = "append" →
      p.lockVersionGen.isSome = true ∧ p.lockVersionGen = p.partsReadGen ∧ p.lockEntityGen = p.lockVersionGen ∧
      p.prefixChecked = true ∧ p.prefixCheckUnconditional = true := by
  decide +kernel

/-- **inm_commits_only_on_absent_key.** The create-if-absent writer whose LAST guard tests the
freshly read null version, against an arbitrary environment of other committing writers: for every
interleaving it commits only when there is no row — it never replaces an acknowledged write. -/
theorem inm_commits_only_on_absent_key (reads : Nat) (new : List Nat) (d : Db) (evs : List Ev) :
    ∀ b, (runInm reads true new (d, {}) evs).2.st = .committed b → b = none :=
  (invI_run reads new evs (d, {}) ⟨rfl, nofun⟩).done

/-- Negation witness for the other shape — the last guard re-uses the boolean computed from an EARLIER
existence read: both reads see no object, another create-if-absent writer commits [5], the null
version lookup finds it, the stale flag still says "absent", and the writer replaces the acknowledged
write: two If-None-Match winners. -/
theorem stale_existence_flag_gives_two_winners :
    (runInm 2 false [9] (⟨none, 0⟩, {}) [.a, .a, .env (.insert [5]), .a, .a]).2.st = .committed (some ⟨0, 1, [5]⟩) ∧
    (runInm 2 true [9] (⟨none, 0⟩, {}) [.a, .a, .env (.insert [5]), .a, .a]).2.st = .failed := by
  decide

/-- **extracted_inm_paths_test_the_fresh_read** (T1). In the If-None-Match paths of PutObject and
CompleteMultipartUpload every read of the latest row is tested for absence, and the LAST precondition
guard tests the is_latest flag of the null version read just before it (a generation ≥ 101) and no
boolean computed from an earlier read. -/
theorem extracted_inm_paths_test_the_fresh_read :
    ∀ p ∈ condPaths, p.kind = "inm" →
      (∀ g ∈ List.range p.reads, p.existChecked.contains (g + 1) = true) ∧
      ∃ last, p.guards.getLast? = some last ∧
        last.any (fun f => f.1 == "latest" && decide (101 ≤ f.2)) = true ∧
        last.all (fun f => f.1 != "snapshot") = true := by
  decide +kernel

/-- **outbox_writes_through_iff_any_condition** (T1). The storage outbox runs a PutObject, a
DeleteObject and a bulk DeleteObjects synchronously as soon as the request — for the bulk form: ANY of
its entries — carries a condition; nothing lowers that decision again; the synchronous branch drains
the pending entries of the key (bulk: the bucket) and hands the original options/entries to the inner
storage. -/
theorem outbox_writes_through_iff_any_condition :
    ∀ m ∈ ["PutObject", "DeleteObject", "DeleteObjects"], ∃ d ∈ Gen.TxFacts.outboxDecisions,
      d.method = m ∧ d.syncIfConditional = true ∧ d.monotone = true ∧ d.drains = true ∧ d.writesThrough = true := by
  decide +kernel

/-- Hence, for the If-Match paths of the code as it is: for every interleaving with other
writers' commits, an If-Match write commits only by replacing a row with the ETag it named. -/
theorem extracted_if_match_paths_safe :
    ∀ p ∈ condPaths, p.kind = "im" → ∀ (e new : List Nat) (d : Db), (∀ r, d.row = some r → r.id < d.nextId) →
      ∀ (evs : List Ev) b, (run (specOf p) e new (d, {}) evs).2.st = .committed b → ∃ c, b = some c ∧ c.parts = e :=
  fun p hp hk e new d hd evs =>
    if_match_commits_only_on_the_compared_row (specOf p) (extracted_if_match_paths_lock_the_compared_row p hp hk).1 e new d hd evs

end Paths

end Pithos.C07
