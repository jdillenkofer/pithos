/-
C38 — the S3 client backend behaves like the storage it forwards to.

Claimed at translation-validation strength: the behavioural claim rests on the differential run
(lean/Driver/C38.lean). What Lean contributes, over the tables regenerated from the Go source on
every run (`Pithos.Gen.S3ClientMap`, `Pithos.Gen.S3ErrorTables`):
  * the error-kind path storage → server → wire → SDK → client as a total function; that every kind is
    preserved by the current client for every method the histories observe (`error_kinds_preserved`);
    that the server's and the client's tables are inverse (`errors_roundtrip_except`,
    `no_code_two_sentinels`, `delete_markers_roundtrip`);
  * field coverage of the response translations.
-/
import Pithos.Model.S3Client
import Pithos.Lemmas.S3Rows

namespace Pithos.C38
open Pithos.S3 Pithos.S3Client Pithos.Gen.S3ClientMap

/-- A complete translation reports every kind the endpoint can answer with as itself, in whichever
form the server puts it on the wire of a non-HEAD request (coded body, bodyless 304, or bodyless with
the delete-marker header). -/
theorem ideal_translation_faithful :
    ∀ e ∈ allKinds, ∀ w ∈ wires genTables e false, idealClientKind w = e := by decide +kernel

/-- … hence it is injective on those kinds: two different kinds never look the same to the caller. -/
theorem ideal_translation_injective :
    ∀ e1 ∈ allKinds, ∀ e2 ∈ allKinds, ∀ w1 ∈ wires genTables e1 false, ∀ w2 ∈ wires genTables e2 false,
      idealClientKind w1 = idealClientKind w2 → e1 = e2 := by
  intro e1 h1 e2 h2 w1 hw1 w2 hw2 h
  rw [← ideal_translation_faithful e1 h1 w1 hw1, h, ideal_translation_faithful e2 h2 w2 hw2]

/-- What no client can do: on a HEAD request a missing key and a missing bucket are the same reply
(bare 404) — the wire does not carry the distinction (the client asks HeadBucket). -/
theorem head_wire_conflates_missing_key_and_bucket :
    Wire.bare "404" ∈ wires genTables .noSuchKey true ∧ wires genTables .noSuchBucket true = [Wire.bare "404"] := by decide +kernel

/-- **error_kinds_preserved.** Since /repo commit 7a2631f every (method, kind) pair of
`observedMethods × relevantKinds` is reported as itself by the client backend, in whichever form the
server puts it on the wire (coded body, bodyless status, delete-marker headers; HEAD requests never
have a body). Checked against the regenerated tables on every run. -/
theorem error_kinds_preserved :
    (observedMethods.flatMap fun (m, h) => ((relevantKinds m).filter fun e => !preserved genTables m h e).map fun e => (m, e.toString))
    = [] := by decide +kernel

/-- The client before that commit (`preFixTables`: method-specific clauses only, HeadObject mapping every
bodyless 404 to a missing bucket): the exact 33 (method, kind) pairs it does not preserve. -/
theorem preFix_error_kinds_preserved_except :
    (observedMethods.flatMap fun (m, h) => ((relevantKinds m).filter fun e => !preserved preFixTables m h e).map fun e => (m, e.toString))
    = [("PutBucketVersioningConfiguration", "NoSuchBucket"), ("PutObject", "NoSuchBucket"),
       ("HeadObject", "NoSuchKey"), ("HeadObject", "MethodNotAllowed"),
       ("GetObject", "NoSuchBucket"), ("GetObject", "NoSuchKey"), ("GetObject", "MethodNotAllowed"),
       ("DeleteObject", "NoSuchBucket"), ("DeleteObject", "PreconditionFailed"),
       ("CopyObject", "NoSuchKey"), ("CopyObject", "MethodNotAllowed"), ("TransitionObjectStorageClass", "NoSuchKey"),
       ("CreateMultipartUpload", "NoSuchBucket"), ("UploadPart", "NoSuchBucket"), ("UploadPart", "NoSuchKey"),
       ("CompleteMultipartUpload", "NoSuchBucket"), ("CompleteMultipartUpload", "NoSuchKey"),
       ("CompleteMultipartUpload", "InvalidPart"), ("CompleteMultipartUpload", "InvalidPartOrder"),
       ("CompleteMultipartUpload", "PreconditionFailed"),
       ("AbortMultipartUpload", "NoSuchBucket"), ("AbortMultipartUpload", "NoSuchKey"),
       ("GetObjectTagging", "NoSuchBucket"), ("GetObjectTagging", "NoSuchKey"), ("GetObjectTagging", "MethodNotAllowed"),
       ("PutObjectTagging", "NoSuchBucket"), ("PutObjectTagging", "NoSuchKey"), ("PutObjectTagging", "MethodNotAllowed"),
       ("DeleteObjectTagging", "NoSuchBucket"), ("DeleteObjectTagging", "NoSuchKey"), ("DeleteObjectTagging", "MethodNotAllowed"),
       ("ListObjects", "NoSuchBucket"), ("ListObjectVersions", "NoSuchBucket")] := by decide +kernel

/-- Witness: `HeadObject` of a missing key in an existing bucket is reported as a missing bucket by the
client before the repair, as a missing key by the current one. -/
theorem head_missing_key :
    roundTrip preFixTables "HeadObject" true .noSuchKey = [.noSuchBucket] ∧
    roundTrip genTables "HeadObject" true .noSuchKey = [.noSuchKey] := by decide +kernel

open Pithos.Gen.S3ErrorTables in
/-- **errors_roundtrip_except.** For every storage sentinel `handleError` can render — with the status and
S3 error code it writes (a 304 bodyless) — every part of the client that decodes that reply (the
general `storageErrorsByS3Code`/status translation and every method-specific code clause) yields the
same sentinel again, and at least one does: `decode (encode e) = e`. The single exception is
`ErrInvalidBucketName`, whose text — and therefore the code the server writes — is
"invalid bucket name", which the client's table (key `InvalidBucketName`) does not contain. -/
theorem errors_roundtrip_except :
    ((serverEncode.filter fun entry => !roundTrips genTables clientMethodClauses entry).map (·.1))
    = ["ErrInvalidBucketName"] := by decide +kernel

open Pithos.Gen.S3ErrorTables in
/-- The two delete-marker errors (bodyless, marked by the `x-amz-delete-marker` header the server
sets) are rebuilt as the same error types. -/
theorem delete_markers_roundtrip :
    ∀ entry ∈ Gen.S3ErrorTables.serverBodyless,
      lookup genTables.deleteMarker entry.2.1 = some entry.1 ∧ entry.2.2.contains "deleteMarkerHeader" = true := by decide +kernel

open Pithos.Gen.S3ErrorTables in
/-- **no_code_two_sentinels.** No S3 error code is decoded to two different sentinels: the keys of the
general table are distinct, every method-specific clause agrees with the general table where both know
the code, and the server never writes the same code for two sentinels. -/
theorem no_code_two_sentinels :
    (clientDecode.map (·.1)).Nodup ∧
    (∀ c ∈ clientMethodClauses, ∀ s, lookup clientDecode c.2.1 = some s → s = c.2.2) ∧
    (serverEncode.map (·.2.2)).Nodup ∧ (serverEncode.map (·.1)).Nodup := by decide +kernel

def fieldsOf (m ty : String) : List String :=
  (responseFields.filter fun r => r.1 == m && r.2.1 == ty).flatMap (·.2.2)

/-- Every attribute a HEAD/GET object response carries is copied into `storage.Object`
(the tag set is not on the wire: only `x-amz-tagging-count`). -/
theorem head_object_fields_covered :
    (∀ f ∈ ["Key", "ContentType", "LastModified", "VersionID", "IsDeleteMarker", "ETag", "ChecksumCRC32", "ChecksumCRC32C",
            "ChecksumCRC64NVME", "ChecksumSHA1", "ChecksumSHA256", "ChecksumType", "Size", "StorageClass", "Metadata"],
        f ∈ fieldsOf "HeadObject" "Object") ∧
    (∀ f ∈ ["CacheControl", "ContentDisposition", "ContentEncoding", "ContentLanguage", "Expires", "WebsiteRedirectLocation", "UserMetadata"],
        f ∈ fieldsOf "HeadObject" "ObjectMetadata") := by decide +kernel

theorem list_fields_covered :
    (∀ f ∈ ["Key", "LastModified", "ETag", "Size", "StorageClass"], f ∈ fieldsOf "ListObjects" "Object") ∧
    (∀ f ∈ ["Key", "VersionID", "IsDeleteMarker", "IsLatest", "LastModified"], f ∈ fieldsOf "ListObjectVersions" "ObjectVersion") ∧
    (∀ f ∈ ["VersionID", "IsDeleteMarker"], f ∈ fieldsOf "DeleteObject" "DeleteObjectResult") ∧
    (∀ f ∈ ["VersionID", "ETag"], f ∈ fieldsOf "CompleteMultipartUpload" "CompleteMultipartUploadResult") ∧
    (∀ f ∈ ["VersionID", "ETag"], f ∈ fieldsOf "CopyObject" "result.*") := by decide +kernel

/-- The PutObject translation returns the version id and forwards the tag set, and GetObject's
HeadObject pre-flight addresses the requested version (each of the three a recorded deviation before
/repo commit a758c2b). -/
theorem put_object_result_has_version_id : "VersionID" ∈ fieldsOf "PutObject" "PutObjectResult" := by decide +kernel
theorem put_object_forwards_tags : "Tagging" ∈ putObjectInputFields := by decide +kernel
theorem get_object_preflight_uses_version : getObjectHeadOptions ≠ "nil" := by decide +kernel

/-- Negation witness (current source): AppendObject is not implemented by the client backend. -/
theorem append_not_implemented : ("AppendObject", "always") ∈ notImplemented := by decide +kernel

/-- The metadata and tagging directives are forwarded exactly when the caller asks for a replacement —
not only when the replacement set is non-empty — so "replace with the empty set" reaches the endpoint. -/
theorem copy_directives_forwarded_whenever_requested :
    ("MetadataDirective", "opts.ReplaceMetadata") ∈ copyObjectGuards ∧
    ("TaggingDirective", "opts.ReplaceTags") ∈ copyObjectGuards ∧
    ("Tagging", "opts.ReplaceTags") ∈ copyObjectGuards := by decide +kernel

/-- The source version id is appended to `x-amz-copy-source` whenever one is given (the literal
`null` included), by `CopyObject` and `UploadPartCopy` alike. -/
theorem copy_source_version_always_forwarded :
    copySourceVersionGuard = "sourceVersionID != nil" ∧
    ("CopyObject", "opts.SourceVersionID") ∈ copySourceVersionArgs ∧
    ("UploadPartCopy", "opts.SourceVersionID") ∈ copySourceVersionArgs := by decide +kernel

/-- What the reference (the model of `S3ClientStorage ∘ server` is the storage model itself) says about
the two corners: the copy source addressed as version `null` is the null version of the key, whatever
the current version is … -/
theorem copy_source_null_is_the_null_version (bk : Bucket) (k : String) (r : Row)
    (h : resolve bk k (some none) = .ok r) : r.vid = none ∧ r.key = k := by
  obtain ⟨_, hk, hv⟩ := rowByVid_mem (resolve_some_ok.1 h).1
  exact ⟨hv, hk⟩

def outTags : Out → Option Pairs
  | .tags t => some t
  | _ => none

def outBody : Out → Option Bytes
  | .obj v => some v.body
  | _ => none

/-- … and a copy that replaces the tags with the empty set leaves the destination without tags, and a
copy from `null` under a newer version copies the pre-versioning bytes (two concrete histories, the
ones the directed cases replay on both sides). -/
theorem spec_copy_replace_with_empty_tags :
    ((S3.run Quirks.code {} [.mkb "b", .put "b" "k" [1] { tags := [("t", "v")] } false .none,
        .copy "b" "k" none "b" "k2" false true {}, .getTags "b" "k2" none]).2.getLast?.bind outTags) = some [] := by
  decide +kernel

theorem spec_copy_from_null_under_newer_version :
    ((S3.run Quirks.code {} [.mkb "b", .put "b" "k" [1] {} false .none, .setVer "b" .enabled,
        .put "b" "k" [2] {} false .none, .copy "b" "k" (some none) "b" "k2" false false {},
        .get "b" "k2" none]).2.getLast?.bind outBody) = some [1] := by
  decide +kernel

end Pithos.C38
