/-
C17 — erasure coding tolerates parity-many shard faults and never lies.

The property theorems, the fault patterns they are stated on (`applyDamage`), the replication code `replCode`
that meets the hypotheses (`replCode_mds`, `replCode_mdsAll`, `repl_wf`, from `repl_head`) and the
witness data (model: `Pithos.Model.ErasureCoding`; lemmas:
`Pithos.Lemmas.ErasureCoding*`).

The full statement — "≤ p faulty shards of ANY kind ⇒ the read returns the original and healing
restores the missing shards; > p ⇒ the read fails or returns the original" — is FALSE for
erasurecoding.go as it is; five negation witnesses below (each replayed on the implementation on every
run). What holds, for every MDS code, every well-formed (d, p, stripe) and every content:

* `few_faults_read_original_partial` / `many_faults_never_lie_partial`, under the hypothesis that no shard
  *lies* (`ShardHonest`: every frame a shard yields is the true frame, nothing frame-like follows the
  last one) — with at least `d` intact shards the read returns the original; with at least one intact
  shard it returns the original or fails; `heal_restores_data_shards_partial`: every unopenable DATA shard
  is rewritten with its original stream (all shards with the repaired heal path);
* the fault kinds that are honest: missing, truncated at ANY byte position, payload damage (barring a
  hash collision), a short trailer — so e.g. `missing_or_truncated_tolerated`.

The excluded triggers are exactly the witnesses: an altered `dataBytes` field, a shard of another
part, every shard damaged (no intact one), a trailing frame-sized garbage, and — for healing — a
missing PARITY shard.

Variants (`Fix`): the theorems hold for every setting of the switches. /repo carries all four
repairs (`notFoundWhenAllMissing` 38bdbce, `healParity` 8d1eb6f, `endWhenEnoughEnded` 200e245,
`failWhenTooFewOpen` 62467cb), so `missing_parity_shard_not_restored`, `trailing_bytes_fail_the_read` and
`all_shards_damaged_reads_empty` are theorems about the variants before those repairs
(`trailing_bytes_tolerated_when_repaired`, `all_shards_unopenable_fails_when_repaired` about the code as it
is); what no repair short of a format change cures: `databytes_field_not_authenticated`,
`foreign_shard_accepted`, `all_shards_cut_behind_header_read_empty`.
-/
import Pithos.Lemmas.ErasureCodingKinds
import Pithos.Model.PartStoreToy

namespace Pithos.C17
open Pithos.Codec Pithos.EC

/-- Every shard intact: the read returns exactly the part and heals nothing. -/
theorem intact_read_original (c : Cfg) (code : Code) (H : Bytes → Bytes) (wf : WF c code H) (fix : Fix) (b : Bytes) :
    read c code H fix ((List.range c.n).map fun k => some (shardStream c code H k b))
      = .result ⟨b, false, List.replicate c.n none, []⟩ := read_intact wf fix b

/-- **few_faults_read_original_partial.** No shard lies and at least `d` of the `d + p` shards are intact
(i.e. at most `p` are missing / truncated / detectably damaged, in any combination): the read returns
exactly the original part, without error. Excluded trigger: a lying shard (`¬ ShardHonest`). -/
theorem few_faults_read_original_partial (c : Cfg) (code : Code) (H : Bytes → Bytes) (wf : WF c code H) (mds : MDS c code)
    (fix : Fix) (b : Bytes) (streams : List (Option Bytes)) (hlen : streams.length = c.n)
    (hon : ∀ k, k < c.n → ShardHonest c code H b k (streams.getD k none))
    (hfew : c.d ≤ (List.range c.n).countP (shardIntact c code H b streams)) :
    ∃ r, read c code H fix streams = .result r ∧ r.failed = false ∧ r.out = b := by
  obtain ⟨r, hr, h1, h2⟩ := read_honest wf fix hlen (.inl mds) hon (exists_intact wf hfew)
  exact ⟨r, hr, h1 hfew, (h2 (h1 hfew)).out_eq⟩

/-- **many_faults_never_lie_partial.** No shard lies and at least ONE shard is intact — however many
others are faulty: the read fails, or it returns exactly the original part. Excluded triggers: a lying
shard; no intact shard at all (every shard damaged). -/
theorem many_faults_never_lie_partial (c : Cfg) (code : Code) (H : Bytes → Bytes) (wf : WF c code H) (mds : MDS c code)
    (fix : Fix) (b : Bytes) (streams : List (Option Bytes)) (hlen : streams.length = c.n)
    (hon : ∀ k, k < c.n → ShardHonest c code H b k (streams.getD k none))
    (hint : ∃ k0, k0 < c.n ∧ streams.getD k0 none = some (shardStream c code H k0 b)) :
    ∃ r, read c code H fix streams = .result r ∧ (r.failed = true ∨ r.out = b) := by
  obtain ⟨r, hr, _, h2⟩ := read_honest wf fix hlen (.inl mds) hon hint
  refine ⟨r, hr, ?_⟩
  cases hf : r.failed
  · exact Or.inr (h2 hf).out_eq
  · exact Or.inl rfl

/-- **heal_restores_data_shards_partial.** No shard lies, at least `d` shards intact: every DATA shard that
could not be opened (missing, or with an unusable shard header) is rewritten by the healing read with
exactly the stream `PutPart` had written for it. For PARITY shards this holds only with the repaired
heal path (`fix.healParity`, code recomputes whole codewords) — see `missing_parity_shard_not_restored`. -/
theorem heal_restores_data_shards_partial (c : Cfg) (code : Code) (H : Bytes → Bytes) (wf : WF c code H) (mds : MDS c code)
    (fix : Fix) (b : Bytes) (streams : List (Option Bytes)) (hlen : streams.length = c.n)
    (hon : ∀ k, k < c.n → ShardHonest c code H b k (streams.getD k none))
    (hfew : c.d ≤ (List.range c.n).countP (shardIntact c code H b streams)) :
    ∃ r, read c code H fix streams = .result r ∧
      ∀ k, k < c.d → openShard c k (streams.getD k none) = none →
        r.heals.getD k none = some (shardStream c code H k b) := by
  obtain ⟨r, hr, h1, h2⟩ := read_honest wf fix hlen (.inl mds) hon (exists_intact wf hfew)
  exact ⟨r, hr, fun k hk hn => (h2 (h1 hfew)).marked k (Nat.lt_of_lt_of_le hk (Nat.le_add_right _ _)) (by rw [hn]; rfl) (.inl hk)⟩

/-- … and with the repaired heal path every unopenable shard, parity included, is restored. -/
theorem heal_restores_all_shards_repaired (c : Cfg) (code : Code) (H : Bytes → Bytes) (wf : WF c code H) (mds : MDS c code)
    (mdsAll : MDSAll c code) (fix : Fix) (hfix : fix.healParity = true) (b : Bytes) (streams : List (Option Bytes))
    (hlen : streams.length = c.n) (hon : ∀ k, k < c.n → ShardHonest c code H b k (streams.getD k none))
    (hfew : c.d ≤ (List.range c.n).countP (shardIntact c code H b streams)) :
    ∃ r, read c code H fix streams = .result r ∧
      ∀ k, k < c.n → openShard c k (streams.getD k none) = none →
        r.heals.getD k none = some (shardStream c code H k b) := by
  obtain ⟨r, hr, h1, h2⟩ := read_honest wf fix hlen (.inl mds) hon (exists_intact wf hfew)
  exact ⟨r, hr, fun k hk hn => (h2 (h1 hfew)).marked k hk (by rw [hn]; rfl) (.inr ⟨hfix, mdsAll⟩)⟩

/-- **a well-formed shard of ANOTHER position is a faulty shard, not data.** Store `k` holding (a copy of) the
shard of position `j ≠ k` of the same part: the shard header names `j`, `openPartReaders` demands `k`, the
shard does not open — it counts as one honest fault (and is healed), its frames never enter slot `k` of a
stripe. (The seeded change C17-3 weakens `idx != i` to a bounds check.) -/
theorem misplaced_shard_rejected (c : Cfg) (code : Code) (H : Bytes → Bytes) (wf : WF c code H) (b : Bytes) (k j : Nat)
    (hj : j < c.n) (hjk : j ≠ k) : openShard c k (some (shardStream c code H j b)) = none := by
  rw [shardStream, openShard_header wf k hj, if_neg hjk]

theorem misplaced_shard_honest (c : Cfg) (code : Code) (H : Bytes → Bytes) (wf : WF c code H) (b : Bytes) (k j : Nat)
    (hj : j < c.n) (hjk : j ≠ k) : ShardHonest c code H b k (some (shardStream c code H j b)) := by
  unfold ShardHonest
  rw [misplaced_shard_rejected c code H wf b k j hj hjk]
  trivial

/-- a frame whose body does not begin with the true payload (flipped payload byte, …) is rejected,
barring a hash collision; so is one whose hash or stripe-index field was altered (`readFrame_fields`) -/
theorem damaged_payload_rejected (H : Bytes → Bytes) (hH : ∀ x, (H x).length = 32) (j m : Nat) (p body : Bytes)
    (cf : NoCollision H (body.take p.length) p)
    (hm1 : 1 ≤ m) (hm : m < 4294967296) (hp1 : 1 ≤ p.length) (hp : p.length < 4294967296)
    (hne : body.take p.length ≠ p) : readFrame H j (frameHeader H j m p ++ body) = .bad :=
  readFrame_header_then hH j cf ⟨hm1, hm, hp1, hp⟩ hne

/-- A fault pattern in which every shard is intact, missing, or truncated at an arbitrary byte position. -/
def applyDamage (c : Cfg) (code : Code) (H : Bytes → Bytes) (b : Bytes) (dmg : Nat → Option (Option Nat)) : List (Option Bytes) :=
  (List.range c.n).map fun k =>
    match dmg k with
    | none => some (shardStream c code H k b)                 -- intact
    | some none => none                                       -- missing
    | some (some m) => some ((shardStream c code H k b).take m)   -- cut after m bytes

attribute [local irreducible] ShardHonest in
/-- **missing_or_truncated_tolerated.** Any combination of missing shards and shards truncated at any
byte positions, as long as at least `d` shards are untouched: the read returns exactly the original.
Every (d ≥ 1, p, stripe), every content, every MDS code. -/
theorem missing_or_truncated_tolerated (c : Cfg) (code : Code) (H : Bytes → Bytes) (wf : WF c code H) (mds : MDS c code)
    (fix : Fix) (b : Bytes) (dmg : Nat → Option (Option Nat))
    (hfew : c.d ≤ (List.range c.n).countP fun k => (dmg k).isNone) :
    ∃ r, read c code H fix (applyDamage c code H b dmg) = .result r ∧ r.failed = false ∧ r.out = b := by
  apply few_faults_read_original_partial c code H wf mds fix b _ (by rw [applyDamage, List.length_map, List.length_range])
  · intro k hk
    rw [applyDamage, getD_range_map hk]
    split
    · exact .intact wf b hk
    · exact missing_shard_honest c code H b k
    · exact truncated_shard_honest wf b hk _
  · refine Nat.le_trans hfew (List.countP_mono_left fun k hk hq => ?_)
    simp only [shardIntact, decide_eq_true_eq]
    rw [applyDamage, getD_range_map (List.mem_range.1 hk)]
    cases h : dmg k with
    | none => rfl
    | some o => rw [h] at hq; cases hq

/-- replication: one data shard, `p` copies -/
def replCode : Code where
  parity := fun _ p data => List.replicate p (data.headD [])
  reconstruct := fun _ _ avail => (avail.filterMap id).head?.map fun x => [x]
  reconstructAll := fun _ p avail => (avail.filterMap id).head?.map fun x => List.replicate (1 + p) x

theorem repl_head (p stripe : Nat) (data : List Bytes) (avail : List (Option Bytes)) (hl : data.length = 1)
    (hal : avail.length = (⟨1, p, stripe⟩ : Cfg).n)
    (htrue : ∀ k, k < (⟨1, p, stripe⟩ : Cfg).n → avail.getD k none = none ∨
      avail.getD k none = some ((data ++ replCode.parity 1 p data).getD k []))
    (hcount : 1 ≤ (avail.filter Option.isSome).length) :
    ∃ x, data = [x] ∧ (avail.filterMap id).head? = some x := by
  cases data with
  | nil => simp at hl
  | cons x t =>
    have ht : t = [] := by
      cases t with
      | nil => rfl
      | cons _ _ => simp at hl
    subst ht
    refine ⟨x, rfl, ?_⟩
    have hall : ∀ k, k < 1 + p → ([x] ++ replCode.parity 1 p [x]).getD k [] = x := by
      intro k hk
      simp only [replCode, List.headD_cons, List.getD_eq_getElem?_getD]
      cases k with
      | zero => rfl
      | succ k =>
        have hkp : k < p := by omega
        simp [hkp]
    have htrue' : TrueOrNone ([x] ++ replCode.parity 1 p [x]) avail :=
      ⟨by simp [replCode, hal, Cfg.n, Nat.add_comm], fun k hk => htrue k (by simpa [replCode, Cfg.n, Nat.add_comm] using hk)⟩
    have hmem : ∀ y ∈ avail.filterMap id, y = x := by
      intro y hy
      obtain ⟨i, hi, rfl⟩ := true_of_mem htrue' hy
      exact hall i (by simpa [replCode, Nat.add_comm] using hi)
    have hne : avail.filterMap id ≠ [] := by
      intro he
      have : (avail.filter Option.isSome).length = 0 := by
        rw [← filterMap_id_length, he]; rfl
      omega
    cases hfm : avail.filterMap id with
    | nil => exact absurd hfm hne
    | cons y ys =>
      have := hmem y (by rw [hfm]; exact List.mem_cons_self)
      simp [this]

theorem replCode_mds (p stripe : Nat) : MDS ⟨1, p, stripe⟩ replCode where
  reconstruct_ok := by
    intro data L avail hl _ hal htrue hcount
    obtain ⟨x, hx, hh⟩ := repl_head p stripe data avail hl hal htrue hcount
    subst hx
    simp only [replCode, hh, Option.map_some]

/-- … and it recomputes whole codewords (the hypothesis of the repaired heal path). -/
theorem replCode_mdsAll (p stripe : Nat) : MDSAll ⟨1, p, stripe⟩ replCode where
  reconstructAll_ok := by
    intro data L avail hl _ hal htrue hcount
    obtain ⟨x, hx, hh⟩ := repl_head p stripe data avail hl hal htrue hcount
    subst hx
    simp only [replCode, hh, Option.map_some, List.headD_cons]
    congr 1
    rw [Nat.add_comm, List.replicate_succ]
    rfl

theorem repl_wf (p : Nat) (hp : 1 + p < 65536) : WF ⟨1, p, 1024⟩ replCode PartStore.toyHash where
  d_pos := Nat.le_refl 1
  n_lt := by simpa [Cfg.n] using hp
  stripe_ge := Nat.le_refl 1024
  stripe_lt := by show 1024 < 4294967296; decide
  stripeData_lt := by show 1 * 1024 < 4294967296; decide
  hash_len := fun x => by simp [PartStore.toyHash]
  parity_len := fun data L hl hx => by
    refine ⟨by simp [replCode], fun y hy => ?_⟩
    simp only [replCode, List.mem_replicate] at hy
    rw [hy.2]
    cases data with
    | nil => simp at hl
    | cons a t => exact hx a List.mem_cons_self

/-- The hypotheses of the fault-tolerance theorem are met by a concrete instance: 1 data + 2 parity
(replication), the data shard missing and the first copy cut in the middle of its only frame — the part
is still read back from the last copy. -/
example : ∃ r, read ⟨1, 2, 1024⟩ replCode PartStore.toyHash Fix.asIs
      (applyDamage ⟨1, 2, 1024⟩ replCode PartStore.toyHash [1, 2, 3] fun k => if k = 0 then some none else if k = 1 then some (some 40) else none)
      = .result r ∧ r.failed = false ∧ r.out = [1, 2, 3] :=
  missing_or_truncated_tolerated _ _ _ (repl_wf 2 (by decide)) (replCode_mds 2 1024) _ _ _ (by decide)

def wc : Cfg := ⟨2, 1, 1024⟩
def wcode : Code := PartStore.toyCode
def wH : Bytes → Bytes := PartStore.toyHash
def partA : Bytes := [1, 2, 3, 4]
def partB : Bytes := [9, 9, 9, 9]
def shardsOf (b : Bytes) : List (Option Bytes) := (List.range wc.n).map fun k => some (shardStream wc wcode wH k b)
def setShard (l : List (Option Bytes)) (k : Nat) (s : Option Bytes) : List (Option Bytes) := l.set k s

/-- bytes 8‥11 of the first frame header of a shard stream (the `dataBytes` field) replaced -/
def withDataBytes (s : Bytes) (v : Nat) : Bytes := s.take 23 ++ be32 v ++ s.drop 27

/-- **Witness 1 — `dataBytes` is not authenticated.** ONE shard with one altered header field (≤ p
faults): the read returns 1 byte instead of 4, without error. (The frame hash covers only the payload,
and the loop takes `dataBytes` from the first valid frame.) -/
theorem databytes_field_not_authenticated :
    read wc wcode wH Fix.asIs (setShard (shardsOf partA) 0 (some (withDataBytes (shardStream wc wcode wH 0 partA) 1)))
      = .result ⟨[1], false, [none, none, none], []⟩ := by
  decide +kernel

/-- **Witness 2 — a shard of another part is accepted.** Shard 0 of part B stored under part A (≤ p
faults): the read returns bytes of B mixed with bytes of A, without error. (Neither the shard header
nor the frames name the part.) -/
theorem foreign_shard_accepted :
    read wc wcode wH Fix.asIs (setShard (shardsOf partA) 0 (some (shardStream wc wcode wH 0 partB)))
      = .result ⟨[9, 9, 3, 4], false, [none, none, none], []⟩ := by
  decide +kernel

/-- **Witness 3 — every shard damaged.** All three shard headers have one flipped byte (> p faults): the
read returns the EMPTY part without error — and "heals": every shard store is overwritten with the
shard stream of an empty part. -/
theorem all_shards_damaged_reads_empty :
    read wc wcode wH Fix.asIs ((shardsOf partA).map fun s => s.map fun bs => (bs.headD 0 ^^^ 1) :: bs.drop 1)
      = .result ⟨[], false, (List.range wc.n).map (fun k => some (shardStream wc wcode wH k [])), []⟩ := by
  decide +kernel

/-- … with `failWhenTooFewOpen` (fixes/C17-too-few-readable-shards-is-an-error.patch) that read fails at once
and writes nothing. -/
theorem all_shards_unopenable_fails_when_repaired :
    read wc wcode wH { failWhenTooFewOpen := true } ((shardsOf partA).map fun s => s.map fun bs => (bs.headD 0 ^^^ 1) :: bs.drop 1)
      = .result ⟨[], true, [none, none, none], []⟩ := by
  decide +kernel

/-- **Witness 3b — every shard damaged, still open for every repair short of a format change.** All three
shards cut right behind their (valid) shard header: every shard opens, none shows a frame, the read
returns the EMPTY part without error — also with all repairs (`Fix.repaired`): nothing in the format
says how long the part is. -/
theorem all_shards_cut_behind_header_read_empty :
    read wc wcode wH Fix.repaired ((shardsOf partA).map fun s => s.map fun bs => bs.take 15)
      = .result ⟨[], false, [none, none, none], []⟩ := by
  decide +kernel

/-- **Witness 4 — a frame-sized trailer breaks the read.** 48 extra bytes after ONE shard (≤ p faults):
the stream delivers the whole part and then fails ("insufficient shards in stripe 1"). -/
theorem trailing_bytes_fail_the_read :
    read wc wcode wH Fix.asIs (setShard (shardsOf partA) 1 (some (shardStream wc wcode wH 1 partA ++ List.replicate 48 0xab)))
      = .result ⟨partA, true, [none, none, none], [none, none, none]⟩ := by
  decide +kernel

/-- … with `endWhenEnoughEnded` (fixes/C17-trailing-garbage-is-a-bad-shard.patch) the same shard set reads
back exactly: two of three readers are at their end, no valid frame is in sight — end of the part. -/
theorem trailing_bytes_tolerated_when_repaired :
    read wc wcode wH { endWhenEnoughEnded := true }
        (setShard (shardsOf partA) 1 (some (shardStream wc wcode wH 1 partA ++ List.replicate 48 0xab)))
      = .result ⟨partA, false, [none, none, none], []⟩ := by
  decide +kernel

/-- **Witness 5 — a missing PARITY shard is "healed" with empty frames.** The parity shard is missing
(≤ p faults): the read returns the part, but what it writes back to the parity store is a shard header
followed by a zero-length frame — not the parity shard (`ReconstructData` does not rebuild parity). -/
theorem missing_parity_shard_not_restored :
    ∃ r, read wc wcode wH Fix.asIs (setShard (shardsOf partA) 2 none) = .result r ∧ r.out = partA ∧ r.failed = false ∧
      r.heals.getD 2 none = some (shardHeader wc 2 ++ frame wH 0 4 []) ∧
      r.heals.getD 2 none ≠ some (shardStream wc wcode wH 2 partA) := by
  have h : read wc wcode wH Fix.asIs (setShard (shardsOf partA) 2 none)
      = .result ⟨partA, false, [none, none, some (shardHeader wc 2 ++ frame wH 0 4 [])], []⟩ := by decide +kernel
  exact ⟨_, h, rfl, rfl, rfl, by decide +kernel⟩

/-- … while a missing DATA shard is restored exactly (here with the replication code, whose
`reconstruct` is total): the heal stream of shard 0 is its original stream. -/
theorem missing_data_shard_restored :
    ∃ r, read ⟨1, 1, 1024⟩ replCode wH Fix.asIs [none, some (shardStream ⟨1, 1, 1024⟩ replCode wH 1 [5, 6, 7])] = .result r ∧
      r.out = [5, 6, 7] ∧ r.failed = false ∧ r.heals.getD 0 none = some (shardStream ⟨1, 1, 1024⟩ replCode wH 0 [5, 6, 7]) := by
  have h : read ⟨1, 1, 1024⟩ replCode wH Fix.asIs [none, some (shardStream ⟨1, 1, 1024⟩ replCode wH 1 [5, 6, 7])]
      = .result ⟨[5, 6, 7], false, [some (shardStream ⟨1, 1, 1024⟩ replCode wH 0 [5, 6, 7]), none], []⟩ := by decide +kernel
  exact ⟨_, h, rfl, rfl, rfl⟩

end Pithos.C17
