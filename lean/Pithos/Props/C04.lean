/-
C04 — ETags and checksums describe the stored bytes.

Model (the code, digest level): `Pithos.Model.ObjectChecksums`.  Specification (byte level; every
value is by definition the function of the content named in the property):
`Pithos.Spec.ObjectChecksums`.  Proofs: `Pithos.Lemmas.ObjectChecksums`, resting on C35's
`combineCrc*_sumBE`.  MD5 / SHA-1 / SHA-256 are an arbitrary `Hashes` record throughout; the CRCs
are the bit-level definitions.  All statements are for every history of requests, every body,
every part count and every part size.  `strict = true` is the validation of the current tree
(/repo 30762b3, fixes/C04-reject-unverifiable-supplied-checksum.patch), `strict = false` the one
before that commit.
-/
import Pithos.Lemmas.ObjectChecksums

namespace Pithos.C04
open Pithos.ObjSums Pithos.Checksum

/-- Single-part object: ETag = MD5 of the bytes, and the five checksums are those of the bytes. -/
theorem etag_single (H : Hashes) (b : Bytes) :
    specVals H ⟨[b], .single, false⟩ =
      { etag := some ⟨H.md5 b, none⟩, crc32 := some ⟨sumBE crc32IEEE b, none⟩,
        crc32c := some ⟨sumBE crc32C b, none⟩, crc64 := some ⟨sumBE crc64NVME b, none⟩,
        sha1 := some ⟨H.sha1 b, none⟩, sha256 := some ⟨H.sha256 b, none⟩ } := by
  simp [specVals, GObj.content, digestsOf, Digests.values]

/-- Multipart and appended objects: ETag = MD5 of the concatenated part MD5s, suffix `-N`. -/
theorem etag_multipart (H : Hashes) (parts : List Bytes) (k : Kind) (ob : Bool) (hk : k ≠ .single) :
    (specVals H ⟨parts, k, ob⟩).etag = some ⟨H.md5 (parts.flatMap H.md5), some parts.length⟩ := by
  cases k with
  | single => exact absurd rfl hk
  | multiFull => simp only [specVals]; split <;> rfl
  | multiComposite => rfl
  | appended => rfl

/-- **foldl_combine_eq_crc_concat** (as `CalculateMultipartChecksums` uses it). For ANY non-empty
list of parts — any count, any sizes, empty parts included — the FULL_OBJECT values the code
computes from the stored part rows (CRC of part 1, then `CombineCrc*` with each further part's
CRC and size) are the CRC32 / CRC32C / CRC64NVME of the concatenated bytes. -/
theorem fullobject_crcs_are_crcs_of_concatenation (H : Hashes) (parts : List Bytes) (hne : parts ≠ []) :
    let v := calculateMultipart H (parts.map fun b => (digestsOf H b).partMeta) .fullObject
    v.crc32 = some ⟨sumBE crc32IEEE parts.flatten, none⟩ ∧
    v.crc32c = some ⟨sumBE crc32C parts.flatten, none⟩ ∧
    v.crc64 = some ⟨sumBE crc64NVME parts.flatten, none⟩ ∧
    v.etag = some ⟨H.md5 (parts.flatMap H.md5), some parts.length⟩ ∧ v.sha1 = none ∧ v.sha256 = none := by
  have h : calculateMultipart H (parts.map fun b => (digestsOf H b).partMeta) .fullObject
      = specVals H ⟨parts, kindOf .fullObject, true⟩ := calculateMultipart_pm H parts .fullObject true
  simp only [h, specVals, kindOf]
  cases parts with
  | nil => exact absurd rfl hne
  | cons b t => simp [GObj.content, etagOfParts]

/-- COMPOSITE: `alg(alg(p₁) ‖ … ‖ alg(p_N))-N` for CRC32, CRC32C, SHA-1, SHA-256; no CRC64NVME. -/
theorem composite_values (H : Hashes) (parts : List Bytes) :
    calculateMultipart H (parts.map fun b => (digestsOf H b).partMeta) .composite =
      { etag := some ⟨H.md5 (parts.flatMap H.md5), some parts.length⟩
        crc32 := some ⟨sumBE crc32IEEE (parts.flatMap (sumBE crc32IEEE)), some parts.length⟩
        crc32c := some ⟨sumBE crc32C (parts.flatMap (sumBE crc32C)), some parts.length⟩
        crc64 := none
        sha1 := some ⟨H.sha1 (parts.flatMap H.sha1), some parts.length⟩
        sha256 := some ⟨H.sha256 (parts.flatMap H.sha256), some parts.length⟩ } := by
  have h : calculateMultipart H (parts.map fun b => (digestsOf H b).partMeta) .composite
      = specVals H ⟨parts, kindOf .composite, true⟩ := calculateMultipart_pm H parts .composite true
  rw [h]; rfl

/-- **code_refines_spec.** For every history of put / create / uploadPart / uploadPartCopy /
complete / append / copy / ranged copy / head / delete requests, with any bodies and any supplied
checksums, every answer of the code model (every ETag and checksum value returned by a write or a
read, every BadDigest) is the answer of the specification, in which each value is by definition
the stated function of the object's current content. Holds for both validations. -/
theorem code_refines_spec (H : Hashes) (strict versioned : Bool) (ops : List BOp) :
    ∀ p ∈ runBoth H strict ({ versioned := versioned }, { versioned := versioned }) ops, p.1 = p.2 :=
  run_refines H strict { versioned := versioned } ops

/-- **etag_of_object.** After any history, `HeadObject` / `GetObject` of any key answers exactly
the values, checksum type and size that the specification derives from the key's current content
(or NoSuchKey when there is none). -/
theorem etag_of_object (H : Hashes) (strict versioned : Bool) (ops : List BOp) (key : Nat) :
    (step H strict (finalBoth H strict ({ versioned := versioned }, { versioned := versioned }) ops).1 (.head key)).2 =
      match lookup key (finalBoth H strict ({ versioned := versioned }, { versioned := versioned }) ops).2.objects with
      | none => .err .noSuchKey
      | some o => .ok (specVals H o) (some (specCType o)) (some o.content.length) := by
  obtain ⟨g, e⟩ := final_abs H strict { versioned := versioned } ops
  rw [show finalBoth H strict ({ versioned := versioned }, { versioned := versioned }) ops = _ from e]
  refine (congrArg Prod.snd (step_refines H strict g (.head key))).trans ?_
  simp only [gstep]
  cases lookup key g.objects <;> rfl

/-- PutObject: any supplied Content-MD5 / checksum that differs from the digest of the body ⇒
BadDigest and nothing changes. (Both validations.) -/
theorem bad_digest_rejects_put (H : Hashes) (strict : Bool) (s : State) (key : Nat) (body : Bytes)
    (i : Input) (h : Disagrees i (digestsOf H body).values) :
    step H strict s (.put key (digestsOf H body) (some i)) = (s, .err .badDigest) := by
  simp [step, badDigest_streamed strict, (badDigest_strict i _).2 h]

/-- UploadPart: likewise (for an existing upload). -/
theorem bad_digest_rejects_uploadPart (H : Hashes) (strict : Bool) (s : State) (uid n : Nat) (u : Upload)
    (hu : lookup uid s.uploads = some u) (body : Bytes) (i : Input)
    (h : Disagrees i (digestsOf H body).values) :
    step H strict s (.uploadPart uid n (digestsOf H body) (some i)) = (s, .err .badDigest) := by
  simp [step, hu, badDigest_streamed strict, (badDigest_strict i _).2 h]

/-- AppendObject: likewise, against the appended chunk. -/
theorem bad_digest_rejects_append (H : Hashes) (strict : Bool) (s : State) (key : Nat) (body : Bytes)
    (i : Input) (h : Disagrees i (digestsOf H body).values) :
    step H strict s (.append key (digestsOf H body) (some i)) = (s, .err .badDigest) := by
  simp [step, badDigest_streamed strict, (badDigest_strict i _).2 h]

/-- CompleteMultipartUpload with the repaired validation (`strict = true`): any
supplied value that is not exactly the value computed for the assembled object — including a
value for which nothing is computed — ⇒ BadDigest and nothing changes. -/
theorem bad_digest_rejects_complete_repaired (H : Hashes) (s : State) (uid : Nat) (u : Upload)
    (hu : lookup uid s.uploads = some u) (hc : contiguousFrom 1 u.parts = true) (i : Input)
    (h : Disagrees i (calculateMultipart H (u.parts.map (·.2)) u.ctype)) :
    step H true s (.complete uid (some i)) = (s, .err .badDigest) := by
  simp [step, hu, hc, (badDigest_strict i _).2 h]

/-- CompleteMultipartUpload before the repair (`strict = false`): a supplied value that differs
from a COMPUTED value ⇒ BadDigest. The excluded trigger — a supplied value of an algorithm for
which `CalculateMultipartChecksums` computes nothing — is the witness below. -/
theorem bad_digest_rejects_complete_partial (H : Hashes) (s : State) (uid : Nat) (u : Upload)
    (hu : lookup uid s.uploads = some u) (hc : contiguousFrom 1 u.parts = true) (i : Input)
    (h : DisagreesComputed i (calculateMultipart H (u.parts.map (·.2)) u.ctype)) :
    step H false s (.complete uid (some i)) = (s, .err .badDigest) := by
  simp [step, hu, hc, (badDigest_asIs i _).2 h]

/-- A toy instance of the uninterpreted hashes (distinct, length-revealing functions). -/
def toyH : Hashes :=
  { md5 := fun b => [UInt8.ofNat b.length, 1], sha1 := fun b => b.take 2 ++ [2], sha256 := fun b => b.reverse.take 3 ++ [3] }

/-- The history replayed on the implementation (known-findings.json, C04): a FULL_OBJECT upload of
one part, completed with a supplied SHA-256 that is the digest of nothing. -/
def witnessOps (sha : Sum) : List BOp :=
  [.create 0 0 .fullObject, .uploadPart 0 1 [1, 2, 3] none, .complete 0 (some { sha256 := some sha })]

/-- **Negation witness (before the repair).** The completion succeeds although the supplied SHA-256
disagrees with the content (nothing is computed for SHA-256 on FULL_OBJECT uploads, so
`ValidateChecksums` skips it). -/
theorem complete_unverified_checksum_accepted :
    ((runBoth toyH false ({}, {}) (witnessOps ⟨[0xde, 0xad], none⟩)).map (·.1.isOk)) = [true, true, true] := by
  decide +kernel

/-- The same history under the repaired validation is rejected at the completion. -/
theorem complete_unverified_checksum_rejected_when_repaired :
    ((runBoth toyH true ({}, {}) (witnessOps ⟨[0xde, 0xad], none⟩)).map (·.1.isOk)) = [true, true, false] := by
  decide +kernel

/-- As the code is (not a matter of C04's values, recorded because the model mirrors it): in an
unversioned bucket an append to an object assembled by CompleteMultipartUpload is refused with
an internal error (the new part row collides with the last 1-based part number); in a versioned
bucket it succeeds. -/
example :
    ((runBoth toyH false ({}, {}) [.create 0 0 .fullObject, .uploadPart 0 1 [1] none, .complete 0 none,
        .append 0 [2] none]).map (·.1)).getLast? = some (.err .internal) ∧
    ((runBoth toyH false ({ versioned := true }, { versioned := true }) [.create 0 0 .fullObject,
        .uploadPart 0 1 [1] none, .complete 0 none, .append 0 [2] none]).map (·.1.isOk)).getLast? = some true := by
  decide +kernel

/-- `Disagrees` / `DisagreesComputed` are met by concrete inputs (a wrong Content-MD5 on a put). -/
example : Disagrees { etag := some ⟨[9, 9], none⟩ } (digestsOf toyH [1, 2, 3]).values :=
  Or.inl ⟨_, rfl, by decide⟩

/-- A three-part FULL_OBJECT upload with an empty middle part: the combined CRC-32 the code model
computes is the CRC-32 of the six bytes (an instance of the fold theorem that is really computed). -/
example :
    (calculateMultipart toyH ([[1, 2, 3], [], [4, 5, 6]].map fun b => (digestsOf toyH b).partMeta) .fullObject).crc32
      = some ⟨sumBE crc32IEEE [1, 2, 3, 4, 5, 6], none⟩ := by decide +kernel

/-- A history with every kind of object; all answers of code model and spec agree (computed). -/
example :
    (runBoth toyH false ({}, {})
      [.put 0 [7, 8] none, .append 0 [9] none, .create 1 1 .composite, .uploadPart 1 2 [5] none,
       .uploadPart 1 1 [4, 4] none, .uploadPartCopy 1 3 0 0 2, .complete 1 none, .copy 1 2,
       .copyRange 1 3 1 4, .head 0, .head 1, .head 2, .head 3]).all (fun p => p.1 == p.2 && p.1.isOk) = true := by
  decide +kernel

end Pithos.C04
