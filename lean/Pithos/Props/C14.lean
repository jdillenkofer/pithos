/-
C14 — storage-class transitions preserve objects (the routing of part data to named stores is
validated by the tie on the `named` stack; the model abstracts stores to "parts are readable").
-/
import Pithos.Lemmas.S3Resave
import Pithos.Props.C13

namespace Pithos.C14
open Pithos.S3

/-- **transition_preserves (current version).** A successful transition of the current version of a
key changes only the reported storage class: the next GET/HEAD returns the same version id, body,
size, ETag, content type, metadata and tags, with the class set to the target. Every reachable
state (row invariant), every quirk setting. -/
theorem transition_preserves (q : Quirks) (s s1 : State) (hinv : Inv s) (b k cls : String)
    (hack : step q s (.transition b k cls none) = (s1, .unit)) :
    ∃ v0 v1, (step q s (.get b k none)).2 = .obj v0 ∧ (step q s1 (.get b k none)).2 = .obj v1 ∧
      v1.vid = v0.vid ∧ v1.body = v0.body ∧ v1.size = v0.size ∧ v1.etag = v0.etag ∧ v1.ct = v0.ct ∧
      v1.md = v0.md ∧ v1.tags = v0.tags ∧ v1.cls = some cls := by
  obtain ⟨v0, v1, g0, g1, _, _, h⟩ := transition_reads q s s1 hinv b k cls none hack
  exact ⟨v0, v1, g0, g1, h⟩

/-- **transition_preserves_version ("… an object *or version* …").** A successful transition of the
version addressed by `vid` (the null version or a numbered one, current or not) changes only the
reported storage class of that version: GET/HEAD by the same version id returns the same version
id, body, size, ETag, content type, metadata and tags, with the class set to the target; whether
the version is the current one is unchanged as well. Every reachable state, every quirk setting. -/
theorem transition_preserves_version (q : Quirks) (s s1 : State) (hinv : Inv s) (b k cls : String)
    (vid : Option Nat) (hack : step q s (.transition b k cls (some vid)) = (s1, .unit)) :
    ∃ v0 v1, (step q s (.get b k (some vid))).2 = .obj v0 ∧ (step q s1 (.get b k (some vid))).2 = .obj v1 ∧
      (step q s (.head b k (some vid))).2 = .obj v0 ∧ (step q s1 (.head b k (some vid))).2 = .obj v1 ∧
      v1.vid = v0.vid ∧ v1.body = v0.body ∧ v1.size = v0.size ∧ v1.etag = v0.etag ∧ v1.ct = v0.ct ∧
      v1.md = v0.md ∧ v1.tags = v0.tags ∧ v1.cls = some cls :=
  transition_reads q s s1 hinv b k cls (some vid) hack

/-- The projection of a row that a transition must not change: everything but the storage class
(and the bookkeeping fields `updated` / `seqBase`). -/
def keep (r : Row) :=
  (r.rowId, r.key, r.vid, r.latest, r.dm, r.content, r.etag, r.tags, r.md, r.ct)

/-- **transition_changes_only_class (whole bucket).** An acknowledged transition — of the current
version or of a version addressed by id — leaves, for *every* row of the bucket, the key, version
id, current-version flag, delete-marker flag, content, ETag, tags, metadata and content type
unchanged, in the same order: listings, "which version is current" and every other version are
not affected. Every reachable state, every quirk setting. -/
theorem transition_changes_only_class (q : Quirks) (s s1 : State) (hinv : Inv s) (b k cls : String)
    (vid : Option (Option Nat)) (bk : Bucket) (hfb : findBucket s b = some bk)
    (hack : step q s (.transition b k cls vid) = (s1, .unit)) :
    ∃ bk1, findBucket s1 b = some bk1 ∧ bk1.rows.map keep = bk.rows.map keep :=
  (Resaves.transition b k cls vid).rows_map hinv hfb hack keep fun _ => by simp [touch, keep, Row.content]

/-- Transitions never touch any *other* version that has a version id (corollary of C13). -/
theorem transition_keeps_other_versions (q : Quirks) (hq : q.appendLatestInPlace = false) (s : State) (hinv : Inv s)
    (b b' k cls : String) (vid : Option (Option Nat)) (bk : Bucket) (r : Row)
    (hfb : findBucket s b = some bk) (hr : r ∈ bk.rows) (hv : r.vid ≠ none) :
    ∃ bk', findBucket (step q s (.transition b' k cls vid)).1 b = some bk' ∧ ∃ r' ∈ bk'.rows, frozenEq q r r' :=
  C13.version_frozen q hq s hinv _ b bk r hfb hr hv (by intro ⟨_, _, _, h, _⟩; cases h)

/-- Non-vacuity: a concrete reachable state in which a transition succeeds. -/
example : (step Quirks.code (run Quirks.code {} [.mkb "b", .put "b" "k" [1, 2] {} false .none]).1
    (.transition "b" "k" "GLACIER" none)).2 = .unit := by decide

end Pithos.C14
