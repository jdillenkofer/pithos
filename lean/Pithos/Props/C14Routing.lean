/-
C14, second half — "… afterwards the object's part data lives in the part store mapped to that
class while every object remains readable whichever configured store its parts are in", over all
histories with transitions between classes mapped to the same or different named stores,
remapped configurations and shared / deduplicated parts.

Model: `Pithos.Model.ClassRouting` (part rows with recorded store names, registry ref_counts,
dedup index, physical contents of the named stores; Put / Append / Copy / Transition / Delete /
multipart / remap / GC).  The model is tied to /repo by the routing histories of the `s3h`
harness (stack "route"): `lean/Pithos/Util/C14Driver.lean` runs it on the same operations and
compares it with the routing state read from the real system after every mutation.

Theorems (all unbounded: every state satisfying the invariant / every history from the empty store):
 (a) `transition_routes`             after a successful transition to class c every part row of the
                                     version records `storeFor cmap c` (the default store when c is
                                     unmapped or mapped to "default"), that store is configured and
                                     physically holds the part with the recorded content;
 (b) `invariant_all_histories`       `Inv` (every part row's recorded store is configured and holds the
                                     part; ref_count = number of referencing part rows; index entries
                                     point at present parts) holds after every history,
     `all_readable_all_histories`    hence every entity reads back exactly its recorded contents,
     `remap_keeps_routing`           a remapped configuration changes no row, count or store content:
                                     recorded stores keep being used,
     `delete_keeps_coreferrers`      deleting a version leaves every other one readable (shared parts);
 faults `transition_fault_aborts`   every open/read/put fault at every copy step of a transition aborts it
                                     and leaves the routing state untouched; `transition_under_faults`,
                                     `invariant_all_faulty_histories`: invariant + readability under any fault plan;
 (c) `transition_keeps_content`      a transition keeps the contents of the parts and their order, what a
                                     reader gets, and every other entity,
     `transition_same_store_relabels` when all parts already live in the target store, part ids,
                                     registry, index and store contents are unchanged.
-/
import Pithos.Lemmas.ClassRoutingOps

namespace Pithos.C14Routing
open Pithos.ClassRouting

/-- A configuration `NewNamedPartStores` accepts: the default store exists and every class maps to
"default" or to a configured store. -/
def CfgOk (stores : List SName) (cmap : List (String × String)) : Prop :=
  "" ∈ stores ∧ ∀ c n, (c, n) ∈ cmap → n = defaultStoreName ∨ n ∈ stores

/-- **(b)** The routing invariant holds after every history of operations (successful or failing,
including remaps and collector passes) from the empty store with any accepted configuration. -/
theorem invariant_all_histories (stores : List SName) (cmap : List (String × String))
    (hcfg : CfgOk stores cmap) (ops : List Op) : Inv (run (init stores cmap) ops) :=
  run_inv (init_inv hcfg.1 hcfg.2) ops

/-- **(b)** After every history every object version and pending upload is readable. -/
theorem all_readable_all_histories (stores : List SName) (cmap : List (String × String))
    (hcfg : CfgOk stores cmap) (ops : List Op) :
    ∀ e ∈ (run (init stores cmap) ops).ents, Readable (run (init stores cmap) ops) e :=
  readable_of_inv (invariant_all_histories stores cmap hcfg ops)

/-- **(b)** After every history the registry's ref_count of every part id is exactly the number of
part rows referencing it (in particular a referenced part never has count 0), and every
referenced part is physically present in the store its row records. -/
theorem refcount_exact_all_histories (stores : List SName) (cmap : List (String × String))
    (hcfg : CfgOk stores cmap) (ops : List Op) :
    (∀ p, (run (init stores cmap) ops).reg p = refs (run (init stores cmap) ops) p) ∧
    (∀ r ∈ rows (run (init stores cmap) ops),
      r.store ∈ (run (init stores cmap) ops).stores ∧
      (run (init stores cmap) ops).phys r.store r.pid = some r.content ∧
      0 < (run (init stores cmap) ops).reg r.pid) := by
  have h := invariant_all_histories stores cmap hcfg ops
  refine ⟨h.cnt, ?_⟩
  intro r hr
  have := h.held r hr
  refine ⟨this.1, this.2, ?_⟩
  rw [h.cnt, refs_eq]
  exact pc_pos.mpr ⟨r, hr, rfl⟩

/-- **(b)** Remapping the configuration touches no part row, count, index entry or store content:
every entity keeps reading from the stores its rows record. -/
theorem remap_keeps_routing {s s' : State} {m : List (String × String)}
    (ha : apply s (.remap m) = some s') :
    s'.ents = s.ents ∧ s'.stores = s.stores ∧ s'.reg = s.reg ∧ s'.idx = s.idx ∧ s'.phys = s.phys ∧
    s'.cmap = m ∧ ∀ e, readBack s' e = readBack s e := by
  simp only [apply] at ha
  split at ha
  · cases ha
    exact ⟨rfl, rfl, rfl, rfl, rfl, rfl, fun _ => rfl⟩
  · cases ha

/-- **(b)** Deleting a version leaves every other entity in place and readable — also those that
share (deduplicated) parts with the deleted one. -/
theorem delete_keeps_coreferrers {s s' : State} {t : Nat} (h : Inv s)
    (ha : apply s (.delete t) = some s') :
    ∀ e ∈ s.ents, e.id ≠ t → e ∈ s'.ents ∧ Readable s' e := by
  intro e he hne
  have hi := apply_inv h ha
  simp only [apply] at ha
  obtain ⟨_, _, _, hents, _⟩ := commit_some ha
  have hm : e ∈ s'.ents := by
    rw [hents]
    simp only [Option.toList_none, List.append_nil, List.mem_filter, bne_iff_ne, ne_eq]
    exact ⟨he, hne⟩
  exact ⟨hm, readable_of_inv hi e hm⟩

/-- **(a)** After a successful transition of version `t` to class `cls`: the version exists, reports
`cls`, and EVERY one of its part rows records the store the configuration maps `cls` to (the
default store when unmapped), which is configured and physically holds the part with the recorded
content. Every reachable state (invariant), every configuration, shared / repeated parts included. -/
theorem transition_routes {s s' : State} {t : Nat} {cls : String} (h : Inv s)
    (hstep : step s (.transition t cls) = (s', true)) :
    (∃ e ∈ s'.ents, e.id = t) ∧
    ∀ e ∈ s'.ents, e.id = t →
      e.cls = some cls ∧
      ∀ r ∈ e.parts, r.store = storeFor s.cmap cls ∧ r.store ∈ s'.stores ∧
        s'.phys r.store r.pid = some r.content := by
  have hi := apply_inv h (step_true hstep)
  obtain ⟨e, ps, hf, hmem, huniq, _, hst, _⟩ := transition_spec h hstep
  refine ⟨⟨_, hmem, (findEnt_some hf).2⟩, ?_⟩
  intro x hx hxt
  rw [huniq x hx hxt]
  exact ⟨rfl, fun r hr => ⟨hst r hr, hi.held r (parts_sub_rows hmem r hr)⟩⟩

/-- **(c)** A successful transition keeps the contents of the version's parts and their order
(hence their number), what a reader of the version gets back, and every other entity. -/
theorem transition_keeps_content {s s' : State} {t : Nat} {cls : String} (h : Inv s)
    (hstep : step s (.transition t cls) = (s', true)) :
    ∃ e ∈ s.ents, e.id = t ∧ ∃ e' ∈ s'.ents, e'.id = t ∧
      e'.parts.map (·.content) = e.parts.map (·.content) ∧
      readBack s' e' = readBack s e ∧
      (∀ x, x.id ≠ t → (x ∈ s'.ents ↔ x ∈ s.ents)) := by
  have hi := apply_inv h (step_true hstep)
  obtain ⟨e, ps, hf, hmem, _, hothers, _, hcont, _⟩ := transition_spec h hstep
  obtain ⟨he, hid⟩ := findEnt_some hf
  refine ⟨e, he, hid, _, hmem, hid, hcont, ?_, hothers⟩
  have r1 := readable_of_inv hi _ hmem
  have r0 := readable_of_inv h e he
  unfold Readable at r1 r0
  rw [r1, r0]
  have := congrArg (List.map some) hcont
  simpa [List.map_map, Function.comp_def] using this

/-- **(c)** A transition between classes of one store (all parts already live in the target store)
is a pure relabelling: the part ids of the version, the registry, the dedup index and the contents
of every store are unchanged. -/
theorem transition_same_store_relabels {s s' : State} {t : Nat} {cls : String} (h : Inv s)
    (hstep : step s (.transition t cls) = (s', true)) {e : Ent} (hf : findEnt s t = some e)
    (hsame : ∀ r ∈ e.parts, r.store = storeFor s.cmap cls) :
    (∃ e' ∈ s'.ents, e'.id = t ∧ e'.parts.map (·.pid) = e.parts.map (·.pid)) ∧
    s'.reg = s.reg ∧ s'.idx = s.idx ∧ s'.phys = s.phys := by
  obtain ⟨e0, ps, hf0, hmem, _, _, _, _, hrel⟩ := transition_spec h hstep
  rw [hf] at hf0
  cases hf0
  obtain ⟨hpids, hrest⟩ := hrel hsame
  exact ⟨⟨_, hmem, (findEnt_some hf).2, hpids⟩, hrest⟩

/-- A call that fails leaves no trace in the routing state (whatever the fault plan). -/
theorem failed_call_leaves_no_trace {s s' : State} {op : Op} {flt : Option Fault}
    (h : stepF s op flt = (s', false)) : s' = s := by
  rcases stepF_cases s op flt with h1 | ⟨x, _, h1⟩
  · rw [h1] at h
    exact (Prod.mk.inj h).1.symm
  · rw [h1] at h
    cases (Prod.mk.inj h).2

/-- Whatever part-store fault strikes whichever copy step of whichever call: the call either
fails or does exactly what it does without the fault. -/
theorem fault_dichotomy (s : State) (op : Op) (flt : Option Fault) :
    applyF s op flt = none ∨ applyF s op flt = apply s op := applyF_dichotomy s op flt

/-- **Every aborting fault at every copy step aborts the transition.** If `srcStore.GetPart`
fails, the source stream breaks, or `targetStore.PutPart` fails (with or without a failing
`Close` on top) at any of the copy steps the transition performs, the transition fails and the
routing state — part rows, classes, registry, index, store contents — is the one before the call. -/
theorem transition_fault_aborts {s : State} {t : Nat} {cls : String} {e : Ent} {f : Fault}
    (hf : findEnt s t = some e) (hab : f.aborts = true)
    (hstep : f.step < crossCount (storeFor s.cmap cls) e.parts) :
    stepF s (.transition t cls) (some f) = (s, false) := by
  unfold stepF
  rw [applyF_transition, hf, if_pos (by simp [strikes, hab, hstep])]

/-- A fault that only makes `Close` fail, or that is planned for a copy step the transition does not
reach, changes nothing. -/
theorem transition_fault_harmless {s : State} {t : Nat} {cls : String} {f : Fault}
    (h : f.aborts = false ∨ ∀ e, findEnt s t = some e → crossCount (storeFor s.cmap cls) e.parts ≤ f.step) :
    applyF s (.transition t cls) (some f) = apply s (.transition t cls) := by
  rw [applyF_transition, if_neg]
  intro hs
  obtain ⟨e, hf, hs⟩ := (Option.any_eq_true _ _).1 hs
  simp only [strikes, Bool.and_eq_true, decide_eq_true_eq] at hs
  rcases h with h | h
  · rw [h] at hs; cases hs.1
  · have := h e hf; omega

/-- **A transition under any part-store fault.** From a state with the invariant, for every fault
plan: the invariant holds afterwards and every entity is readable; if the call failed the state is
untouched; if it succeeded it is a fault-free successful transition (so `transition_routes` and
`transition_keeps_content` apply to it). -/
theorem transition_under_faults {s : State} (h : Inv s) (t : Nat) (cls : String) (flt : Option Fault) :
    Inv (stepF s (.transition t cls) flt).1 ∧
    (∀ e ∈ (stepF s (.transition t cls) flt).1.ents, Readable (stepF s (.transition t cls) flt).1 e) ∧
    ((stepF s (.transition t cls) flt).2 = false → (stepF s (.transition t cls) flt).1 = s) ∧
    ((stepF s (.transition t cls) flt).2 = true →
      step s (.transition t cls) = ((stepF s (.transition t cls) flt).1, true)) := by
  have hi := stepF_inv h (.transition t cls) flt
  rcases stepF_cases s (.transition t cls) flt with h1 | ⟨x, ha, h1⟩
  · rw [h1] at hi ⊢
    exact ⟨hi, readable_of_inv hi, fun _ => rfl, nofun⟩
  · rw [h1] at hi ⊢
    refine ⟨hi, readable_of_inv hi, nofun, fun _ => ?_⟩
    unfold step
    rw [ha]

/-- **(b) with faults.** The invariant — and with it the readability of every entity — holds after
every history in which any call may be struck by any part-store fault. -/
theorem invariant_all_faulty_histories (stores : List SName) (cmap : List (String × String))
    (hcfg : CfgOk stores cmap) (ops : List (Op × Option Fault)) :
    Inv (runF (init stores cmap) ops) ∧
    ∀ e ∈ (runF (init stores cmap) ops).ents, Readable (runF (init stores cmap) ops) e := by
  have h := runF_inv (init_inv hcfg.1 hcfg.2) ops
  exact ⟨h, readable_of_inv h⟩

/-- Three stores, the configuration of the harness's "route" stack. -/
def exStores : List SName := ["", "ia", "cold"]
def exMap : List (String × String) := [("STANDARD_IA", "ia"), ("GLACIER", "cold"), ("DEEP_ARCHIVE", "cold")]

example : CfgOk exStores exMap := by
  refine ⟨by decide, ?_⟩
  intro c n h
  simp [exMap] at h
  rcases h with ⟨_, rfl⟩ | ⟨_, rfl⟩ | ⟨_, rfl⟩ <;> right <;> decide

/-- Two GLACIER objects with the same content (one deduplicated part, shared), the first one with
that part twice (append of the same bytes): a history in which everything above is non-trivial. -/
def exState : State :=
  run (init exStores exMap) [.put 0 (some "GLACIER") 7, .append 0 7, .put 2 (some "DEEP_ARCHIVE") 7]

-- the part id 0 is referenced three times (twice by entity 0, once by entity 2) and lives in "cold"
example : exState.reg 0 = 3 ∧ exState.phys "cold" 0 = some 7 ∧
    exState.ents.map (fun e => e.parts.map (·.pid)) = [[0, 0], [0]] := by decide +kernel

-- a same-store transition (GLACIER → DEEP_ARCHIVE, both "cold") succeeds and keeps the part ids
example : (step exState (.transition 0 "DEEP_ARCHIVE")).2 = true ∧
    ((step exState (.transition 0 "DEEP_ARCHIVE")).1.ents.map fun e => (e.id, e.parts.map (·.pid))) =
      [(2, [0]), (0, [0, 0])] := by decide +kernel

-- a cross-store transition (→ STANDARD_IA = "ia") succeeds, copies both rows under fresh ids into
-- "ia", and the shared part stays in "cold" for the other object (ref_count 3 → 1)
example : (step exState (.transition 0 "STANDARD_IA")).2 = true ∧
    ((step exState (.transition 0 "STANDARD_IA")).1.ents.map fun e => (e.id, e.parts.map fun r => (r.pid, r.store))) =
      [(2, [(0, "cold")]), (0, [(3, "ia"), (4, "ia")])] ∧
    (step exState (.transition 0 "STANDARD_IA")).1.reg 0 = 1 ∧
    (step exState (.transition 0 "STANDARD_IA")).1.phys "cold" 0 = some 7 := by decide +kernel

-- an object written while GLACIER is unmapped stays in the default store after GLACIER is remapped
-- to "cold", remains readable, and a transition to DEEP_ARCHIVE then moves it to "cold"
example :
    let s := run (init exStores []) [.put 0 (some "GLACIER") 5, .remap [("GLACIER", "cold"), ("DEEP_ARCHIVE", "cold")]]
    (s.ents.map fun e => e.parts.map (·.store)) = [[""]] ∧
    (s.ents.map (readBack s)) = [[some 5]] ∧
    ((step s (.transition 0 "DEEP_ARCHIVE")).1.ents.map fun e => e.parts.map (·.store)) = [["cold"]] := by decide +kernel

-- deleting the co-referrer and collecting garbage keeps the survivor readable
example :
    let s := run exState [.transition 0 "DEEP_ARCHIVE", .delete 2, .gc]
    (s.ents.map (readBack s)) = [[some 7, some 7]] ∧ s.reg 0 = 2 := by decide +kernel

-- faults: entity 0 of `exState` has two parts in "cold"; a transition to STANDARD_IA copies both.
-- A failing PutPart at the second copy step aborts (after the first copy was already made) …
example : (stepF exState (.transition 0 "STANDARD_IA") (some ⟨1, .put, false⟩)).2 = false ∧
    crossCount (storeFor exState.cmap "STANDARD_IA") [⟨0, "cold", 7, 0⟩, ⟨0, "cold", 7, 1⟩] = 2 := by decide +kernel
-- … a broken source stream at the first one too, also when Close fails on top …
example : (stepF exState (.transition 0 "STANDARD_IA") (some ⟨0, .read, true⟩)).2 = false := by decide +kernel
-- … while a failing Close alone, or a fault planned for a third copy step, lets it succeed
example : (stepF exState (.transition 0 "STANDARD_IA") (some ⟨0, .close, true⟩)).2 = true ∧
    (stepF exState (.transition 0 "STANDARD_IA") (some ⟨2, .put, false⟩)).2 = true := by decide +kernel

end Pithos.C14Routing
