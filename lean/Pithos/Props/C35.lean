/-
C35 — checksum arithmetic is exact.

Model in `Pithos.Model.Checksum`, the proof chain in `Pithos.Lemmas.Checksum` (both core Lean;
nothing here uses `bv_decide`/`native_decide`); its links are stated here first, numbered (1)–(4).
All statements are for *every* byte string / every write chunking — no bound on lengths.

* `combine_correct` — for every width `n`, reflected polynomial, init and xorOut, and all byte
  strings `a b`: the Go `combine` (matrix algorithm, as written) applied to `crc a`, `crc b`,
  `|b|` is `crc (a ++ b)`.
* `combineCrc32_correct`, `combineCrc32c_correct`, `combineCrc64Nvme_correct` — the exported
  functions on the big-endian `Sum` bytes, including `createCombineFunction`'s `bitrev` of the
  normal-form polynomial, the `len2 == 0` shortcut and `encode_to_bytes`.
* `dispatch_concat`, `dispatch_blocks_shape`, `streaming_eq_oneshot` — the block dispatcher hands
  every hash exactly the written bytes, in order, in non-empty blocks of at most the block size;
  so for ANY incremental hash (uninterpreted `upd`) streaming = one-shot.
* `combine_scratch_is_call_local`, `extracted_constants_are_the_models` — T1: facts regenerated from
  checksumutils.go on every run (`Pithos.Gen.ChecksumFacts`).
-/
import Pithos.Lemmas.Checksum
import Pithos.Gen.ChecksumFacts

namespace Pithos.C35
open Pithos.Checksum

/-- (1) One zero bit through the CRC register is GF(2)-linear, for every width and polynomial. -/
theorem zero_bit_step_linear {n : Nat} (P x y : BitVec n) :
    shift1 P (x ^^^ y) = shift1 P x ^^^ shift1 P y := shift1_lin P x y

/-- (1') `crc (a ++ b) = Z^{8|b|} (crc a ⊕ init ⊕ xorOut) ⊕ crc b` with the init/xorOut
conventions explicit. -/
theorem crc_append_zeros {n : Nat} (p : Params n) (a b : List UInt8) :
    crc p (a ++ b)
      = iter (shift1 p.poly) (8 * b.length) (crc p a ^^^ (p.init ^^^ p.xorOut)) ^^^ crc p b :=
  crc_append p a b

/-- (2) `gf2_matrix_times` computes the linear map its matrix represents. -/
theorem matrix_times_is_linear_map {n : Nat} (f : BitVec n → BitVec n) (mat : List (BitVec n))
    (hf : Lin f) (h : Rep mat f) (v : BitVec n) : gf2MatrixTimes mat v = f v := times_rep hf h v

/-- (3) `gf2_matrix_square` squares the operator (doubles the number of zero bits applied). -/
theorem matrix_square_doubles {n : Nat} (P : BitVec n) (k : Nat) (mat : List (BitVec n))
    (h : Rep mat (iter (shift1 P) k)) : Rep (gf2MatrixSquare mat) (iter (shift1 P) (2 * k)) := by
  have h2 := square_rep (iter_lin (shift1_lin P) k) h
  have e : (fun x => iter (shift1 P) k (iter (shift1 P) k x)) = iter (shift1 P) (2 * k) := by
    funext x; rw [← iter_add]; congr 1; omega
  rw [e] at h2; exact h2

/-- (4) The loop over the bits of `len2`: `combine` applies `8·len2` zero bits to
`crc1 ⊕ init ⊕ xorOut` and xors `crc2`. -/
theorem combine_applies_zero_bytes {n : Nat} (hn : 0 < n) (P I X c1 c2 : BitVec n) (len2 : Nat)
    (h : len2 ≠ 0) :
    combine P I X c1 c2 len2 = iter (shift1 P) (8 * len2) (c1 ^^^ (I ^^^ X)) ^^^ c2 := by
  rw [combine_eq hn, if_neg h]

/-- **combine_correct.** For every width, polynomial, init, xorOut and ALL byte strings `a`, `b`
(any lengths, including empty): the matrix algorithm of checksumutils.go combines `crc a`,
`crc b` and `|b|` into `crc (a ++ b)`. -/
theorem combine_correct {n : Nat} (p : Params n) (a b : List UInt8) :
    combine p.poly p.init p.xorOut (crc p a) (crc p b) b.length = crc p (a ++ b) :=
  combine_crc p a b

theorem combine_correct_crc32 (a b : List UInt8) :
    combine crc32IEEE.poly crc32IEEE.init crc32IEEE.xorOut (crc crc32IEEE a) (crc crc32IEEE b) b.length
      = crc crc32IEEE (a ++ b) := combine_correct _ a b

theorem combine_correct_crc32c (a b : List UInt8) :
    combine crc32C.poly crc32C.init crc32C.xorOut (crc crc32C a) (crc crc32C b) b.length
      = crc crc32C (a ++ b) := combine_correct _ a b

theorem combine_correct_crc64nvme (a b : List UInt8) :
    combine crc64NVME.poly crc64NVME.init crc64NVME.xorOut (crc crc64NVME a) (crc crc64NVME b) b.length
      = crc crc64NVME (a ++ b) := combine_correct _ a b

/-- **CombineCrc32** as exported (bytes in, bytes out; `bitrev`, decode, `combine`, encode). -/
theorem combineCrc32_correct (a b : List UInt8) :
    combineCrc32 (sumBE crc32IEEE a) (sumBE crc32IEEE b) b.length = some (sumBE crc32IEEE (a ++ b)) :=
  combineCrc32_sumBE a b

/-- **CombineCrc32c** as exported. -/
theorem combineCrc32c_correct (a b : List UInt8) :
    combineCrc32c (sumBE crc32C a) (sumBE crc32C b) b.length = some (sumBE crc32C (a ++ b)) :=
  combineCrc32c_sumBE a b

/-- **CombineCrc64Nvme** as exported. -/
theorem combineCrc64Nvme_correct (a b : List UInt8) :
    combineCrc64Nvme (sumBE crc64NVME a) (sumBE crc64NVME b) b.length
      = some (sumBE crc64NVME (a ++ b)) :=
  combineCrc64Nvme_sumBE a b

/-- **dispatch_concat.** For every block size `B > 0` and every sequence of `Write` calls (any
chunking, including empty writes), the blocks handed to each hash — including the tail handed
over by `Flush` — concatenate to exactly the bytes written, in order. -/
theorem dispatch_concat (B : Nat) (hB : 0 < B) (writes : List (List UInt8)) :
    (dispatched B writes).flatten = writes.flatten := by
  unfold dispatched
  rw [Phw.flush_out_flatten, (Phw.foldl_write_empty B hB writes).1]

/-- **dispatch_blocks_shape.** Every dispatched block is non-empty and at most one block long
(so no hash is ever handed more than the buffer holds, and never an empty write). -/
theorem dispatch_blocks_shape (B : Nat) (hB : 0 < B) (writes : List (List UInt8)) :
    ∀ blk ∈ dispatched B writes, 0 < blk.length ∧ blk.length ≤ B :=
  Phw.flush_out_shape (Phw.foldl_write_empty B hB writes).2

/-- **streaming_eq_oneshot.** For ANY incremental hash — an arbitrary state type, an arbitrary
per-byte update `upd` and start state — feeding it the dispatched blocks one `Write` per block
leaves it in the same state as one `Write` of the whole input. Hence `Sum` agrees, whatever the
hash is (MD5, SHA-1, SHA-256 and the CRCs are instances). -/
theorem streaming_eq_oneshot {σ : Type} (upd : σ → UInt8 → σ) (s0 : σ) (B : Nat) (hB : 0 < B)
    (writes : List (List UInt8)) :
    (dispatched B writes).foldl (fun s blk => blk.foldl upd s) s0 = writes.flatten.foldl upd s0 := by
  rw [← dispatch_concat B hB writes, List.foldl_flatten]

/-- The real block size is positive, so the three theorems above apply to it. -/
theorem hashBlockSize_pos : 0 < hashBlockSize := by decide

/-- **combine_scratch_is_call_local** (re-entrancy by construction). `combine_correct` is about a
pure function; the implementation is one only if nothing mutable outlives a call. In the current
source, nothing reachable from `CombineCrc32/32c/64Nvme` touches a package-level variable (other
than once-initialised function values, whose initialisers are followed), no reachable function
literal captures a slice / array / map / pointer / value of unrecognised type, and none assigns to
a captured variable: the operator matrices are allocated inside each call. A change that shares
scratch state between callers changes the generated lists and breaks this obligation. -/
theorem combine_scratch_is_call_local :
    Gen.ChecksumFacts.combineSharedVars = [] ∧ Gen.ChecksumFacts.combineCapturedNonScalars = [] ∧
    Gen.ChecksumFacts.combineCapturedWritten = [] := by decide

/-- The literals the source hands to `createCombineFunction` are the ones the model (and hence
`combineCrc32_correct` …) is about, and the block size is the model's. -/
theorem extracted_constants_are_the_models :
    Gen.ChecksumFacts.combineEntries =
      [("CombineCrc32", 0x104C11DB7, 32, 0xFFFFFFFF), ("CombineCrc32c", 0x1EDC6F41, 32, 0xFFFFFFFF),
       ("CombineCrc64Nvme", 0xAD93D23594C93659, 64, 0xFFFFFFFFFFFFFFFF)] ∧
    (∀ a b n, combineCrc32 a b n = createCombine 0x104C11DB7 32 0xFFFFFFFF a b n) ∧
    (∀ a b n, combineCrc32c a b n = createCombine 0x1EDC6F41 32 0xFFFFFFFF a b n) ∧
    (∀ a b n, combineCrc64Nvme a b n = createCombine 0xAD93D23594C93659 64 0xFFFFFFFFFFFFFFFF a b n) ∧
    Gen.ChecksumFacts.hashBlockSize = hashBlockSize := by
  refine ⟨by decide, fun _ _ _ => rfl, fun _ _ _ => rfl, fun _ _ _ => rfl, by decide⟩

/-- The model CRC-32 is the standard one: check value of "123456789" is `cbf43926`. -/
example : sumBE crc32IEEE [0x31, 0x32, 0x33, 0x34, 0x35, 0x36, 0x37, 0x38, 0x39]
    = [0xcb, 0xf4, 0x39, 0x26] := by decide +kernel

/-- CRC-32C check value `e3069283`. -/
example : sumBE crc32C [0x31, 0x32, 0x33, 0x34, 0x35, 0x36, 0x37, 0x38, 0x39]
    = [0xe3, 0x06, 0x92, 0x83] := by decide +kernel

/-- CRC-64/NVME check value `ae8b14860a799888`. -/
example : sumBE crc64NVME [0x31, 0x32, 0x33, 0x34, 0x35, 0x36, 0x37, 0x38, 0x39]
    = [0xae, 0x8b, 0x14, 0x86, 0x0a, 0x79, 0x98, 0x88] := by decide +kernel

/-- The matrix algorithm really runs (not only the `len2 = 0` shortcut): a concrete instance. -/
example : combineCrc32 (sumBE crc32IEEE [0x31, 0x32, 0x33, 0x34]) (sumBE crc32IEEE [0x35, 0x36, 0x37, 0x38, 0x39]) 5
    = some [0xcb, 0xf4, 0x39, 0x26] := by decide +kernel

/-- A chunking that straddles the block size: blocks of 4 out of writes of 3, 0, 6, 1 bytes. -/
example : dispatched 4 [[1, 2, 3], [], [4, 5, 6, 7, 8, 9], [10]]
    = [[1, 2, 3, 4], [5, 6, 7, 8], [9, 10]] := by decide

/-- `Lin`/`Rep` are inhabited by the operator `combine` starts from (so (2), (3) are not vacuous). -/
example : Rep (crc32IEEE.poly :: mkRows 31 1#32) (shift1 crc32IEEE.poly) ∧ Lin (shift1 crc32IEEE.poly) :=
  ⟨odd0_rep (by decide) _, shift1_lin _⟩

end Pithos.C35
