/-
C28 — SigV4 authentication cannot be satisfied by an altered request.

Model: `Pithos.Model.Http.SigV4.checkAuth` (= `checkAuthentication` of signature.go).
SHA-256 and HMAC-SHA256 are parameters; their idealisations are explicit hypotheses
(`CollisionFree`, `Unforgeable`), instantiated by a toy pair in the `example`s at the end.
All statements hold for every request, every configuration and both model variants (`fx`).
-/
import Pithos.Lemmas.SigV4

namespace Pithos.C28
open Pithos.SigV4

/-- **canonical_injective.** The canonical request is an injective encoding of the signed
components: method, canonical URI, canonical query string, the list of signed headers with their
canonical values, and the payload hash. -/
theorem canonical_injective (k k' : Canon) (w : CanonWF k) (w' : CanonWF k') (e : k.render = k'.render) :
    k = k' := by
  unfold Canon.render at e
  simp only [List.append_assoc, List.singleton_append] at e
  obtain ⟨e1, e⟩ := split_unique 10 w.method w'.method e
  obtain ⟨e2, e⟩ := split_unique 10 w.uri w'.uri e
  obtain ⟨e3, e⟩ := split_unique 10 w.query w'.query e
  obtain ⟨e4, e⟩ := headers_block_unique _ _ _ _ w.headers w'.headers e
  rw [e4] at e
  have e5 := List.append_cancel_left e
  simp only [List.cons.injEq, true_and] at e5
  cases k; cases k'
  simp only at e1 e2 e3 e4 e5
  simp [e1, e2, e3, e4, e5]

/-- The canonical request the server computes for a request that `net/http` can deliver is well
formed, so `canonical_injective` applies to it. -/
theorem server_canonical_wellformed (c : Crypto) (fx : Fix) (r : Req) (S : List Bytes) (presigned : Bool)
    (w : ReqWF r) : CanonWF (serverCanon c fx r S presigned) := by
  refine ⟨w.method, not_mem_canonicalURI _, not_mem_canonicalQuery _ _, fun h hm => ?_⟩
  rcases mem_collectSignedHeaders.1 hm with rfl | ⟨h0, hh0, _, rfl⟩
  · exact ⟨(by decide : (10 : UInt8) ∉ hostKey), (by decide : (58 : UInt8) ∉ hostKey),
      fun hx => w.host (mem_of_mem_trimSpace _ _ hx)⟩
  · obtain ⟨a, b, cc⟩ := w.headers h0 hh0
    exact ⟨not_mem_lower 10 (fun c => eq_of_lowerByte_eq (by decide)) _ a,
      not_mem_lower 58 (fun c => eq_of_lowerByte_eq (by decide)) _ b, not_mem_headerValue fx _ cc⟩

/-- **canonical_uri_denotes_path.** The canonical URI determines the path the router acts on
(percent-decoding commutes with the canonicalisation), so two requests with the same canonical
URI address the same object. -/
theorem canonical_uri_denotes_path (p : Bytes) (h : p ≠ []) : pctDecode (canonicalURI p) = pctDecode p := by
  unfold canonicalURI
  cases p with
  | nil => exact absurd rfl h
  | cons c t => simpa using pctDecode_canonURILoop (c :: t)

/-- **canonical_query_determines_parameters.** Two requests with the same canonical query string
carry the same multiset of (decoded) query parameters, the signature parameter itself aside —
added, removed, duplicated or altered parameters change the canonical request. -/
theorem canonical_query_determines_parameters (fx : Fix) (q1 q2 : List (Bytes × Bytes))
    (e : canonicalQuery fx q1 = canonicalQuery fx q2) :
    (q1.filter (fun p => p.1 != amzSignatureKey)).Perm (q2.filter (fun p => p.1 != amzSignatureKey)) :=
  (readQuery_canonicalQuery fx q1).symm.trans (e ▸ readQuery_canonicalQuery fx q2)

/-- **accepted_components_signed.** Let a request be accepted as some access key. If its signature
is a tag the holder of a key `key0` computed for (timestamp `ts0`, scope `scope0`, canonical
request of components `k0`), then — hashes collision free, MAC unforgeable — the accepted request
has exactly that timestamp, that credential scope and those components, and `key0` is the signing
key derived from the accepted key's secret. -/
theorem accepted_components_signed (c : Crypto) (hcf : CollisionFree c.sha256hex) (hunf : Unforgeable c.hmac)
    (fx : Fix) (cfg : Config) (r : Req) (a : Accepted)
    (hacc : checkAuth c fx cfg r = .ok a) (hr : ReqWF r) (hregion : (10 : UInt8) ∉ cfg.region)
    (key0 ts0 scope0 : Bytes) (k0 : Canon) (w0 : CanonWF k0)
    (hts0 : (10 : UInt8) ∉ ts0) (hscope0 : (10 : UInt8) ∉ scope0)
    (hsig : a.params.signature = signature c key0 (stringToSign c algV4 ts0 scope0 k0.render)) :
    a.params.timestamp = ts0 ∧ a.scope = scope0 ∧
    serverCanon c fx r a.signed a.params.presigned = k0 ∧
    (∃ secret, cfg.creds.find? (fun k => k.accessKey == a.accessKey) = some ⟨a.accessKey, secret⟩ ∧
      key0 = signingKey c secret (a.params.timestamp.take 8) cfg.region (b! "s3") (b! "aws4_request")) := by
  have f := checkAuth_ok c fx cfg r a hacc
  obtain ⟨date, secret, _, hfind, hdate, hscope, hs⟩ := f.cred
  obtain ⟨t, ht, _, _⟩ := f.time
  rw [hsig, f.alg] at hs
  obtain ⟨hk, hm⟩ := signature_inj hunf hs
  have hts : (10 : UInt8) ∉ a.params.timestamp := parseTimestamp_no_newline _ _ ht
  have hsc : (10 : UInt8) ∉ a.scope :=
    hscope ▸ scope_no_newline (hdate ▸ fun hb => hts (List.mem_of_mem_take hb)) hregion
  obtain ⟨e1, e2, e3⟩ := stringToSign_inj hcf hts hts0 hsc hscope0 hm
  refine ⟨e1, e2, canonical_injective _ _ (server_canonical_wellformed c fx r a.signed a.params.presigned hr) w0 e3,
    secret, hfind, ?_⟩
  rw [← hk, hdate]

/-- **unsigned_sensitive_header_rejected.** A request carrying an `x-amz-*` or `Content-MD5`
header that is not listed in `SignedHeaders` is never accepted. -/
theorem unsigned_sensitive_header_rejected (c : Crypto) (fx : Fix) (cfg : Config) (r : Req)
    (h : Bytes × List Bytes) (hm : h ∈ r.headers) (hs : mustBeSigned (lower h.1) = true)
    (p : SigParams) (hp : parseSigParams r = .ok p)
    (hu : (parseSignedHeaders p.signedHeaders).contains (lower h.1) = false) :
    ∀ a, checkAuth c fx cfg r ≠ .ok a := by
  intro a hacc
  have f := checkAuth_ok c fx cfg r a hacc
  have hp' : a.params = p := by
    have := f.params
    rw [hp] at this
    injection this with this
    exact this.symm
  have := f.sensitive h hm hs
  rw [f.signed, hp', hu] at this
  contradiction

/-- **sensitive_headers_are_signed.** In an accepted request every `x-amz-*` /
`Content-MD5` header occurs, with its canonical value, in the canonical request that was verified. -/
theorem sensitive_headers_are_signed (c : Crypto) (fx : Fix) (cfg : Config) (r : Req) (a : Accepted)
    (hacc : checkAuth c fx cfg r = .ok a) (h : Bytes × List Bytes) (hm : h ∈ r.headers)
    (hs : mustBeSigned (lower h.1) = true) :
    (lower h.1, headerValue fx h.2) ∈ (serverCanon c fx r a.signed a.params.presigned).headers := by
  have f := checkAuth_ok c fx cfg r a hacc
  exact mem_collectSignedHeaders.2 (.inr ⟨h, hm, f.sensitive h hm hs, rfl⟩)

/-- **accepted_within_window.** An accepted request's timestamp parses and the server's clock lies
between 15 minutes before it and its validity (5 minutes, or `X-Amz-Expires` ≤ 7 days) after it;
the credential scope names the configured region, service `s3`, terminator `aws4_request`, the
timestamp's own date, and an access key the server knows. -/
theorem accepted_within_window (c : Crypto) (fx : Fix) (cfg : Config) (r : Req) (a : Accepted)
    (hacc : checkAuth c fx cfg r = .ok a) :
    (∃ t, parseTimestamp a.params.timestamp = some t ∧ t - 900 ≤ cfg.now ∧ cfg.now ≤ t + (a.params.expires : Int)) ∧
    a.scope = join [47] [a.params.timestamp.take 8, cfg.region, b! "s3", b! "aws4_request"] ∧
    (∃ secret, (⟨a.accessKey, secret⟩ : Cred) ∈ cfg.creds) := by
  have f := checkAuth_ok c fx cfg r a hacc
  obtain ⟨date, secret, _, hfind, hdate, hscope, _⟩ := f.cred
  refine ⟨f.time, ?_, secret, List.mem_of_find?_eq_some hfind⟩
  rw [hscope, hdate]

/-- The validity of a presigned URL is bounded by seven days (`hpre` is not used: so is every other
validity, see `parseSigParams_expires`). -/
theorem presigned_validity_bounded (r : Req) (p : SigParams) (hp : parseSigParams r = .ok p)
    (hpre : p.presigned = true) : 1 ≤ p.expires ∧ p.expires ≤ 604800 :=
  parseSigParams_expires r p hp

example : CollisionFree toySha := toySha_collisionFree

example : Unforgeable toyMac := toyMac_unforgeable

def toy : Crypto := { sha256hex := toySha, hmac := toyMac }

def toyCfg : Config := { creds := [⟨b! "AK", b! "secret"⟩], region := b! "eu", now := 1718454645 }

/-- a request signed under the toy primitives: GET /b/k with a signed `x-amz-meta-a` header -/
def toyReq (sig : Bytes) : Req :=
  { method := b! "GET", path := b! "/b/k", query := [(b! "versionId", b! "v1")], host := b! "h",
    headers := [(b! "Authorization", [b! "AWS4-HMAC-SHA256 Credential=AK/20240615/eu/s3/aws4_request, SignedHeaders=host;x-amz-date;x-amz-meta-a, Signature=" ++ sig]),
                (b! "X-Amz-Date", [b! "20240615T123045Z"]), (b! "X-Amz-Meta-A", [b! "v"])],
    body := [] }

def toySignedHeaders : List Bytes := [b! "host", b! "x-amz-date", b! "x-amz-meta-a"]

/-- the signature the key holder computes for it -/
def toySig : Bytes :=
  signature toy (signingKey toy (b! "secret") (b! "20240615") (b! "eu") (b! "s3") (b! "aws4_request"))
    (stringToSign toy algV4 (b! "20240615T123045Z") (b! "20240615/eu/s3/aws4_request")
      (canonicalRequest toy Fix.asIs (toyReq []) toySignedHeaders false))

set_option maxRecDepth 1000000 in
/-- Non-vacuity of `accepted_components_signed` / `accepted_within_window`: the correctly signed toy
request is accepted … -/
example : (checkAuth toy Fix.asIs toyCfg (toyReq toySig)).toOption.map (·.accessKey) = some (b! "AK") := by
  decide +kernel

set_option maxRecDepth 1000000 in
/-- … and each single change of a signed component, of the credential scope, of the clock, or an
added unsigned sensitive header makes the same check fail. -/
example :
    (checkAuth toy Fix.asIs toyCfg { toyReq toySig with method := b! "PUT" }).toOption = none ∧
    (checkAuth toy Fix.asIs toyCfg { toyReq toySig with path := b! "/b/k2" }).toOption = none ∧
    (checkAuth toy Fix.asIs toyCfg { toyReq toySig with query := [] }).toOption = none ∧
    (checkAuth toy Fix.asIs toyCfg { toyReq toySig with host := b! "h2" }).toOption = none ∧
    (checkAuth toy Fix.asIs toyCfg { toyReq toySig with body := b! "x" }).toOption = none ∧
    (checkAuth toy Fix.asIs { toyCfg with now := 1718454645 + 301 } (toyReq toySig)).toOption = none ∧
    (checkAuth toy Fix.asIs { toyCfg with region := b! "us" } (toyReq toySig)).toOption = none ∧
    (checkAuth toy Fix.asIs toyCfg
      { toyReq toySig with headers := (toyReq toySig).headers ++ [(b! "X-Amz-Acl", [b! "public-read"])] }).toOption = none := by
  decide +kernel

end Pithos.C28
