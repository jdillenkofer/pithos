/-
C30 — chunked uploads store exactly the decoded payload.

Model: `Pithos.Model.Http.Chunked` — `decode` = `awsChunkReadCloser.Read` of signature.go iterated to
EOF, `encode` = the framing SigV4 streaming clients produce, `check` = the validation stated on the
abstract syntax of a body (`Frame`), `storedBody` = which of them `server.SetupServer` puts in
front of the upload handlers (credentials configured or not).
Statements are for every payload (< 2^63 bytes, the range of Go's int64 chunk counter), every
chunking, all four streaming modes, every supported trailer checksum — no bound.
SHA-256, HMAC and the trailer checksum are parameters with explicit hypotheses.
-/
import Pithos.Lemmas.Chunked

namespace Pithos.C30
open Pithos.SigV4 Pithos.Chunked

/-- **decode_encode.** The reader returns exactly the payload the client framed: signed or
unsigned chunks, with or without (signed) checksum trailer, any chunk sizes. -/
theorem decode_encode (P : Params) (ok : EncodeOK P) (payload : Bytes)
    (hlen : payload.length < 9223372036854775808) (sizes : List Nat) :
    decode P (encode P payload sizes) = .ok payload :=
  Chunked.decode_encode P ok payload hlen sizes

/-- **decode_is_check.** On every well-formed body — conforming or tampered with — the reader's
verdict is the frame-level validation `check`; the mutation theorems below are stated on `check`. -/
theorem decode_is_check (P : Params) (signed : Bool) (f : Frame) (wf : FrameWF f)
    (hmode : signed = true ∨ P.skipValidation = true) (hts : P.trailerSigned = true → signed = true) :
    decode P (render signed P.hasTrailer f) = check P f :=
  decode_render P signed f wf hmode hts

/-- **mutated_chunk_rejected.** Signed chunks: changing the data of any chunk fails the request. -/
theorem mutated_chunk_rejected (P : Params) (hcf : CollisionFree P.c.sha256hex) (hunf : Unforgeable P.c.hmac)
    (hs : P.skipValidation = false) (f : Frame) (p : Bytes) (hok : check P f = .ok p)
    (l1 l2 : List (Bytes × Bytes)) (d s d' : Bytes) (hf : f.chunks = l1 ++ (d, s) :: l2) (hd : d' ≠ d) :
    check P { f with chunks := l1 ++ (d', s) :: l2 } = .error .sigMismatch :=
  replaced_chunk_rejected P hs f p hok l1 l2 d s d' s hf
    fun _ e e' => hd (chunkSig_binds_data P hcf hunf _ _ _ (e.symm.trans e')).symm

/-- **mutated_chunk_signature_rejected.** Signed chunks: changing any chunk signature (including
that of the final zero-length chunk) fails the request. -/
theorem mutated_chunk_signature_rejected (P : Params) (hs : P.skipValidation = false) (f : Frame) (p : Bytes)
    (hok : check P f = .ok p) :
    (∀ l1 l2 d s s', f.chunks = l1 ++ (d, s) :: l2 → s' ≠ s →
      check P { f with chunks := l1 ++ (d, s') :: l2 } = .error .sigMismatch) ∧
    (∀ s', s' ≠ f.finalSig → check P { f with finalSig := s' } = .error .sigMismatch) := by
  refine ⟨fun l1 l2 d s s' hf hd => Chunked.mutated_chunk_signature_rejected P hs f p hok l1 l2 d s s' hf hd,
    fun s' hd => ?_⟩
  -- the zero-length chunk is the last element of the chain
  obtain ⟨_, hc, _⟩ := check_ok hok
  exact check_chain_error P _
    (checkChunks_mutated P hs _ _ f.chunks [] [] f.finalSig [] s' hc fun _ e e' => hd (e'.trans e.symm))

/-- **mutated_trailer_signature_rejected.** Signed trailer: changing the trailer signature, or the
checksum line it covers, fails the request. -/
theorem mutated_trailer_signature_rejected (P : Params) (hcf : CollisionFree P.c.sha256hex)
    (hunf : Unforgeable P.c.hmac) (ht : P.hasTrailer = true) (hts : P.trailerSigned = true)
    (f : Frame) (p : Bytes) (hok : check P f = .ok p) :
    (∀ s', s' ≠ f.trailerSignature → check P { f with trailerSignature := s' } = .error .sigMismatch) ∧
    (∀ l', l' ≠ f.trailerLine → check P { f with trailerLine := l' } = .error .sigMismatch) := by
  refine ⟨fun s' hd => Chunked.mutated_trailer_signature_rejected P ht hts f p hok s' hd, fun l' hd => ?_⟩
  -- the trailer signature binds the line
  obtain ⟨_, hc, _, htr⟩ := check_ok hok
  rw [check_of_chain P { f with trailerLine := l' } hc]
  refine checkTrailer_sig_error _ ht hts fun e => hd ?_
  exact (trailerSig_binds_line P hcf hunf _ _ _ (((htr ht).1 hts).symm.trans e)).symm

/-- **mutated_trailer_checksum_rejected.** In every trailer mode with a supported algorithm, a
checksum value that is not the checksum of the received payload fails the request; with unsigned
chunks this is also what catches a changed chunk (checksum collision free). -/
theorem mutated_trailer_checksum_rejected (P : Params) (ht : P.hasTrailer = true) (g : Bytes → Bytes)
    (hg : P.cksum = some g)
    (hname : lower (trimSpace P.trailerName) = P.trailerName ∧ (58 : UInt8) ∉ P.trailerName) (f : Frame) :
    (∀ v', f.trailerLine = P.trailerName ++ 58 :: v' → trimSpace v' ≠ g ((f.chunks.map (·.1)).flatten) →
      ∃ e, check P f = .error e) ∧
    (CollisionFree g → (∀ p, trimSpace (g p) = g p) →
      ∀ l1 l2 d s d', f.chunks = l1 ++ (d, s) :: l2 →
        f.trailerLine = P.trailerName ++ 58 :: g ((f.chunks.map (·.1)).flatten) → d' ≠ d →
        ∃ e, check P { f with chunks := l1 ++ (d', s) :: l2 } = .error e) := by
  refine ⟨fun v' hl hv => wrong_trailer_checksum_rejected P ht g hg f P.trailerName v' hl hname.2 hname.1 hv,
    fun hcg hval l1 l2 d s d' hf hl hd => ?_⟩
  -- the line carries the checksum of the old data, which is not that of the new
  refine wrong_trailer_checksum_rejected P ht g hg { f with chunks := l1 ++ (d', s) :: l2 } P.trailerName
    (g ((f.chunks.map (·.1)).flatten)) hl hname.2 hname.1 ?_
  rw [hval]
  intro e
  have := hcg _ _ e
  rw [hf] at this
  simp only [List.map_append, List.map_cons, List.flatten_append, List.flatten_cons] at this
  exact hd (List.append_cancel_right (List.append_cancel_left this)).symm

/-- **declared_trailer_validated_in_any_case.** Header field names are case-insensitive: however the
`x-amz-trailer` header spells a supported checksum algorithm (`X-Amz-Checksum-CRC32`, blanks around
it, …) and however the trailer line spells its name, the reader is given that algorithm's hash, and
a checksum value that is not the checksum of the received payload fails the request. -/
theorem declared_trailer_validated_in_any_case (hashOf : Bytes → Option (Bytes → Bytes)) (hdr : Bytes)
    (g : Bytes → Bytes) (hg : hashOf (lower (trimSpace hdr)) = some g) (P : Params) (f : Frame)
    (n v' : Bytes) (hl : f.trailerLine = n ++ 58 :: v') (hn : (58 : UInt8) ∉ n)
    (hsame : lower (trimSpace n) = lower (trimSpace hdr))
    (hv : trimSpace v' ≠ g ((f.chunks.map (·.1)).flatten)) :
    (withDeclaredTrailer hashOf true hdr P).cksum = some g ∧
    ∃ e, check (withDeclaredTrailer hashOf true hdr P) f = .error e := by
  have hc : (withDeclaredTrailer hashOf true hdr P).cksum = some g := by
    simp [withDeclaredTrailer, declaredTrailer, hg]
  exact ⟨hc, wrong_trailer_checksum_rejected _ rfl g hc f n v' hl hn hsame hv⟩

/-- Two spellings of the same declaration configure the reader identically. -/
theorem declared_trailer_case_insensitive (hashOf : Bytes → Option (Bytes → Bytes)) (t : Bool) (h1 h2 : Bytes)
    (h : lower (trimSpace h1) = lower (trimSpace h2)) (P : Params) :
    withDeclaredTrailer hashOf t h1 P = withDeclaredTrailer hashOf t h2 P := by
  simp [withDeclaredTrailer, declaredTrailer, h]

/-- **missing_trailer_signature_rejected.** With a signed trailer, a trailer section in which no
`x-amz-trailer-signature` line is recognised (renamed, removed, blanked out) fails the request —
an absent signature is never accepted as valid (MAC tags are non-empty). -/
theorem missing_trailer_signature_rejected (P : Params) (ht : P.hasTrailer = true) (hts : P.trailerSigned = true)
    (hmac : ∀ k m, P.c.hmac k m ≠ []) (prev payload rest : Bytes)
    (hno : (readTrailerSection rest).2 = []) :
    finish P prev payload rest = .error .sigMismatch := by
  rw [finish_eq, hno]
  exact checkTrailer_sig_error _ ht hts fun e => hexL_ne_nil _ (hmac _ _) e.symm

/-- **auth_on_stores_payload.** Credentials configured: what reaches the upload handler is the
decoded payload. -/
theorem auth_on_stores_payload (fixed : Bool) (P : Params) (ok : EncodeOK P) (payload : Bytes)
    (hlen : payload.length < 9223372036854775808) (sizes : List Nat) :
    storedBody true fixed P (encode P payload sizes) = .ok payload :=
  (storedBody_eq ..).trans (Chunked.decode_encode P ok payload hlen sizes)

/-- **Negation (the tree before /repo c8f3b44, no credentials configured).** For *every* payload and
chunking the upload handler is handed the framed body itself, which is never the payload:
chunk-size lines, signatures and trailers end up in the stored object. -/
theorem auth_off_stores_framing (P : Params) (payload : Bytes) (sizes : List Nat) :
    storedBody false false P (encode P payload sizes) = .ok (encode P payload sizes) ∧
    encode P payload sizes ≠ payload := by
  refine ⟨rfl, ?_⟩
  intro e
  have := encode_longer P payload sizes
  rw [e] at this
  exact Nat.lt_irrefl _ this

/-- The same without credentials for tampered bodies: nothing is ever refused. -/
theorem auth_off_accepts_anything (P : Params) (wire : Bytes) : storedBody false false P wire = .ok wire := rfl

/-- **auth_off_fixed_stores_payload** (the current tree, /repo c8f3b44 and later):
a framing-only decoder in the configuration without credentials hands the handler the payload of
every conforming upload, in all four modes. -/
theorem auth_off_fixed_stores_payload (P : Params) (ok : EncodeOK P) (payload : Bytes)
    (hlen : payload.length < 9223372036854775808) (sizes : List Nat) :
    storedBody false true P (encode P payload sizes) = .ok payload :=
  (storedBody_eq ..).trans ((handlerBody_eq ..).trans (decode_readerOf_encode .authOff P ok payload hlen sizes))

/-- **stored_payload_all_carriers** (the current tree). Over the full product — every way of
authenticating (header-signed, presigned query, anonymous with credentials configured, no
credentials configured) × every streaming mode × every payload and chunking — the upload handler
reads exactly the payload the client framed. -/
theorem stored_payload_all_carriers (carrier : Carrier) (P : Params) (ok : EncodeOK P) (payload : Bytes)
    (hlen : payload.length < 9223372036854775808) (sizes : List Nat) :
    handlerBody true carrier P (encode P payload sizes) = .ok payload :=
  (handlerBody_eq ..).trans (decode_readerOf_encode carrier P ok payload hlen sizes)

/-- **tampering_rejected_for_authenticated_carriers.** For both carriers that authenticate the
request the handler's reader is `decode P`, so on every well-formed body its verdict is `check P`
and the mutation theorems above apply — to presigned uploads exactly as to header-signed ones. -/
theorem tampering_rejected_for_authenticated_carriers (carrier : Carrier) (hc : carrier = .header ∨ carrier = .presigned)
    (u : Bool) (P : Params) (signed : Bool) (f : Frame) (wf : FrameWF f)
    (hmode : signed = true ∨ P.skipValidation = true) (hts : P.trailerSigned = true → signed = true) :
    handlerBody u carrier P (render signed P.hasTrailer f) = check P f := by
  rcases hc with rfl | rfl <;> exact decode_render P signed f wf hmode hts

/-- Without a key (anonymous, or no credentials configured) the reader is the framing-only one:
its verdict is `check (framingOnly P)`, which still refuses a wrong checksum trailer
(`mutated_trailer_checksum_rejected` applies to `framingOnly P`: same checksum, same name). -/
theorem unauthenticated_carriers_check_framing (carrier : Carrier) (hc : carrier = .anonymous ∨ carrier = .authOff)
    (P : Params) (signed : Bool) (f : Frame) (wf : FrameWF f) :
    handlerBody true carrier P (render signed P.hasTrailer f) = check (framingOnly P) f := by
  rw [handlerBody_eq]
  rcases hc with rfl | rfl <;> exact decode_render (framingOnly P) signed f wf (Or.inr rfl) (fun h => nomatch h)

/-- toy checksum text: the hex of the payload (collision free, no white space) -/
def toyCk (p : Bytes) : Bytes := hexL p

/-- signed chunks with a signed `x-amz-checksum-crc32` trailer under toy primitives -/
def toyParams (signed trailer : Bool) : Params :=
  { c := { sha256hex := toySha, hmac := toyMac }, cksum := some toyCk, signKey := b! "key",
    timestamp := b! "20240615T123045Z", scope := b! "20240615/eu/s3/aws4_request", seed := b! "seed",
    hasTrailer := trailer, trailerSigned := signed && trailer, skipValidation := !signed,
    trailerName := b! "x-amz-checksum-crc32" }

theorem toyParams_ok (signed trailer : Bool) : EncodeOK (toyParams signed trailer) := by
  have hck : ∀ p, SigOK (toyCk p) := hexL_SigOK
  have n1 : lower (trimSpace (b! "x-amz-checksum-crc32")) = b! "x-amz-checksum-crc32" := by decide
  have n2 : (58 : UInt8) ∉ b! "x-amz-checksum-crc32" := by decide
  have n3 : headOK (b! "x-amz-checksum-crc32") = true := by decide
  have n4 : (10 : UInt8) ∉ b! "x-amz-checksum-crc32" := by decide
  refine ⟨⟨⟨n1, n2⟩, ?_, ?_, ?_⟩, n3, n4, ?_, ?_⟩
  · intro f hf p
    have : f = toyCk := by simp [toyParams] at hf; exact hf.symm
    subst this
    exact trimSpace_of_OK _ (hck p).2.1 (hck p).2.2
  · intro h; simp [toyParams] at h
  · intro h
    cases signed <;> simp [toyParams] at h ⊢
  · intro v
    simp [cutPrefix, hasPrefix, tsPrefix, toyParams]
  · intro f hf p
    have : f = toyCk := by simp [toyParams] at hf; exact hf.symm
    subst this
    exact ⟨noCRLF_not10 _ (hck p).1, (hck p).2.2⟩

/-- The hypotheses of `decode_encode` are met in all four modes; instance: 11 bytes in chunks of
3, 4 and the rest. -/
example (signed trailer : Bool) :
    decode (toyParams signed trailer) (encode (toyParams signed trailer) (b! "hello world") [3, 4]) =
      .ok (b! "hello world") :=
  decode_encode _ (toyParams_ok signed trailer) _ (by decide) _

/-- the toy MAC never returns an empty tag; a renamed signature line is indeed not recognised -/
example : (∀ k m, toyMac k m ≠ []) ∧
    (readTrailerSection (b! "x-amz-checksum-crc32:AAAA\r\nx-amz-trailer-signaturq:abcd\r\n\r\n")).2 = [] :=
  ⟨fun k m => by simp [toyMac], by decide⟩

example : CollisionFree toySha ∧ Unforgeable toyMac ∧ CollisionFree toyCk :=
  ⟨toySha_collisionFree, toyMac_unforgeable, fun a b h => hexL_injective a b h⟩

/-- `mutated_chunk_rejected` is not vacuous: the conforming frame of a payload passes `check`, has a
chunk to mutate, and the toy primitives meet the hypotheses. -/
example :
    let P := toyParams true true
    check P (frameOf P (b! "hello world") [3, 4]) = .ok (b! "hello world") ∧
    (frameOf P (b! "hello world") [3, 4]).chunks.length = 3 :=
  ⟨check_frameOf _ (toyParams_ok true true).trailer _ _, by decide⟩

end Pithos.C30
