/-
C09 — unreferenced parts are eventually reclaimed.

Property theorems only.  Model: `Pithos.Model.Parts` (`gcRun` = one pass of
`runGCWithContext` with nothing else running and every deletion succeeding; `gcRunF fail` = a pass
in which the post-commit deletions of the ids in `fail` fail).  Lemmas: `Pithos.Lemmas.PartsGC`.

Liveness is stated as bounded-step convergence: from every state satisfying `RefInv` — by
`Parts.run_inv` from `Parts.refinv_init` (the fact C08 states as `Pithos.C08.refinv_run`; this file
does not import C08) that is every state reachable by any interleaving of writer
transactions, failed/rolled-back transactions (no step at all), orphaned bytes left by crashed
transactions (`Act.orphan`), condemned-but-not-yet-deleted parts that were forgotten
(`Act.gcExtDrop`) and collector steps — with no deletion queued and every *unreferenced* stored
part older than the grace window, ONE pass reaches the exact state; a second pass changes nothing.
One pass suffices because reconciliation and dedup pruning run before the sweep inside the same
pass; after a pass with failing deletions the next pass finishes the job.
-/
import Pithos.Lemmas.PartsGC
import Pithos.Gen.PartsSql

namespace Pithos.C09
open Pithos.Parts

/-- **gc_pass_preserves_refinv.** A whole pass (with any set of failing deletions) keeps `RefInv`
and changes no part row. -/
theorem gc_pass_preserves_refinv (cfg : Cfg) (fail : PartId → Bool) (s : St) (h : RefInv s)
    (hx : s.gcExt = []) :
    RefInv (gcRunF cfg fail s) ∧ (gcRunF cfg fail s).rows = s.rows ∧ (gcRunF cfg fail s).gcExt = [] := by
  have w := gcRunF_weak cfg fail h hx
  exact ⟨w.inv, w.rows, w.ext⟩

/-- **gc_converges.** From any state satisfying `RefInv` with nothing queued and every
unreferenced stored part older than the grace window, one pass yields:
every configured store holds exactly the ids referenced by a part row naming that store; the
registry holds exactly the referenced ids, with the exact counts; every dedup-index entry points
to a referenced part and every (store, content) group of rows has an entry; no row changed. -/
theorem gc_converges (cfg : Cfg) (s : St) (h : RefInv s) (hx : s.gcExt = []) (hold : OrphansOld cfg s) :
    (gcRun cfg s).rows = s.rows ∧
    (∀ st ∈ cfg.storeNames, ∀ p,
        (gcRun cfg s).stores st p ≠ none ↔ ∃ r ∈ s.rows, r.pid = p ∧ r.store = st) ∧
    (∀ p, (gcRun cfg s).reg p ≠ none ↔ 0 < refs s.rows p) ∧
    (∀ p c v, (gcRun cfg s).reg p = some (c, v) → c = refs s.rows p) ∧
    (∀ st ck p, (gcRun cfg s).idx st ck = some p → 0 < refs s.rows p) ∧
    (∀ r ∈ s.rows, ∀ ck, r.ck = some ck → (gcRun cfg s).idx r.store ck ≠ none) ∧
    (gcRun cfg s).gcExt = [] ∧ (gcRun cfg s).gcObs = [] := by
  have sp := gcRun_spec cfg h hx
  have hrows : (gcRun cfg s).rows = s.rows := sp.rows
  refine ⟨hrows, fun st hst p => gcRun_stores_exact cfg h hx hold st hst p, ?_, ?_, ?_, ?_, sp.ext, sp.obs⟩
  · intro p; rw [← hrows]; exact reg_iff_refs sp.inv p
  · intro p c v hr; rw [← hrows]; exact (sp.inv.count hr).1
  · intro st ck p hi; rw [← hrows]; exact idx_target_referenced sp.inv st ck p hi
  · intro r hr ck hck
    rw [sp.idx r.store ck]
    exact gcDedupIdx_complete s r hr ck hck

/-- **gc_idempotent.** A second pass changes nothing (equality of states, versions included) —
with or without the age hypothesis. -/
theorem gc_idempotent (cfg : Cfg) (s : St) (h : RefInv s) (hx : s.gcExt = []) :
    gcRun cfg (gcRun cfg s) = gcRun cfg s := by
  have sp := gcRun_spec cfg h hx
  have sp2 := gcRun_spec cfg sp.inv sp.ext
  have hidx : ∀ a b, (gcRun cfg s).idx a b = gcDedupIdx s a b := fun a b => sp.idx a b
  have hrows : (gcRun cfg s).rows = s.rows := sp.rows
  apply St.ext
  · exact sp2.rows
  · exact sp2.reg
  · funext a b
    rw [sp2.idx a b]
    exact gcDedupIdx_idem sp.inv hrows hidx a b
  · funext a b
    rw [sp2.stores a b]
    by_cases hc : a ∈ cfg.storeNames ∧ b ∈ (afterDedup (gcRun cfg s)).used ∧
        isOld cfg (afterDedup (gcRun cfg s)) a b = true ∧ (afterDedup (gcRun cfg s)).reg b = none
    · rw [if_pos hc]
      obtain ⟨ha, hb, ho, hr⟩ := hc
      -- the id was old and dead in the first pass already, so the first pass removed it
      have ho' : isOld cfg (gcRun cfg s) a b = true := ho
      rw [sp.age a b] at ho'
      rw [sp.stores a b]
      split at ho'
      · next hc1 => rw [if_pos hc1]
      · next hc1 => exact absurd ⟨ha, sp.used ▸ hb, ho', sp.reg ▸ hr⟩ hc1
    · rw [if_neg hc]; rfl
  · exact sp2.used
  · exact sp2.now
  · rw [sp2.obs]; exact sp.obs.symm ▸ rfl
  · rw [sp2.ext, sp.ext]

/-- **gc_converges_from_reachable.** The same for every state reachable by any interleaving of
the atomic steps (`Parts.run_inv`, which C08 states as `refinv_run`), once nothing is queued. -/
theorem gc_converges_from_reachable (cfg : Cfg) (hq : cfg.sql.Sound) (acts : List Act)
    (hx : (run cfg St.init acts).gcExt = []) (hold : OrphansOld cfg (run cfg St.init acts)) :
    ∀ st ∈ cfg.storeNames, ∀ p,
      (gcRun cfg (run cfg St.init acts)).stores st p ≠ none ↔
        ∃ r ∈ (run cfg St.init acts).rows, r.pid = p ∧ r.store = st :=
  (gc_converges cfg _ (run_inv cfg hq refinv_init acts) hx hold).2.1

/-- T1: the statements of the current tree meet the hypothesis of `gc_converges_from_reachable`. -/
theorem regenerated_sql_facts_sound : Pithos.Gen.partsSql.Sound := by decide

/-- **gc_converges_after_failed_pass.** If the deletions of an arbitrary set of ids fail in one
pass ("post-commit part deletion failed; leaving orphan for next GC"), the next fault-free pass
converges all the same. -/
theorem gc_converges_after_failed_pass (cfg : Cfg) (fail : PartId → Bool) (s : St) (h : RefInv s)
    (hx : s.gcExt = []) (hold : OrphansOld cfg s) :
    ∀ st ∈ cfg.storeNames, ∀ p,
      (gcRun cfg (gcRunF cfg fail s)).stores st p ≠ none ↔ ∃ r ∈ s.rows, r.pid = p ∧ r.store = st := by
  have w := gcRunF_weak cfg fail h hx
  have hold' : OrphansOld cfg (gcRunF cfg fail s) := by
    intro st p tm hs h0
    rw [w.now]
    rcases w.stores st p with hn | he
    · rw [hn] at hs; cases hs
    · rw [he] at hs
      rw [w.rows] at h0
      exact hold st p tm hs h0
  have := (gc_converges cfg _ w.inv w.ext hold').2.1
  intro st hst p
  rw [this st hst p, w.rows]
  rfl

/-- **grace_window_respected** (why the age hypothesis is there, and non-vacuity of the model's
age filter): an orphan younger than the grace window survives the pass; once older it is removed. -/
theorem grace_window_respected :
    let cfg : Cfg := ⟨5, [0], fun _ => true, Pithos.Gen.partsSql⟩
    let s := run cfg St.init [.tx [.dedupe 0 7 0, .save 0 0 (some 7)], .orphan 0 9]
    ((gcRun cfg s).stores 0 9).isSome = true ∧
    ((gcRun cfg (step cfg s (.tick 6))).stores 0 9).isNone = true ∧
    ((gcRun cfg (step cfg s (.tick 6))).stores 0 0).isSome = true := by
  decide

/-- Non-vacuity of `gc_converges`: a reachable state with an orphan in each of two stores (one
deleting inside the transaction, one after it), a dedup-shared part and a deleted owner meets the
hypotheses' shape, and the pass leaves exactly the referenced part. -/
example :
    let cfg : Cfg := ⟨1, [0, 1], fun st => st == 1, Pithos.Gen.partsSql⟩
    let s := run cfg St.init
      [.tx [.dedupe 0 7 0, .save 0 0 (some 7)], .tx [.dedupe 0 7 1, .save 1 0 (some 7)],
       .tx [.rawput 1 2, .save 2 0 none], .orphan 0 8, .orphan 1 9, .tx [.rm 2 none], .tick 3]
    let u := gcRun cfg s
    s.gcExt = [] ∧ (s.stores 0 8).isSome ∧ (s.stores 1 9).isSome ∧
    u.stores 0 8 = none ∧ u.stores 1 9 = none ∧ u.stores 1 2 = none ∧ (u.stores 0 0).isSome ∧
    u.reg 0 = some (2, 2) ∧ u.reg 2 = none ∧ u.idx 0 7 = some 0 := by
  decide

end Pithos.C09
