/-
C40 — downloads never silently mix or truncate content.

Property theorems about the lazy part-sequence reader (`Pithos.Model.LazyReader`, helper lemmas in
`Pithos.Lemmas.LazyReader`). They quantify over every resolved version (any part ranges, any part
contents), every buffer size of every read and every interleaving of reads with store changes —
no bound on any of them.

Hypotheses, both explicit:
 * `StoreOK` — a part id of the resolved version is absent or holds its original bytes (part ids
   are unique, a part file is never rewritten; checked on every run by the harness, `parts` line);
 * an opened part keeps its bytes (open descriptors survive rename/unlink) — built into the model.
-/
import Pithos.Lemmas.LazyReader
import Pithos.Gen.PartIds

namespace Pithos.C40
open Pithos.LazyReader

/-- The premises of the model and of `StoreOK`, read from the current sources (T1, regenerated on
every run): every part the storage layer writes gets a fresh random id; the filesystem store
publishes a part by renaming a temporary file and never truncates an existing one; a missing part
file is an error (not an empty reader); the sequence reader hands that error to the caller of Read
and has already advanced past the failed range. -/
theorem store_invariant_premises :
    Gen.PartIds.putPartCalls = Gen.PartIds.putPartCallsWithFreshId ∧ 0 < Gen.PartIds.putPartCalls ∧
    Gen.PartIds.fsPublishesByRename = true ∧ Gen.PartIds.fsMissingPartIsError = true ∧
    Gen.PartIds.lazyReaderPropagatesOpenError = true ∧ Gen.PartIds.lazyReaderAdvancesBeforeOpen = true := by
  decide

/-- **stream_prefix_or_error** (transaction-free part stores). For every interleaving of reads (any
buffer sizes) and store changes that keep each part of the resolved version absent or unchanged:
the bytes delivered are a prefix of the resolved version's bytes, and end-of-file is reported only
when all of them were delivered — otherwise the stream ended with an error or has not ended. -/
theorem stream_prefix_or_error (orig : PartId → Bytes) (ps : List PartRange) (store0 : Store) (evs : List Ev)
    (h0 : StoreOK orig ps store0) (hev : ∀ e ∈ evs, EvOK orig ps e) :
    (run false store0 ⟨ps, none⟩ {} evs).delivered <+: target orig ps ∧
    ((run false store0 ⟨ps, none⟩ {} evs).ended = some true →
      (run false store0 ⟨ps, none⟩ {} evs).delivered = target orig ps) :=
  run_prefix orig ps evs false (fun _ hs => .inr (hev _ hs)) store0 h0

/-- **snapshot_stream_full** (SQL-backed part stores, the code since the repair 6ff38ea): the
reader reads through the transaction that resolved the version, so whatever overwrites, deletes and
garbage collections run meanwhile, it delivers the full old content — never an error, never a
short body. -/
theorem snapshot_stream_full (orig : PartId → Bytes) (ps : List PartRange) (evs : List Ev)
    (hev : ∀ e ∈ evs, ∀ n, e = .read n → 0 < n) :
    (run true (snapshotStore false orig) ⟨ps, none⟩ {} evs).ended ≠ some false ∧
    (run true (snapshotStore false orig) ⟨ps, none⟩ {} evs).delivered <+: target orig ps ∧
    ((run true (snapshotStore false orig) ⟨ps, none⟩ {} evs).ended = some true →
      (run true (snapshotStore false orig) ⟨ps, none⟩ {} evs).delivered = target orig ps) ∧
    ((target orig ps).length < readCount evs →
      (run true (snapshotStore false orig) ⟨ps, none⟩ {} evs).ended = some true ∧
      (run true (snapshotStore false orig) ⟨ps, none⟩ {} evs).delivered = target orig ps) :=
  snapshot_stream_full_of_present orig ps (snapshotStore false orig) evs (fun p _ => by simp [snapshotStore]) hev

/-- What held before the repair (`emptyAbsent = true`: the SQL store kept no row for an empty
part): the same, provided no part of the resolved version is empty. -/
theorem snapshot_stream_full_before_fix_partial (orig : PartId → Bytes) (ps : List PartRange) (evs : List Ev)
    (hne : ∀ p ∈ ps, orig p.id ≠ [])
    (hev : ∀ e ∈ evs, ∀ n, e = .read n → 0 < n) :
    (run true (snapshotStore true orig) ⟨ps, none⟩ {} evs).ended ≠ some false ∧
    ((run true (snapshotStore true orig) ⟨ps, none⟩ {} evs).ended = some true →
      (run true (snapshotStore true orig) ⟨ps, none⟩ {} evs).delivered = target orig ps) := by
  have h := snapshot_stream_full_of_present orig ps (snapshotStore true orig) evs
    (fun p hp => by
      have := hne p hp
      simp [snapshotStore, this]) hev
  exact ⟨h.1, h.2.2.1⟩

/-- Negation witness for the code before the repair: an object with an empty middle part
(sizes 1, 0, 1), nothing else happening; the SQL-backed download delivers the first byte and then
fails — the full content is not delivered. (Replayed on the implementation: directed cases 0, 1 of
c40.go; fixed in /repo by 6ff38ea.) -/
theorem empty_part_broke_sql_download :
    let orig : PartId → Bytes := fun i => if i == 1 then [] else [UInt8.ofNat i]
    let ps := planFrom false 0 2 0 0 [1, 0, 1]
    run true (snapshotStore true orig) ⟨ps, none⟩ {} [.read 4, .read 4, .read 4]
      = { delivered := [0], ended := some false } := by
  decide

/-- … and the same download after the repair (both halves of it: the store keeps the empty part,
and the range plan does not open it). -/
example :
    let orig : PartId → Bytes := fun i => if i == 1 then [] else [UInt8.ofNat i]
    run true (snapshotStore false orig) ⟨plan [1, 0, 1] 0 2, none⟩ {} [.read 4, .read 4, .read 4]
      = { delivered := [0, 2], ended := some true } := by
  decide

/-- Why `StoreOK` is needed (the reader does not check part lengths): if a part of the resolved
version could be replaced by a shorter one under the same id, the stream would report end-of-file
after fewer bytes than promised. No storage operation does that (unique part ids; parts are
published by rename and never rewritten) and the harness checks it on every run. -/
theorem short_part_would_report_eof :
    let orig : PartId → Bytes := fun i => [UInt8.ofNat i, UInt8.ofNat i]
    let ps : List PartRange := [⟨0, 0, 2⟩, ⟨1, 0, 2⟩]
    let truncated : Store := fun i => if i == 1 then some [1] else some (orig i)
    target orig ps = [0, 0, 1, 1] ∧
    run false truncated ⟨ps, none⟩ {} [.read 8, .read 8, .read 8]
      = { delivered := [0, 0, 1], ended := some true } := by
  decide

/-- **plan_selects_requested_slice**: the part ranges computed by `createRangeReader` for `[lo, hi)` select exactly
that slice of the version's content — so `target` *is* "the bytes of the version that was resolved
when the request began", for every part splitting and every range. -/
theorem plan_selects_requested_slice (orig : PartId → Bytes) (cs : List Bytes) (lo hi : Nat)
    (horig : ∀ j (h : j < cs.length), orig j = cs[j]) :
    target orig (plan (cs.map List.length) lo hi) = (cs.flatten.drop lo).take (hi - lo) := by
  have := planFrom_target planSkipsEmptyRanges lo hi orig cs 0 0 (by simpa using horig)
  simpa [plan] using this

/-- Non-vacuity: a schedule that meets the hypotheses of `stream_prefix_or_error` and ends with an
error after a proper prefix (part 1 is removed while part 0 is being read). -/
example :
    let orig : PartId → Bytes := fun i => [UInt8.ofNat i, UInt8.ofNat i]
    let ps : List PartRange := [⟨0, 0, 2⟩, ⟨1, 0, 2⟩]
    let all : Store := fun i => some (orig i)
    let gone : Store := fun i => if i == 0 then some (orig i) else none
    run false all ⟨ps, none⟩ {} [.read 1, .store gone, .read 8, .read 8]
      = { delivered := [0, 0], ended := some false } := by
  decide

end Pithos.C40
