/-
C26 — the audit log records every operation and always verifies.

Model of the writer and the validator: `Pithos.Model.AuditLog`; tables of the current code:
`Pithos.Model.AuditLogCode`, `Pithos.Gen.AuditOverrides` (which storage calls are recorded).
The writer theorems hold for every hash function and every signature scheme whose own signatures
verify, every block size ≥ 1, every number of calls and every order in which the calls' START and
COMPLETE halves took the mutex. The side conditions `WriterOK`, the invariant that keeps writer and
validator in step, and `logsOf` with its lemmas: `Pithos.Lemmas.AuditWriter`.
-/
import Pithos.Gen.AuditOverrides
import Pithos.Model.AuditLogCode
import Pithos.Lemmas.AuditWriter
namespace Pithos.C26
open Pithos.AuditLog

variable {T : Tables} {C : Crypto} {S : Signer}

/-- **log_verifies.** For every sequence of `log` calls — in whatever order their START/COMPLETE
halves won the mutex — the validator accepts what the writer produced: chain intact, every entry
signature valid, a correctly signed Merkle grounding after every `bs` LOG entries. No bound on the
number of calls. -/
theorem log_verifies (ok : WriterOK T C S) (bs : Nat) (hbs : 0 < bs) (md : Rec) (ps : List (Rec × Rec)) :
    accepts T C bs (wRun T C S bs (wInit T C S md) ps).out = true := by
  obtain ⟨v0, inv0⟩ := inv_wInit ok bs hbs md
  obtain ⟨v, inv⟩ := inv_wRun ok bs ps _ v0 inv0
  exact accepts_iff.2 ⟨v, inv.run⟩

/-- **Restart.** A new middleware instance that continues an existing, accepted, non-empty log from
the state `NewFileSink` recovers (`lastHash` = hash of the last entry, `hashBuffer` = the validator's
buffer) again produces an accepted log, for every further sequence of calls — provided the recovered
buffer is not already full (it cannot be after a clean stop: the grounding is written in the same
critical section as the entry that fills the block). -/
theorem log_verifies_after_restart (ok : WriterOK T C S) (bs : Nat) (L : List Rec) (v : VState)
    (hL : runFrom T C bs {} L = .ok v) (hne : v.index ≠ 0) (hroom : v.buffer.length < bs)
    (ps : List (Rec × Rec)) :
    accepts T C bs (wRun T C S bs { lastHash := v.prev, buffer := v.buffer, out := L } ps).out = true := by
  obtain ⟨v', inv⟩ := inv_wRun ok bs ps { lastHash := v.prev, buffer := v.buffer, out := L } v
    ⟨hL, hne, rfl, rfl, hroom⟩
  exact accepts_iff.2 ⟨v', inv.run⟩

/-- Interleavings of concurrent calls: each call is the two-element list [START, COMPLETE]; a schedule
is any merge of those lists that keeps each list's internal order. -/
inductive Merge {α : Type} : List (List α) → List α → Prop where
  | done : Merge [] []
  | skip {ls : List (List α)} {out : List α} : Merge ls out → Merge ([] :: ls) out
  | take {pre post : List (List α)} {x : α} {l : List α} {out : List α} :
      Merge (pre ++ l :: post) out → Merge (pre ++ (x :: l) :: post) (x :: out)

/-- **log_verifies for every interleaving** of the START/COMPLETE pairs of any set of concurrent calls. -/
theorem log_verifies_interleaved (ok : WriterOK T C S) (bs : Nat) (hbs : 0 < bs) (md gmd : Rec)
    (calls : List (Rec × Rec)) (sched : List Rec)
    (_ : Merge (calls.map fun c => [c.1, c.2]) sched) :
    accepts T C bs (wRun T C S bs (wInit T C S md) (sched.map fun p => (p, gmd))).out = true :=
  log_verifies ok bs hbs md _

/-- In every interleaving each call's START stays before its COMPLETE. -/
theorem merge_sublist {α : Type} {ls : List (List α)} {out : List α} (h : Merge ls out) :
    ∀ l ∈ ls, l.Sublist out := by
  induction h with
  | done => intro l hl; simp at hl
  | skip _ ih =>
    intro l hl
    rcases List.mem_cons.1 hl with rfl | hl
    · exact List.nil_sublist _
    · exact ih l hl
  | @take pre post x l out _ ih =>
    intro m hm
    rw [List.mem_append, List.mem_cons] at hm
    rcases hm with hm | rfl | hm
    · exact List.Sublist.cons _ (ih m (by simp [hm]))
    · exact List.Sublist.cons_cons _ (ih l (by simp))
    · exact List.Sublist.cons _ (ih m (by simp [hm]))

/-- **Every call half is recorded, in mutex order.** The LOG entries of the written log carry, field
by field (everything but the three fields the writer fills in and the forced type), exactly the
payloads of the `log` calls in the order in which they took the mutex — so a call whose START took
the mutex before its inner call and whose COMPLETE took it afterwards is bracketed in the log. -/
theorem log_records_schedule (ok : WriterOK T C S) (bs : Nat) (md : Rec) (ps : List (Rec × Rec)) (f : String)
    (h0 : f ≠ "Type") (h1 : f ≠ "PreviousHash") (h2 : f ≠ "Hash") (h3 : f ≠ "SignatureEd25519") :
    (logsOf T (wRun T C S bs (wInit T C S md) ps).out).map (get · f) = ps.map fun pg => get pg.1 f := by
  have gen : ∀ (ps : List (Rec × Rec)) (w : WState),
      (logsOf T (wRun T C S bs w ps).out).map (get · f) =
        (logsOf T w.out).map (get · f) ++ ps.map fun pg => get pg.1 f := by
    intro ps
    induction ps with
    | nil => intro w; simp [wRun]
    | cons pg ps ih =>
      intro w
      obtain ⟨p, g⟩ := pg
      simp only [wRun, List.map_cons]
      rw [ih, logsOf_wLog ok bs w p g f h0 h1 h2 h3]
      simp
  rw [gen]
  have : logsOf T (wInit T C S md).out = [] := by
    have hTg : get (sealEntry T C S (C.H pithos) (set md "Type" T.tGenesis)) "Type" = T.tGenesis := by
      rw [sealEntry_type, get_set_eq]
    have : (T.tGenesis == T.tLog) = false := by simpa using (Ne.symm ok.log_ne_genesis)
    simp [logsOf, wInit, hTg, this]
  rw [this]; simp

open Pithos.AuditLog.Code

theorem code_hash_free : ∀ r, "Hash" ∉ hashedNames hashT r ∧ "SignatureEd25519" ∉ hashedNames hashT r := by
  -- `hashLog` lists the same fields for every version from 4 on, and no kind above 2 has details
  have h : ∀ v ∈ [0, 1, 2, 3, 4], ∀ k ∈ [0, 1, 2, 3],
      "Hash" ∉ (hashT.pre ++ hashT.details v k).map (·.1) ++ hashT.tail ∧
      "SignatureEd25519" ∉ (hashT.pre ++ hashT.details v k).map (·.1) ++ hashT.tail := by decide +kernel
  intro r
  unfold hashedNames specOf
  match kind hashT r, version r with
  | 0, _ => exact h 0 (by simp) 0 (by simp)
  | 2, _ => exact h 0 (by simp) 2 (by simp)
  | _ + 3, _ => exact h 0 (by simp) 3 (by simp)
  | 1, 0 => exact h 0 (by simp) 1 (by simp)
  | 1, 1 => exact h 1 (by simp) 1 (by simp)
  | 1, 2 => exact h 2 (by simp) 1 (by simp)
  | 1, 3 => exact h 3 (by simp) 1 (by simp)
  | 1, _ + 4 => exact h 4 (by simp) 1 (by simp)

/-- The generated tables meet the writer theorems' side conditions, for any hash and any key pair
whose signatures verify. -/
theorem code_writer_ok (C : Crypto) (S : Signer)
    (hEd : ∀ m, sigOk C.vEd m (S.signEd m) = true) (hMl : ∀ m, sigOk C.vMl m (S.signMl m) = true) :
    WriterOK hashT C S :=
  ⟨code_hash_free, by decide, by decide, by decide, hEd, hMl⟩

/-- **log_verifies for the code's tables and block size (1000).** -/
theorem log_verifies_code (C : Crypto) (S : Signer)
    (hEd : ∀ m, sigOk C.vEd m (S.signEd m) = true) (hMl : ∀ m, sigOk C.vMl m (S.signMl m) = true)
    (md : Rec) (ps : List (Rec × Rec)) :
    accepts hashT C blockSize (wRun hashT C S blockSize (wInit hashT C S md) ps).out = true :=
  log_verifies (code_writer_ok C S hEd hMl) blockSize (by decide) md ps

/-- Non-vacuity: a toy hash and toy keys satisfy the hypotheses (`verify (sign m) m = true`), and a
run with block size 2 produces genesis, two LOG entries, a grounding, one more LOG entry — accepted. -/
def toyC : Crypto := { H := fun b => b, vEd := some (fun d s => s == d), vMl := some (fun d s => s == 1 :: d) }
def toyS : Signer := { signEd := fun d => d, signMl := fun d => 1 :: d }
example : ∀ m, sigOk toyC.vEd m (toyS.signEd m) = true := by intro m; simp [sigOk, toyC, toyS]
example : ∀ m, sigOk toyC.vMl m (toyS.signMl m) = true := by intro m; simp [sigOk, toyC, toyS]
def toyMd : Rec := [("Version", [0, 3]), ("Timestamp", [0, 0, 0, 0, 0, 0, 0, 9])]
def toyP (op : String) : Rec := set toyMd "Log.Operation" (ascii op)
set_option maxRecDepth 100000 in
example : ((wRun hashT toyC toyS 2 (wInit hashT toyC toyS toyMd)
    [(toyP "A", toyMd), (toyP "B", toyMd), (toyP "C", toyMd)]).out.map (kind hashT)) = [0, 1, 1, 2, 1] := by decide +kernel

open Pithos.Gen.AuditOverrides in
/-- Methods whose override logs START before and COMPLETE (with the call's error) after calling the
same method of the inner storage. -/
def bracketed : List String :=
  if Gen.AuditOverrides.runBrackets then
    (Gen.AuditOverrides.overrideFacts.filter fun f => f.2.2.2.1 && f.2.2.2.2.1 && f.2.2.2.2.2 == f.1).map (·.1)
  else []

/-- The storage calls the middleware does not record (a method without an override inherits
`DelegatingStorage`'s pass-through). Empty as of /repo da7bacf, which added the overrides for the
notification-configuration, tagging and transition calls. -/
def knownUnrecorded : List String := []

/-- **every_call_bracketed** (full, since /repo da7bacf): every method of `storage.Storage`'s
managers is overridden by a START / inner call / COMPLETE(err) bracket. Evaluated over the generated
table: removing an override, or its START or COMPLETE, breaks this theorem. -/
theorem every_call_bracketed :
    ∀ m ∈ Gen.AuditOverrides.storageMethods, m ∈ bracketed := by decide +kernel

/-- **every_call_bracketed (partial)**: every method except those in `knownUnrecorded`; with that
list empty this is `every_call_bracketed`. -/
theorem every_call_bracketed_partial :
    ∀ m ∈ Gen.AuditOverrides.storageMethods, m ∉ knownUnrecorded → m ∈ bracketed :=
  fun m hm _ => every_call_bracketed m hm

/-- Every operation name the overrides log is distinct per method (a log entry identifies its call kind). -/
theorem operations_distinct :
    ((Gen.AuditOverrides.overrideFacts.map (·.2.1))).Nodup := by decide +kernel

/-- The critical section of `log` and `emitGrounding` is what the writer model's `wLog` does, in one
`mu` region: previous hash := lastHash, sign, write, lastHash := hash, buffer += hash, grounding when
full (root over the buffer, both root signatures, previous hash := lastHash, sign, write, lastHash :=
hash, buffer := empty). Splitting the region or reordering these steps changes the generated list. -/
theorem critical_section_as_modelled :
    Gen.AuditOverrides.logCritical =
      ["lock", "defer-unlock", "prev:=lastHash", "sign", "write{", "lastHash:=hash", "buffer+=hash",
       "if-full:emitGrounding", "}"] ∧
    Gen.AuditOverrides.groundingCritical =
      ["root:=merkle(buffer)", "sigEd:=sign(root)", "sigMl:=sign(root)",
       "grounding{prev:=lastHash,root,sigEd,sigMl}", "sign", "write{", "lastHash:=hash", "buffer:=empty", "}"] :=
  ⟨rfl, rfl⟩
end Pithos.C26
