/-
C10 — operations are all-or-nothing across process crashes (filesystem part store + SQLite).

Model `Pithos.TxFs`: a transaction is a list of part-store calls; its finalisation is a sequence
of atomic steps (temp file written · first rename of a pre-commit closure · second rename ·
database commit · backup removal); a process kill falls between two steps (`crashAt k`).
"Consistent" = every part the surviving database state references is in the directory with the
content the database expects — what makes every listed object fully readable.

 * `crash_consistent_partial`   the store without a start-up pass (a tree without
                                `fixes/C10-fs-restore-backups-at-start.patch`): holds for transactions
                                that neither delete nor replace a part the committed state references;
 * `crash_between_rename_and_commit_breaks`  the witness that the restriction is needed
                                (DeletePart renames the live file away BEFORE the commit);
 * `crash_consistent_recovered` with a start-up pass that renames an orphaned `.txbackup.*` file
                                back when its target is missing: holds for every transaction whose
                                PutParts use fresh ids — deletes and overwrites included;
 * `recover_clean_noop`         that pass changes nothing in a directory without backup files.
-/
import Pithos.Lemmas.TxFs
import Pithos.Gen.TxFsHooks

namespace Pithos.C10
open Pithos.TxFs

/-- The directory right before `tx.Commit()` of an unkilled run. -/
def filesBeforeCommit (regs : List Reg) (fs0 : Files) : Files :=
  (runActs { files := fs0 } (beforeCommitActs regs)).files

/-- **crash_consistent_partial** (no start-up pass). For every transaction `regs`, every crash
point `k`, every directory `fs0` and every pair of database states (`before`/`after` = the part
references of the committed state without/with the transaction): if `fs0` serves `before`, an
unkilled run would serve `after`, and no call of the transaction deletes or replaces a part that
`before` references, then the state found after the kill has the database in `before` or in
`after` (never in between: `committed` is a Boolean) and serves whichever it is. -/
theorem crash_consistent_partial (regs : List Reg) (k : Nat) (fs0 : Files) (before after : Refs)
    (hb : Consistent fs0 before)
    (ha : Consistent (filesBeforeCommit regs fs0) after)
    (hn : ∀ r ∈ regs, ∀ x ∈ before, r.id ≠ x.1) :
    Consistent (crashAt regs k fs0).files (if (crashAt regs k fs0).committed then after else before) := by
  by_cases hk : k ≤ (beforeCommitActs regs).length
  · simp only [crashAt, hk, if_true, Bool.false_eq_true, if_false]
    intro x hx
    rw [runActs_other]
    · exact hb x hx
    · intro a ha' e
      have hmem := (mem_beforeCommitActs regs a (List.mem_of_mem_take ha')).1
      exact hn _ hmem x hx (by simpa [FName.id] using e.symm)
  · obtain ⟨hc, hf⟩ := crashAt_committed regs k fs0 hk
    rw [hc]
    intro x hx
    rw [hf]; exact ha x hx

/-- **Negation witness for the store without a start-up pass.** DeleteObject of an unversioned key: the
transaction is one `DeletePart 0`; the committed state references part 0. Killed after the first
atomic step (the pre-commit rename to `.txbackup.*`) and before the database commit, the database
is still in `before`, which references part 0 — and part 0 is not in the directory (its content
sits in the backup file, which nothing restores). -/
theorem crash_between_rename_and_commit_breaks :
    let fs0 := emptyFiles.set (.part 0) (some [7])
    let s := crashAt [.del 0] 1 fs0
    consistentB fs0 [(0, [7])] = true ∧ s.committed = false ∧ consistentB s.files [(0, [7])] = false
      ∧ s.files (.part 0) = none ∧ s.files (.backup 0 0) = some [7] := by
  decide

/-- **crash_consistent_recovered** (with the start-up pass `recover`). As above, but the only
restriction left is that PutPart never targets an id the committed state already references
(part ids are fresh ULIDs) and that the directory holds no backup files when the transaction
starts: deletes, overwrites, completes, aborts and transitions of existing parts are covered. -/
theorem crash_consistent_recovered (regs : List Reg) (k : Nat) (fs0 : Files) (before after : Refs)
    (hnb : NoBackups fs0)
    (hb : Consistent fs0 before)
    (ha : Consistent (filesBeforeCommit regs fs0) after)
    (hp : ∀ r ∈ regs, r.isPut = true → ∀ x ∈ before, r.id ≠ x.1) :
    Consistent (recover regs.length (crashAt regs k fs0).files)
      (if (crashAt regs k fs0).committed then after else before) := by
  by_cases hk : k ≤ (beforeCommitActs regs).length
  · simp only [crashAt, hk, if_true, Bool.false_eq_true, if_false]
    intro x hx
    apply held_recover
    apply held_runActs
    · intro a ha'
      obtain ⟨hmem, hslot, hkind⟩ := mem_beforeCommitActs regs a (List.mem_of_mem_take ha')
      by_cases hid : a.reg.id = x.1
      · right
        -- a call on a referenced id is a DeletePart
        rcases hkind with hput | heq
        · exact absurd hid (hp _ hmem hput x hx)
        · refine ⟨a.slot, hslot, ?_⟩
          cases hr : a.reg with
          | put id c => exact absurd hid (hp _ hmem (by rw [hr]; rfl) x hx)
          | del id => rw [hr] at heq hid; exact hid ▸ heq
      · left; exact hid
    · exact Or.inl ⟨hb x hx, fun i => hnb _ _⟩
  · obtain ⟨hc, hf⟩ := crashAt_committed regs k fs0 hk
    rw [hc]
    intro x hx
    apply recover_part_of_some
    rw [hf]; exact ha x hx

/-- **recover_clean_noop.** The start-up pass changes nothing in a directory without backup files
(so it is invisible except after an interrupted transaction). -/
theorem recover_clean_noop (n : Nat) (fs : Files) (h : NoBackups fs) : recover n fs = fs := by
  funext nm
  cases nm with
  | part id =>
    cases hp : fs (.part id) with
    | some v => simp [recover, hp]
    | none => simp [recover, hp, firstBackup_none n fs id (fun i _ => h id i)]
  | backup id i =>
    cases hp : fs (.part id) <;> simp [recover, hp, h id i]
  | temp id i => rfl

/-- The witness transaction under the repaired start-up: the same kill, then `recover`, serves
`before` again. -/
theorem recovered_witness_serves_before :
    let fs0 := emptyFiles.set (.part 0) (some [7])
    consistentB (recover 1 (crashAt [.del 0] 1 fs0).files) [(0, [7])] = true := by
  decide

/-- Non-vacuity of `crash_consistent_partial`: a PutObject of a new key next to an existing
object (part 3) meets every hypothesis, … -/
example :
    let fs0 := emptyFiles.set (.part 3) (some [4])
    consistentB fs0 [(3, [4])] = true
    ∧ consistentB (filesBeforeCommit [.put 7 [9]] fs0) [(3, [4]), (7, [9])] = true
    ∧ (∀ r ∈ [Reg.put 7 [9]], ∀ x ∈ [((3 : Nat), ([4] : Bytes))], r.id ≠ x.1) := by
  refine ⟨by decide, by decide, ?_⟩
  simp [Reg.id]

/-- … and of `crash_consistent_recovered`: an overwrite (new part 7 published, old part 3 deleted). -/
example :
    let fs0 := emptyFiles.set (.part 3) (some [4])
    NoBackups fs0 ∧ consistentB fs0 [(3, [4])] = true
    ∧ consistentB (filesBeforeCommit [.put 7 [9], .del 3] fs0) [(7, [9])] = true
    ∧ (∀ r ∈ [Reg.put 7 [9], Reg.del 3], r.isPut = true → ∀ x ∈ [((3 : Nat), ([4] : Bytes))], r.id ≠ x.1) := by
  refine ⟨?_, by decide, by decide, ?_⟩
  · intro id i; simp [emptyFiles, Files.set]
  · simp [Reg.id, Reg.isPut]

/-- The atomic-step view and the closure-level view of a successful commit agree on the witness
transactions (`crashAt` at the last point = `commitOk`). -/
example :
    let fs0 := emptyFiles.set (.part 3) (some [4])
    let regs := [Reg.put 7 [9], Reg.del 3, Reg.put 8 [1], Reg.del 8]
    ∀ nm ∈ [FName.part 3, .part 7, .part 8, .backup 3 1, .backup 8 3, .temp 7 0, .temp 8 2],
      (crashAt regs (numPoints regs) fs0).files nm = (commitOk regs fs0).files nm := by
  decide

-- T1. `Pithos.Gen.TxFsHooks` is regenerated from /repo on every run.

open Pithos.Gen in
/-- Registration order and the pre-commit and after-commit closures of PutPart (model: `Act.renameAway`,
`Act.publish`, `Act.removeBackup`; the verification point sits between the two renames). -/
theorem code_putpart_closures_are_modelled :
    TxFsHooks.putPartRegistrations = ["OnPreCommit", "OnAfterCommit", "OnRollback"]
    ∧ TxFsHooks.putPartOnPreCommit =
      ["Rename filename backupName", "[err==nil] Set backupCreated true",
       "[!(err==nil)][!errors.Is(err,fs.ErrNotExist)] Return err", "Point fs.putpart.between-renames",
       "Rename tempName filename", "[err!=nil][backupCreated] Rename backupName filename",
       "[err!=nil][backupCreated] Set backupCreated false", "[err!=nil] Return err", "Set published true", "Return nil"]
    ∧ TxFsHooks.putPartOnAfterCommit = ["[backupCreated] Remove backupName", "Return nil"] := ⟨rfl, rfl, rfl⟩

open Pithos.Gen in
/-- Registration order and the pre-commit and after-commit closures of DeletePart: the live file is renamed
away in the PRE-commit closure, the backup removed in the AFTER-commit closure. -/
theorem code_deletepart_closures_are_modelled :
    TxFsHooks.deletePartRegistrations = ["OnPreCommit", "OnAfterCommit", "OnRollback"]
    ∧ TxFsHooks.deletePartOnPreCommit =
      ["Rename filename backupName", "[err==nil] Set backupCreated true", "[err==nil] Return nil",
       "[!(err==nil)][errors.Is(err,fs.ErrNotExist)] Return nil", "[!(err==nil)][!(errors.Is(err,fs.ErrNotExist))] Return err"]
    ∧ TxFsHooks.deletePartOnAfterCommit = ["[backupCreated] Remove backupName", "Return nil"] := ⟨rfl, rfl, rfl⟩

open Pithos.Gen in
/-- Order of `Commit`: pre-commit closures, `tx.Commit()`, after-commit closures (model:
`beforeCommitActs`, the commit point, `afterActs`). -/
theorem code_commit_order_is_modelled :
    TxFsHooks.commitSkeleton =
      ["[!t.ownsFinalization] return nil", "[t.finalized] return nil", "loop-forward onPreCommit",
       "[in-loop] Point tx.precommit", "[in-loop][pointErr!=nil] Rollback", "[in-loop][pointErr!=nil] return pointErr",
       "[in-loop] call fn(ctx)", "[in-loop][hookErr!=nil] Rollback", "[in-loop][hookErr!=nil] return hookErr", "end-loop",
       "Point tx.commit", "[pointErr!=nil] Rollback", "[pointErr!=nil] return pointErr", "sql.Commit",
       "[err!=nil] Rollback", "[err!=nil] return err", "finalized=true", "Point tx.committed",
       "loop-forward onAfterCommit", "[in-loop] Point tx.aftercommit", "[in-loop] call fn(ctx)",
       "[in-loop][hookErr!=nil] return hookErr", "end-loop", "Point tx.done", "return nil"] := rfl

open Pithos.Gen in
/-- Start of the filesystem part store: either no recovery (model without `recover`) or exactly the
modelled pass — restore a `.txbackup.*` file iff its target is missing; `startRecovers` says which of the
two the tree has. -/
theorem code_start_is_modelled :
    TxFsHooks.startCalls =
      (match TxFsHooks.startRecovers with
       | false => ["ValidatedLifecycle.Start", "ensureRootDir"]
       | true => ["ValidatedLifecycle.Start", "ensureRootDir", "restoreOrphanedBackups"])
    ∧ TxFsHooks.recoveryOps =
      (match TxFsHooks.startRecovers with
       | false => []
       | true => ["[range] ContinueIf dirEntry.IsDir()", "[range] ContinueIf !isBackup", "[range] ContinueIf !ok",
                  "[range] ContinueIf err==nil||!errors.Is(err,fs.ErrNotExist)",
                  "[range] Rename filepath.Join(bs.root,dirEntry.Name()) filename"]) := ⟨rfl, rfl⟩

open Pithos.Gen in
/-- T1: the list every registration method of `TxController` appends to. An after-commit closure
must land in the root's AFTER-commit list: the removal of a `.txbackup.*` file may only happen once
the database commit is durable (model: `afterActs` come after the commit point). -/
theorem code_hook_routing_is_modelled :
    TxFsHooks.hookRouting =
      ["OnPreCommit root.onPreCommit", "OnAfterCommit root.onAfterCommit", "OnRollback root.onRollback"]
    ∧ TxFsHooks.hookRoutingRoot =
      ["OnPreCommit root:=t.rootTx()", "OnAfterCommit root:=t.rootTx()", "OnRollback root:=t.rootTx()"] := ⟨rfl, rfl⟩

/-- **Negation witness for an after-commit closure routed into the pre-commit list**
(`root.onPreCommit = append(root.onPreCommit, fn)` in `OnAfterCommit`): at the moment of the COMMIT
the backup of the deleted part 3 is already unlinked while the database is still uncommitted —
neither a rollback nor a start-up recovery can bring the part back. With the code's routing the
backup is there. -/
theorem after_commit_closure_in_pre_list_destroys_backup :
    let fs0 := emptyFiles.set (.part 3) (some [4])
    let bad : Routing := { Routing.code with onAfterCommit := ⟨true, .pre⟩ }
    (Ctl.commitFails true (Ctl.registerAll bad {} [(.root, .del 3)] 0) fs0).1 (.backup 3 0) = none
    ∧ (Ctl.commitFails true (Ctl.registerAll bad {} [(.root, .del 3)] 0) fs0).1 (.part 3) = none
    ∧ (Ctl.commitFails true (Ctl.registerAll bad {} [(.root, .del 3)] 0) fs0).2 (.part 3) = none
    ∧ (Ctl.commitFails true (Ctl.registerAll Routing.code {} [(.root, .del 3)] 0) fs0).1 (.backup 3 0) = some [4] := by
  decide

end Pithos.C10
