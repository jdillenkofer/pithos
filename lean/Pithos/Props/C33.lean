/-
C33 — virtual-hosted and path-style requests address the same resource; website endpoints and
custom domains never change state.

Part 1 (hand-written model `Pithos.VHost`): for the repaired rewrite (`rewrite true`, the current
tree: /repo 707632e and later) the URL the API mux sees for a virtual-hosted request is IDENTICAL
to the URL of the same request sent path style — for every bucket name, every endpoint, every
encoded key (any percent-encoding, valid or not) — hence the resolution (redirect / bucket /
bucket+key) is the same. For the rewrite before that commit (`rewrite false`): negation witnesses
and the partial theorem (canonical encodings, keys not ending in '/').
Part 2 (T1 table `Pithos.Gen.C33Routes`, regenerated from /repo on every run): the website mux
registers GET/HEAD only, its handlers reach read-only storage methods only, custom domains are
handed to that mux only, every storage.Storage method is classified.
Part 3: a host reaches the API mux iff it is the API endpoint or a true subdomain of it, every other
host is served by the website family, and the host tests regenerated from /repo are the modelled ones.
`ValidNames` (what Part 1 assumes about bucket and endpoint names) and the facts about the rewrite and
the parser that Part 1 rests on are in `Pithos.Lemmas.VHost`.
-/
import Pithos.Lemmas.VHost
import Pithos.Lemmas.ListFacts
import Pithos.Spec.VHost
import Pithos.Gen.C33Routes

namespace Pithos.C33
open Pithos.Ascii Pithos.VHost

/-- **vhost_url_eq_path_url.** For every endpoint, every valid bucket name and every non-empty
encoded key `ek` (ANY percent-encoding — canonical, SDK style, `%2F` for slashes, even malformed):
the URL (Path and RawPath) that the API mux receives for `Host: <b>.<endpoint>`, target `/<ek>` is
exactly the URL of `Host: <endpoint>`, target `/<b>/<ek>` — or net/http rejects both. -/
theorem vhost_url_eq_path_url (apiEp b ek : List Char) (hv : ValidNames apiEp b) (hek : ek ≠ []) :
    (parseTarget (vhostObjTarget ek)).map (rewrite true apiEp (vhostHost b apiEp)) =
    (parseTarget (pathObjTarget b ek)).map (rewrite true apiEp apiEp) := by
  -- the path-style target is the virtual-hosted one prefixed with `/<bucket>`; the rewrite prefixes the URL
  rw [parseTarget_pathObj b ek hv.chars, Option.map_map]
  refine Option.map_congr fun u hu => ?_
  rw [Function.comp_apply, rewrite_path_style true apiEp hv.endpoint, rewrite_vhost true apiEp b hv]
  -- the decoded path is `/` and a non-empty key, so not the bucket itself
  obtain ⟨k, hk, hpath⟩ : ∃ k, unesc ek = some k ∧ u.path = '/' :: k := by
    unfold parseTarget vhostObjTarget at hu
    rw [unesc, unescGo_normal_cons '/' ek (by decide), ← unesc] at hu
    cases hk : unesc ek with
    | none => rw [hk] at hu; cases hu
    | some k => rw [hk] at hu; cases hu; exact ⟨k, rfl, rfl⟩
  have : k ≠ [] := fun e => hek (unescGo_nil (e ▸ hk)).2
  cases k with
  | nil => exact absurd rfl this
  | cons c k => simp [hpath, prefixed]

/-- **vhost_eq_path** (objects). Both spellings resolve to the same thing: the same redirect, or
the same (bucket, key). -/
theorem vhost_eq_path (apiEp b ek : List Char) (hv : ValidNames apiEp b) (hek : ek ≠ []) :
    resolveTarget true apiEp (vhostHost b apiEp) (vhostObjTarget ek) =
    resolveTarget true apiEp apiEp (pathObjTarget b ek) := by
  have h := vhost_url_eq_path_url apiEp b ek hv hek
  have key : ∀ host raw, resolveTarget true apiEp host raw =
      ((parseTarget raw).map (rewrite true apiEp host)).map (fun u => muxResolve (escapedPath u)) := by
    intro host raw
    simp only [resolveTarget, Option.map_map]
    cases parseTarget raw <;> rfl
  rw [key, key, h]

/-- **vhost_eq_path** (the bucket itself): `Host: <b>.<endpoint>`, target `/` is the request
`Host: <endpoint>`, target `/<b>`. -/
theorem vhost_bucket_eq_path (apiEp b : List Char) (hv : ValidNames apiEp b) :
    resolveTarget true apiEp (vhostHost b apiEp) ['/'] =
    resolveTarget true apiEp apiEp ('/' :: b) := by
  have h1 : parseTarget ['/'] = some { path := ['/'], rawPath := [] } := by decide
  have h2 : parseTarget ('/' :: b) = some { path := '/' :: b, rawPath := [] } := by
    have h0 : parseTarget [] = some { path := [], rawPath := [] } := rfl
    simpa [prefixed, h0] using parseTarget_append_plain ('/' :: b) [] (bucket_keep b hv.chars)
  simp [resolveTarget, apiResolve, h1, h2, rewrite_path_style true apiEp hv.endpoint,
    rewrite_vhost true apiEp b hv]

/-- On a clean encoded key the resolution is what one expects: the bucket and the decoded key,
trailing slash included (no redirect). -/
example :
    resolveTarget true "s3.localhost".toList "my.bucket.s3.localhost".toList "/a%20b/folder/".toList
      = some (.target (.object "my.bucket".toList "a b/folder/".toList)) ∧
    resolveTarget true "s3.localhost".toList "s3.localhost:9000".toList "/my.bucket/a%20b/folder/".toList
      = some (.target (.object "my.bucket".toList "a b/folder/".toList)) ∧
    resolveTarget true "s3.localhost".toList "my.bucket.s3.localhost".toList "/a%2F%2Fb".toList
      = some (.target (.object "my.bucket".toList "a//b".toList)) ∧
    resolveTarget true "s3.localhost".toList "my.bucket.s3.localhost".toList "/a//b".toList
      = some .redirect := by
  -- a literal is `String.ofList` of its characters: read `toList` off that, since decoding UTF-8
  -- in the kernel costs far more than the resolution itself
  repeat rw [String.toList_ofList]
  decide +kernel

/-- **Negation witness 1** (replayed as directed case 0): `PUT /folder/` on `bucket.s3.localhost`
resolves to key `folder`, the same request path style to key `folder/`. -/
theorem asis_drops_trailing_slash :
    resolveTarget false "s3.localhost".toList "bucket.s3.localhost".toList "/folder/".toList
      = some (.target (.object "bucket".toList "folder".toList)) ∧
    resolveTarget false "s3.localhost".toList "s3.localhost".toList "/bucket/folder/".toList
      = some (.target (.object "bucket".toList "folder/".toList)) := by
  repeat rw [String.toList_ofList]
  decide +kernel

/-- **Negation witness 2** (directed case 1): an encoded key `a%2F%2Fb` is re-encoded from the
decoded path by the stale RawPath — virtual-hosted the mux redirects, path style it acts on the
key `a//b`. -/
theorem asis_stale_rawpath :
    resolveTarget false "s3.localhost".toList "bucket.s3.localhost".toList "/a%2F%2Fb".toList
      = some .redirect ∧
    resolveTarget false "s3.localhost".toList "s3.localhost".toList "/bucket/a%2F%2Fb".toList
      = some (.target (.object "bucket".toList "a//b".toList)) := by
  repeat rw [String.toList_ofList]
  decide +kernel

/-- **vhost_eq_path_partial** (rewrite before 707632e): the two spellings agree for every key that
does not end in '/' when the client uses the canonical encoding (`ek = esc k`). -/
theorem vhost_eq_path_partial (apiEp b k : List Char) (hv : ValidNames apiEp b)
    (hbytes : ∀ c ∈ k, c.toNat < 256) (hk : k ≠ []) (hlast : k.getLast? ≠ some '/') :
    resolveTarget false apiEp (vhostHost b apiEp) (vhostObjTarget (esc k)) =
    resolveTarget false apiEp apiEp (pathObjTarget b (esc k)) := by
  have hl : ('/' :: b ++ '/' :: k).getLast? ≠ some '/' := by
    have : '/' :: b ++ '/' :: k = ('/' :: b ++ ['/']) ++ k := by simp
    rw [this, List.getLast?_append]
    cases hg : k.getLast? with
    | none => exact absurd (List.getLast?_eq_none_iff.1 hg) hk
    | some x => rw [hg] at hlast; simpa using hlast
  have hv1 : parseTarget (vhostObjTarget (esc k)) = some { path := '/' :: k, rawPath := [] } := by
    simpa [prefixed, parseTarget_esc k hbytes, vhostObjTarget] using
      parseTarget_append_plain ['/'] (esc k) (by simpa using keep_slash)
  have hv2 : parseTarget (pathObjTarget b (esc k)) = some { path := '/' :: b ++ '/' :: k, rawPath := [] } := by
    rw [parseTarget_pathObj b (esc k) hv.chars, hv1]; rfl
  simp only [resolveTarget, hv1, hv2, Option.map_some, apiResolve,
    rewrite_path_style false apiEp hv.endpoint, rewrite_vhost false apiEp b hv, Bool.false_eq_true, if_false]
  have : trimSuffix ('/' :: b ++ '/' :: k) ['/'] = '/' :: b ++ '/' :: k :=
    trimSuffix_of_not_suffix _ _ (isSuffixOf_singleton_false hl)
  simp only [List.cons_append] at this ⊢
  rw [this]

/-- Non-vacuity of the partial theorem's hypotheses and of `ValidNames`. -/
example : ValidNames "s3.localhost".toList "my.bucket-1".toList ∧
    (∀ c ∈ "dir/ü b".toList, c.toNat < 256) ∧ "dir/ü b".toList.getLast? ≠ some '/' :=
  ⟨⟨by decide +kernel, by decide +kernel, by decide +kernel⟩, by decide +kernel, by decide +kernel⟩

open Pithos.Gen.C33Routes in
/-- **website_routes_readonly.** The website mux registers only GET and HEAD; every handler it
registers has its reachable storage calls listed; every such call is a read-only storage method. -/
theorem website_routes_readonly :
    (∀ r ∈ websiteRoutes, Spec.safeHttpMethods.contains r.1 = true) ∧
    (∀ r ∈ websiteRoutes, (websiteStorageCalls.map (·.1)).contains r.2.2 = true) ∧
    (∀ h ∈ websiteStorageCalls, ∀ c ∈ h.2, Spec.isReadOnly c = true) := by
  decide +kernel

open Pithos.Gen.C33Routes in
/-- Custom domains (the fallback handler) and the website branch of the host router hand the
request to the website mux and to nothing else. -/
theorem site_entry_points_serve_website_mux_only :
    fallbackServes = ["websiteHandler"] ∧
    hostRoutingServes = ["apiHandler", "websiteHandler", "fallbackHandler"] ∧
    hostRoutingWiring = ["apiEndpoint", "apiHandler", "websiteEndpoint", "websiteHandler", "fallbackHandler"] :=
  ⟨rfl, rfl, rfl⟩

open Pithos.Gen.C33Routes in
/-- Every method of storage.Storage is classified, and nothing is both read-only and mutating. -/
theorem storage_methods_classified :
    (∀ m ∈ storageMethods, (Spec.readOnlyStorageMethods ++ Spec.mutatingStorageMethods).contains m = true) ∧
    (∀ m ∈ Spec.readOnlyStorageMethods, Spec.mutatingStorageMethods.contains m = false) := by
  decide +kernel

open Pithos.Gen.C33Routes in
/-- The API mux uses exactly the three pattern shapes the model resolves, and every method with an
object-level route also has the bucket-level one (so `/{bucket}` never falls through to a
trailing-slash redirect). -/
theorem api_patterns_are_the_modelled_shapes :
    (∀ r ∈ apiRoutes, ["/", "/{bucket}", "/{bucket}/{key...}"].contains r.2.1 = true) ∧
    (∀ r ∈ apiRoutes, r.2.1 = "/{bucket}/{key...}" →
        (apiRoutes.any fun q => q.1 == r.1 && q.2.1 == "/{bucket}") = true) ∧
    (∀ r ∈ websiteRoutes, ["/{bucket}", "/{bucket}/{key...}"].contains r.2.1 = true) := by
  decide +kernel

/-- **api_host_iff.** A host is routed to the API mux iff (without its port) it is the API endpoint
or a true subdomain of it — for every endpoint and every host string. -/
theorem api_host_iff (apiEp webEp host : List Char) :
    route apiEp webEp host = .api ↔
      (stripPort host = apiEp ∨ (dotted apiEp) <:+ stripPort host) := by
  unfold route
  simp only [isApiHost, Bool.or_eq_true, beq_iff_eq, List.isSuffixOf_iff_suffix]
  constructor
  · intro h
    split at h
    · assumption
    · split at h <;> simp at h
  · intro h; simp [h]

/-- **every_other_host_is_a_site_host.** A host that is not the API endpoint or a true subdomain of
it is handed to the website family (website-endpoint bucket or custom domain), whose mux and
handlers are read-only by `website_routes_readonly` / `site_entry_points_serve_website_mux_only`. -/
theorem every_other_host_is_a_site_host (apiEp webEp host : List Char)
    (h : Spec.isApiHost apiEp host = false) :
    (∃ b, route apiEp webEp host = .website b) ∨ (∃ b, route apiEp webEp host = .custom b) := by
  have h' : isApiHost apiEp (stripPort host) = false := by simpa [Spec.isApiHost, isApiHost] using h
  unfold route
  simp only [h', Bool.false_eq_true, if_false]
  split
  · exact Or.inl ⟨_, rfl⟩
  · exact Or.inr ⟨_, rfl⟩

open Pithos.Gen.C33Routes in
/-- The host tests regenerated from hostrouting.go and virtualhostbucketaddressing.go are the ones
the model mirrors: API = `host == ep || HasSuffix(host, "."+ep)`, website = `HasSuffix(host,
"."+web)`, virtual-host rewrite = `host != ep && HasSuffix(host, "."+ep)`; all three readers of
`r.Host` strip the port the same way. -/
theorem host_tests_are_the_modelled_ones :
    routerHostTests = [(.or (.eq "api") (.hasSuffixDot "api"), ["apiHandler"]),
                       (.hasSuffixDot "website", ["rewrite", "websiteHandler"])] ∧
    vhostHostTests = [(.and (.ne "api") (.hasSuffixDot "api"), ["rewrite"])] ∧
    portStrips = List.replicate 3
      "if colonIdx := strings.LastIndex(h, \":\"); colonIdx != -1 { if bracketIdx := strings.LastIndex(h, \"]\"); bracketIdx < colonIdx { h = h[:colonIdx] } }" := by
  exact ⟨rfl, rfl, rfl⟩

open Pithos.Gen.C33Routes in
/-- Semantically: the router's regenerated API test computes exactly `isApiHost`, for all hosts. -/
theorem router_api_test_is_the_true_subdomain_test (eps : String → List Char) (h : List Char) :
    (routerHostTests.map (·.1)).head?.map (·.eval eps h) = some (isApiHost (eps "api") h) := by
  simp [routerHostTests, HostExpr.eval, isApiHost, dotted]

/-- Adversarial hosts built from the endpoints: endpoint as infix, as prefix, as suffix without the
dot, other letter case, trailing dot, IP literals — none is an API host; true subdomains (with or
without port) are. -/
example :
    let r := fun (h : String) => route "s3.localhost".toList "s3-website.localhost".toList h.toList
    r "assets.s3.localhost.cdn.example.net" = .custom "assets.s3.localhost.cdn.example.net".toList ∧
    r "assets.s3.localhost.cdn.example.net:8080" = .custom "assets.s3.localhost.cdn.example.net".toList ∧
    r "s3.localhost.evil.org" = .custom "s3.localhost.evil.org".toList ∧
    r "evils3.localhost" = .custom "evils3.localhost".toList ∧
    r "S3.LOCALHOST" = .custom "S3.LOCALHOST".toList ∧
    r "b.s3.localhost." = .custom "b.s3.localhost.".toList ∧
    r "[::1]:9000" = .custom "[::1]".toList ∧
    r "b.s3-website.localhost.evil.org" = .custom "b.s3-website.localhost.evil.org".toList ∧
    r "b.s3-website.localhost:80" = .website "b".toList ∧
    r "s3.localhost:9000" = .api ∧ r "b.s3.localhost" = .api ∧ r "x.s3.localhost.y.s3.localhost:1" = .api := by
  dsimp only
  repeat rw [String.toList_ofList]
  decide +kernel

end Pithos.C33
