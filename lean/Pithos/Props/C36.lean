/-
C36 — streaming reads hold their transaction exactly as long as needed.

Property theorems only (model in `Pithos.Model.Streams`; the invariant `Inv` of the guarded counter
and its preservation in `Pithos.Lemmas.Streams`). They are stated for every number of readers `n`
and every finite word over {read i, close i} — no bound on either.
-/
import Pithos.Lemmas.Streams

namespace Pithos.C36
open Pithos.Streams

/-- **released_iff_all_closed.** After any word of reads/closes/repeated closes over any number of
readers, the transaction has been released exactly when every reader has been closed. -/
theorem released_iff_all_closed (n : Nat) (ops : List Op) :
    (final true (init n) ops).txDone = true ↔ allClosed (final true (init n) ops) = true := by
  have h := inv_reachable n ops
  rw [h.done, ← openCount_zero_iff]
  simp

/-- **released_once.** The release (rollback hooks) never runs more than once, and has run exactly
once precisely when the transaction is done. -/
theorem released_once (n : Nat) (ops : List Op) :
    (final true (init n) ops).rollbacks ≤ 1 ∧
    ((final true (init n) ops).rollbacks = 1 ↔ (final true (init n) ops).txDone = true) := by
  have h := inv_reachable n ops
  rw [h.rb]
  cases (final true (init n) ops).txDone <;> simp

/-- **no_reader_fails_because_other_closed.** In every history, every read of a still-open reader
answers `ok`: split the history at that read; the state before it is reachable, hence satisfies
the invariant. -/
theorem no_reader_fails_because_other_closed (n : Nat) (pre : List Op) (i : Nat)
    (hi : i < n) (ho : isClosed (final true (init n) pre) i = false) :
    (step true (final true (init n) pre) (.read i)).2 = .ok := by
  exact read_open_ok _ i (inv_reachable n pre) hi ho

/-- Negation witness for the code *before* the fix (`guarded = false`): with two readers, closing
reader 0 twice releases the transaction while reader 1 is still open, and the next read of
reader 1 fails. This is the history replayed on the implementation (see known-findings.json). -/
theorem unguarded_double_close_breaks :
    (run false (init 2) [.close 0, .close 0, .read 1]).2 = [.ok, .unspecified, .fail] := by
  decide +kernel

/-- Non-vacuity: the hypotheses of `no_reader_fails_because_other_closed` are met by a concrete
non-trivial history (three readers, two of them closed — one of them twice). -/
example : isClosed (final true (init 3) [.close 0, .close 0, .close 2, .read 1]) 1 = false ∧ 1 < 3 := by
  decide +kernel

end Pithos.C36
