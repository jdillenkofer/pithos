/-
C32 — client IP and scheme are only taken from trusted proxies.

Property theorems over the decision model `Pithos.ProxyTrust` (all configurations: any list of
parsed / unparsable CIDR entries; all requests: any peer, any header outcome). `repaired = true`
is the current tree (/repo d8bf3f2 and later, fixes/C32-unusable-cidr-list-trusts-nobody.patch),
`repaired = false` the tree before that commit. What `usable`, `contains`, `useForwarded` and the two
variants of `trustedProxy` do for every input is in `Pithos.Lemmas.ProxyTrust`; the settings theorems read
each merged field off `Pithos.foldl_later_wins` (`Pithos.Lemmas.ListFacts`).
-/
import Pithos.Lemmas.ProxyTrust
import Pithos.Lemmas.ListFacts
import Pithos.Model.ProxySettings
import Pithos.Spec.ProxySettings

namespace Pithos.C32
open Pithos.NetParse Pithos.ProxyTrust Pithos.ProxyTrust.Spec

/-- **forwarded_used_iff** (repaired code). The forwarded headers are consulted exactly when
forwarded headers are trusted, the peer has an IP, and either no CIDR list was configured at all
or some configured entry is a valid CIDR that contains the peer. -/
theorem forwarded_used_iff (cfg : Config) (req : Req) :
    useForwarded true cfg req = true ↔
      cfg.trust = true ∧ ∃ a, req.peer = some a ∧
        (cfg.cidrs = [] ∨ ∃ c, some c ∈ cfg.cidrs ∧ contains c a = true) := by
  unfold useForwarded trustedProxy
  cases hp : req.peer with
  | none => simp
  | some a =>
    simp only [Bool.and_eq_true, Bool.or_eq_true, List.any_eq_true, List.isEmpty_iff, if_true,
      Option.some.injEq, exists_eq_left', mem_usable]

/-- **exposed_differs_only_if_allowed** (repaired code) — the property as stated: if the exposed
client IP or scheme differs from the TCP peer's, then forwarded headers are trusted and the peer
lies inside a configured valid CIDR, or no list was configured at all. -/
theorem exposed_differs_only_if_allowed (cfg : Config) (req : Req)
    (h : resolve true cfg req ≠ (req.peer, peerScheme req.tls)) :
    mayDiffer cfg req.peer = true := by
  obtain ⟨ht, a, hp, hc⟩ := (forwarded_used_iff cfg req).1 (used_of_differs h)
  simp only [mayDiffer, ht, hp, Bool.true_and, Bool.or_eq_true, List.isEmpty_iff,
    List.any_eq_true]
  rcases hc with h0 | ⟨c, hc, hin⟩
  · exact Or.inl h0
  · exact Or.inr ⟨some c, hc, contains_inside c a hin⟩

/-- **unusable_list_trusts_nobody** (repaired code). A configured list none of whose entries is a
CIDR trusts no peer at all — so it can never make every peer trusted — and every request is shown
with the peer's own IP and scheme. -/
theorem unusable_list_trusts_nobody (cfg : Config) (hne : cfg.cidrs ≠ [])
    (hall : ∀ e ∈ cfg.cidrs, e = none) :
    (∀ peer, trustedProxy true cfg peer = false) ∧
    (∀ req, resolve true cfg req = (req.peer, peerScheme req.tls)) := by
  have hus : usable cfg = [] :=
    List.isEmpty_iff.1 ((usable_isEmpty cfg).trans (List.all_eq_true.2 fun e he => by rw [hall e he]; rfl))
  have h1 : ∀ peer, trustedProxy true cfg peer = false := by
    intro peer
    cases peer with
    | none => rfl
    | some a => simp [trustedProxy, hus, hne]
  refine ⟨h1, fun req => not_used_exposes_peer true cfg req ?_⟩
  simp [useForwarded, h1]

/-- With trust switched off nothing is ever taken from a header (both variants). -/
theorem trust_off_exposes_peer (r : Bool) (cfg : Config) (req : Req) (h : cfg.trust = false) :
    resolve r cfg req = (req.peer, peerScheme req.tls) :=
  not_used_exposes_peer r cfg req (by simp [useForwarded, h])

/-- **exposed_differs_only_if_allowed_partial** (the tree before d8bf3f2): the property holds for every
configuration except a configured list without a single usable entry. -/
theorem exposed_differs_only_if_allowed_partial (cfg : Config) (req : Req)
    (hcfg : unusableList cfg = false)
    (h : resolve false cfg req ≠ (req.peer, peerScheme req.tls)) :
    mayDiffer cfg req.peer = true := by
  have e : resolve false cfg req = resolve true cfg req := by
    simp [resolve, useForwarded, asis_eq_repaired cfg req.peer hcfg]
  exact exposed_differs_only_if_allowed cfg req (e ▸ h)

/-- **Negation witness** (the tree before d8bf3f2): one unparsable entry — `TrustedProxyCIDRs =
["not-a-cidr"]` — makes *every* peer a trusted proxy … -/
theorem asis_unusable_list_trusts_everybody (a : Ip) :
    trustedProxy false { trust := true, cidrs := [none] } (some a) = true := by
  simp [trustedProxy, usable]

/-- … and the concrete request replayed on the implementation: peer 192.0.2.5 over plain HTTP,
`X-Forwarded-For: 198.51.100.7`, `X-Forwarded-Proto: https`; the script sees 198.51.100.7/https
although `mayDiffer` is false. -/
theorem asis_violates :
    let cfg : Config := { trust := true, cidrs := [none] }
    let req : Req := { peer := some (mapped 0xC0000205), tls := false, cf := none,
                       xff := some (some (mapped 0xC6336407)), xfp := some (some .https) }
    resolve false cfg req = (some (mapped 0xC6336407), .https) ∧
    resolve false cfg req ≠ (req.peer, peerScheme req.tls) ∧
    mayDiffer cfg req.peer = false ∧
    resolve true cfg req = (req.peer, peerScheme req.tls) := by
  decide +kernel

/-- Non-vacuity: a mixed list (one unparsable entry, 10.0.0.0/8) admits the proxy 10.1.2.3 and the
forwarded values are used; the peer 192.0.2.5 outside it is shown as itself. -/
example :
    let net10 : Cidr := { base := mapped 0x0A000000, bits := 104 }
    let cfg : Config := { trust := true, cidrs := [none, some net10] }
    let hdr : Req := { peer := some (mapped 0x0A010203), tls := false, cf := none,
                       xff := some (some (mapped 0xC6336407)), xfp := some (some .https) }
    unusableList cfg = false ∧
    resolve true cfg hdr = (some (mapped 0xC6336407), .https) ∧
    resolve true cfg { hdr with peer := some (mapped 0xC0000205) }
      = (some (mapped 0xC0000205), .http) := by
  decide +kernel

/-- Non-vacuity of the string front end: the literals of the witness parse to those numbers. -/
example :
    parseCidr "not-a-cidr".toList = none ∧
    parseCidr "10.0.0.0/8".toList = some { base := mapped 0x0A000000, bits := 104 } ∧
    remoteIP "192.0.2.5:41000".toList = some (mapped 0xC0000205) ∧
    remoteIP "[::ffff:10.1.2.3]:9".toList = some (mapped 0x0A010203) ∧
    parseIP "2001:db8::1".toList = some 0x20010db8000000000000000000000001 := by
  -- a literal is `String.ofList` of its characters: read `toList` off that (decoding UTF-8 in the
  -- kernel costs far more than the parsing)
  repeat rw [String.toList_ofList]
  decide +kernel

/-! ## The configuration glue (`Pithos.ProxySettings`): layered settings → authorizer options

Layers are listed in increasing precedence (`mergeSettings(cmdArgs, env)`: command line, then
environment). `mergeFixed = true` is fixes/C32-settings-merge-keeps-cli-slices.patch (/repo 90f6239),
`keepUnusable = true` is fixes/C32-separators-only-narrow.patch (/repo f3b5ecb); the current tree has
both. -/

section Settings
open Pithos.Ascii Pithos.ProxySettings

/-- **effective_list_is_highest_layer_that_sets_it** (repaired merge), for any number of layers:
the merged trusted-proxy list is the list of the highest-precedence layer that sets one, and is
unset only if no layer sets it. -/
theorem effective_list_is_highest_layer_that_sets_it (ls : List Layer) :
    (merge true ls).list = ((ls.map (·.list)).reverse.find? (·.isSome)).getD none :=
  (foldl_later_wins (step := mergeOne true) (p := Layer.list) (f := Layer.list)
    (fun a l => by cases h : l.list <;> simp [mergeOne, h]) ls _).trans (Option.or_none ..)

/-- The same for the trust switch — in both variants of the merge: it is a pointer field, which
either variant copies only when set. -/
theorem effective_trust_is_highest_layer_that_sets_it (r : Bool) (ls : List Layer) :
    (merge r ls).trust = ((ls.map (·.trust)).reverse.find? (·.isSome)).getD none :=
  (foldl_later_wins (step := mergeOne r) (p := Layer.trust) (f := Layer.trust)
    (fun a l => by cases h : l.trust <;> simp [mergeOne, h]) ls _).trans (Option.or_none ..)

/-- **configured_never_replaced_by_unconfigured** (repaired merge): if any layer sets a list, the
merged settings carry a list. -/
theorem configured_never_replaced_by_unconfigured (ls : List Layer)
    (h : ∃ l ∈ ls, l.list.isSome = true) : (merge true ls).list.isSome = true := by
  rw [effective_list_is_highest_layer_that_sets_it]
  obtain ⟨l, hl, hs⟩ := h
  cases hf : (ls.map (·.list)).reverse.find? (·.isSome) with
  | none => exact absurd hs (List.find?_eq_none.1 hf l.list (List.mem_reverse.2 (List.mem_map_of_mem hl)))
  | some v => exact List.find?_some hf

/-- The merge before 90f6239: the list is whatever the LAST layer says — set or not. -/
theorem asis_list_is_last_layer (ls : List Layer) :
    (merge false ls).list = ls.getLast?.bind (·.list) := by
  -- the last step of the fold overwrites the list, whatever came before
  rcases List.eq_nil_or_concat ls with rfl | ⟨ls', l, rfl⟩
  · rfl
  · simp [merge, mergeOne]

/-- **End to end** (everything repaired), for any layers: when the winning layer configures a
non-empty list `w`, a request whose exposed client IP / scheme differs from the peer's comes from a
peer inside a valid CIDR of `w` — of the winning layer, not of a shadowed one — with trust on. -/
theorem settings_end_to_end (ls : List Layer) (w : List (List Char)) (hw : w ≠ [])
    (hwin : ((ls.map (·.list)).reverse.find? (·.isSome)).getD none = some w) (req : Req)
    (h : resolve true (toConfig (effective true ls)) req ≠ (req.peer, peerScheme req.tls)) :
    (effective true ls).trust = true ∧
    ∃ a, req.peer = some a ∧ ∃ e ∈ w, ∃ c, parseCidr e = some c ∧ contains c a = true := by
  have hl : (merge true ls).list = some w := by rw [effective_list_is_highest_layer_that_sets_it, hwin]
  have he : (effective true ls).entries = w := by simp [effective, hl]
  obtain ⟨ht, a, hp, hc⟩ := (forwarded_used_iff _ req).1 (used_of_differs h)
  refine ⟨ht, a, hp, ?_⟩
  simp only [toConfig, he] at hc
  rcases hc with h0 | ⟨c, hc, hin⟩
  · exact absurd (by simpa using h0) hw
  · obtain ⟨e, hew, hpe⟩ := List.mem_map.1 hc
    exact ⟨e, hew, c, hpe, hin⟩

/-- With the separators-only patch a raw value that is not blank always yields a non-empty list
(so the hypothesis `w ≠ []` above holds for everything an operator can write except a blank). -/
theorem parseItems_nonempty (raw : List Char) (h : (trimSpace raw).isEmpty = false) :
    parseItems true raw ≠ [] := by
  have h' : trimSpace raw ≠ [] := by simpa using h
  cases hs : (splitItems raw).isEmpty with
  | true => simp [parseItems, hs, h]
  | false =>
    have : splitItems raw ≠ [] := by simpa using hs
    simp [parseItems, hs, this]

/-- **Negation witness 1** (the tree before 90f6239; directed case 12): trust and the list `10.0.0.0/8`
given on the command line only, nothing in the environment — the list is erased, so the peer
192.0.2.5 (outside 10/8) dictates client IP and scheme; both repaired variants keep the list and
show the peer. -/
theorem asis_merge_erases_cli_list :
    load false false (some true) (some "10.0.0.0/8".toList) [] [] = { trust := true, entries := [] } ∧
    load true false (some true) (some "10.0.0.0/8".toList) [] []
      = { trust := true, entries := ["10.0.0.0/8".toList] } ∧
    (let req : Req := { peer := some (mapped 0xC0000205), tls := false, cf := none,
                        xff := some (some (mapped 0xC6336407)), xfp := some (some .https) }
     resolve true (toConfig (load false false (some true) (some "10.0.0.0/8".toList) [] [])) req
       = (some (mapped 0xC6336407), .https) ∧
     resolve true (toConfig (load true false (some true) (some "10.0.0.0/8".toList) [] [])) req
       = (req.peer, .http) ∧
     Spec.mayDiffer true (Spec.effectiveList [Spec.classify (some "10.0.0.0/8".toList), Spec.classify none])
       req.peer = false) := by
  dsimp only
  repeat rw [String.toList_ofList]
  decide +kernel

/-- **Negation witness 2** (the tree before f3b5ecb; directed case 13): `PITHOS_TRUSTED_PROXY_CIDRS=","`
is a configured list without an entry; it becomes the empty list = "trust every proxy". With the
patch it stays a configured (unparsable) entry and nobody is trusted. -/
theorem asis_separators_only_means_everyone :
    load true false none none "true".toList ",".toList = { trust := true, entries := [] } ∧
    load true true none none "true".toList ",".toList = { trust := true, entries := [",".toList] } ∧
    (∀ a, trustedProxy true (toConfig (load true false none none "true".toList ",".toList)) (some a) = true) ∧
    (∀ peer, trustedProxy true (toConfig (load true true none none "true".toList ",".toList)) peer = false) ∧
    Spec.effectiveList [Spec.classify none, Spec.classify (some ",".toList)] = .configured [] := by
  refine ⟨by decide +kernel, by decide +kernel, ?_, ?_, by decide +kernel⟩
  · intro a
    have : toConfig (load true false none none "true".toList ",".toList) = { trust := true, cidrs := [] } := by
      decide +kernel
    rw [this]; simp [trustedProxy, usable]
  · intro peer
    have : toConfig (load true true none none "true".toList ",".toList) = { trust := true, cidrs := [none] } := by
      decide +kernel
    rw [this]
    exact (unusable_list_trusts_nobody _ (by simp) (by simp)).1 peer

/-- Non-vacuity of `settings_end_to_end`: environment list wins over the command-line list; the
proxy inside the environment's network is believed, the one inside the shadowed command-line
network is not. -/
example :
    let ls := [cliLayer true (some true) (some "10.0.0.0/8".toList),
               envLayer true [] "192.0.2.0/24 , not-a-cidr".toList]
    ((ls.map (·.list)).reverse.find? (·.isSome)).getD none
      = some ["192.0.2.0/24".toList, "not-a-cidr".toList] ∧
    (let hdr : Req := { peer := some (mapped 0xC0000205), tls := false, cf := none,
                        xff := some (some (mapped 0xC6336407)), xfp := none }
     resolve true (toConfig (effective true ls)) hdr = (some (mapped 0xC6336407), .http) ∧
     resolve true (toConfig (effective true ls)) { hdr with peer := some (mapped 0x0A010203) }
       = (some (mapped 0x0A010203), .http)) := by
  dsimp only
  repeat rw [String.toList_ofList]
  decide +kernel

end Settings

end Pithos.C32
