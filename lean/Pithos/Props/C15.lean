/-
C15 — every part store returns exactly the bytes it was given.

The property theorems, the two definitions `stack_asis_partial` is stated with (`upAll`, `TinkCondAll`) and
the toy instance that meets the hypotheses (`toyPrims_ok`, `toy_wf`). Models: `Pithos.Model.PartStore`,
`…ErasureCoding`, `…PartCodec`, `…OutboxRead`; helper lemmas: `Pithos.Lemmas.PartStore*`, `…ErasureCoding*`,
`…PartCodec`. The definitions of the specification (`StoreSpec`, the reference map `refNext`, `ObsOk`,
`Conforms`), `wrap_preserves` (one middleware) and `stack_correct_of` (the induction on the word) are in
`Pithos.Lemmas.PartStoreStack`.

`StoreSpec S`: the store `S` refines the reference map id ↦ bytes — `get ∘ put = id` on bytes for every
id and every content (the empty one included), `ids` = exactly the live ids without duplicates, a
deleted part reads as not found, with and without a transaction (`∀ tx`), under every interleaving of
the operations with the background worker (`tick`). `history_correct` spells this out for every
finite history. `stack_correct`: every word over the middleware alphabet, any depth, over a correct
base is correct — for the repaired code. For the code as it is the full statement is false (four
negation witnesses below); `stack_asis_partial` states what does hold, with the excluded triggers as
explicit restrictions.
-/
import Pithos.Lemmas.PartStoreStack
import Pithos.Model.PartStoreToy
import Pithos.Gen.OutboxRead

namespace Pithos.C15
open Pithos.Codec Pithos.PartStore

/-- **history_correct.** A store that meets the specification answers every finite history of
put / get / delete / list / flush (with or without a transaction, worker steps anywhere) exactly like
the reference map: every get returns the bytes of the last put of that id, or not-found after a
delete / before any put; every listing is the set of live ids, duplicate-free; nothing panics. -/
theorem history_correct {R : Restr} {S : Store} (spec : StoreSpecR R S) (ops : List Op)
    (ha : AdmissibleAll R (fun _ => none) ops) : Conforms (fun _ => none) ops (run S S.init ops) := by
  obtain ⟨sim⟩ := spec
  have h0 : sim.abs S.init = fun _ => none := funext sim.abs_init
  have := history_correct_from sim ops S.init sim.inv_init (by rw [h0]; exact ha)
  rw [h0] at this; exact this

theorem every_history_correct {S : Store} (spec : StoreSpec S) (ops : List Op) :
    Conforms (fun _ => none) ops (run S S.init ops) :=
  history_correct spec ops (admissible_full ops _)

/-- SQL rows (n = 256 000 000) and outbox rows (n = 8 MiB): for every row size — `n > 0` or not — and
every content, the rows glued together are the content. -/
theorem chunks_concat (n : Nat) (bs : Bytes) : concat (chunks n bs) = bs := concat_chunks n bs

/-- The empty content has no row at all — the case the SQL store does not handle. -/
theorem chunks_of_empty (n : Nat) : chunks n [] = [] := chunks_nil n

theorem chunks_rows_nonempty_and_bounded (n : Nat) (bs : Bytes) (hn : 0 < n) (x : Bytes) (hx : x ∈ chunks n bs) :
    x ≠ [] ∧ x.length ≤ n := chunks_mem n bs hn x hx

/-- Compression header: `parseHeader (newHeader a) = a` for every algorithm, whatever the checksum. -/
theorem compression_header_roundtrip (crc : Bytes → Nat) (a : Alg) : parseHeader crc (newHeader crc a) = some a :=
  parseHeader_newHeader crc a

/-- Compression header non-confusion: a stored stream always begins with a header that parses, whatever
the body is (so a stored stream is never taken for legacy unframed content), and the body is what
follows the header. -/
theorem compression_stored_stream_begins_with_header (crc : Bytes → Nat) (a : Alg) (body : Bytes) :
    (newHeader crc a ++ body).length ≥ headerSize ∧
    parseHeader crc ((newHeader crc a ++ body).take headerSize) = some a ∧
    (newHeader crc a ++ body).drop headerSize = body := stored_begins_with_header crc a body

/-- What `compression.GetPart` makes of what `compression.PutPart` stored: the content, whether or not
the sampling decided to compress. -/
theorem compression_roundtrip (P : Prims) (hP : CompressOK P) (alg : Alg) (halg : alg ≠ .none) (sample : Nat)
    (b : Bytes) (st : Stream) (hst : st.bytes = compressEncode P alg sample b) :
    ∃ st', compressDecode P st = .ok st' ∧ st'.bytes = b :=
  let ⟨st', h1, h2, _⟩ := compressDecode_encode P hP alg halg sample b st hst
  ⟨st', h1, h2⟩

/-- Erasure-coding stripes: for every `d ≥ 1` and every stripe content of every length, cutting into `d`
zero-padded shards and gluing them back (cut to `dataBytes`) is the identity. -/
theorem ec_unstripe_stripe (d : Nat) (x : Bytes) (hd : 0 < d) : unstripe x.length (stripe d x) = x :=
  unstripe_stripe x hd

/-- Erasure-coding frames: a written frame is read back exactly. -/
theorem ec_frame_roundtrip (H : Bytes → Bytes) (hH : ∀ x, (H x).length = 32) (j m : Nat) (p rest : Bytes)
    (hm1 : 1 ≤ m) (hm : m < 4294967296) (hp1 : 1 ≤ p.length) (hp : p.length < 4294967296) :
    EC.readFrame H j (EC.frame H j m p ++ rest) = .ok m p rest :=
  EC.readFrame_frame hH j rest ⟨hm1, hm, hp1, hp⟩

/-- Erasure coding end to end without faults: the shard streams written for a part read back as the
part — every content, every well-formed (d, p, stripe) — and nothing is healed. -/
theorem ec_roundtrip (c : EC.Cfg) (code : EC.Code) (H : Bytes → Bytes) (wf : EC.WF c code H) (fix : EC.Fix) (b : Bytes) :
    EC.read c code H fix ((List.range c.n).map fun k => some (EC.shardStream c code H k b))
      = .result ⟨b, false, List.replicate c.n none, []⟩ := EC.read_intact wf fix b

/-- **sql_asis_partial.** As the code is, the SQL store is correct for every content except the empty
one. -/
theorem sql_asis_partial : StoreSpecR ⟨fun b => b ≠ [], true, true⟩ (sqlStore Fixes.asIs) :=
  ⟨(sqlSim Fixes.asIs).weaken (fun _ hb => Or.inr hb) id id⟩

/-- Negation witness (sql.go as it is): put of the empty content, then get → not found; the id is not
listed either. Replayed on the implementation by directed case 0 of the harness. -/
theorem sql_asis_empty_part_lost :
    run (sqlStore Fixes.asIs) (sqlStore Fixes.asIs).init [.put true 0 [], .get true 0, .ids]
      = [.done, .got .notFound false, .ids []] := by
  decide +kernel

/-- **stack_correct.** For the repaired code: every word `ws` over the middleware alphabet
{compression(gzip|zstd, any sample size), tink, cache(any threshold), outbox, erasure coding(any
well-formed d, p, stripe)} — any length, any order, repetitions included — over a correct base store
is a correct store. -/
theorem stack_correct (P : Prims) (hP : PrimsOK P) (ws : List Mw) (hws : ∀ w ∈ ws, MwWF P w) (base : Store)
    (hb : StoreSpec base) : StoreSpec (ws.foldr (wrap P Fixes.repaired) base) :=
  stack_correct_of P hP _ repaired_ok ws hws base hb

/-- **stack_current_correct.** The same for the code as it is in /repo (`Fixes.current`: the three
repairs C15 needs are in, two further erasure-coding repairs are not and are not needed here): every word
over the alphabet over either base store is a correct store. -/
theorem stack_current_correct (P : Prims) (hP : PrimsOK P) (ws : List Mw) (hws : ∀ w ∈ ws, MwWF P w) (b : Base) :
    StoreSpec (stack P Fixes.current ws b) :=
  stack_correct_of P hP _ current_ok ws hws _ (base_correct _ current_ok b)

/-- … in particular over the filesystem store and over the (repaired) SQL store. -/
theorem stack_correct_over_bases (P : Prims) (hP : PrimsOK P) (ws : List Mw) (hws : ∀ w ∈ ws, MwWF P w) (b : Base) :
    StoreSpec (stack P Fixes.repaired ws b) :=
  stack_correct P hP ws hws _ (base_correct _ repaired_ok b)

/-- … and therefore answers every history like the reference map. -/
theorem stack_history_correct (P : Prims) (hP : PrimsOK P) (ws : List Mw) (hws : ∀ w ∈ ws, MwWF P w) (b : Base)
    (ops : List Op) :
    Conforms (fun _ => none) ops (run (stack P Fixes.repaired ws b) (stack P Fixes.repaired ws b).init ops) :=
  every_history_correct (stack_correct_over_bases P hP ws hws b) ops

def upAll (P : Prims) (F : Fixes) (ws : List Mw) (R : Restr) : Restr := ws.foldr (upRestr P F) R

/-- every tink layer of the word sits on a sub-stack with well-behaved streams -/
def TinkCondAll (P : Prims) (F : Fixes) : List Mw → Restr → Prop
  | [], _ => True
  | w :: ws, R => TinkCond F w (upAll P F ws R) ∧ TinkCondAll P F ws R

/-- **stack_asis_partial.** For the code as it is (and for any mixture of repairs `F`): every word over
the alphabet over a base that is correct for the histories `R` is correct for the histories
`upAll P F ws R` — i.e. excluding exactly: contents that reach the SQL store empty; reads of absent
parts through an (unrepaired) erasure-coding layer; an (unrepaired) tink layer directly above a
sequential tink reader. -/
theorem stack_asis_partial (P : Prims) (hP : PrimsOK P) (F : Fixes) (ws : List Mw) (hws : ∀ w ∈ ws, MwWF P w)
    (base : Store) (R : Restr) (ht : TinkCondAll P F ws R) (hb : StoreSpecR R base) :
    StoreSpecR (upAll P F ws R) (ws.foldr (wrap P F) base) := by
  induction ws with
  | nil => exact hb
  | cons w ws ih =>
    exact wrap_preserves P hP F w (hws w List.mem_cons_self) _ _ ht.1
      (ih (fun w' hw' => hws w' (List.mem_cons_of_mem _ hw')) ht.2)

theorem toyPrims_ok : PrimsOK toyPrims where
  compress := fun _ _ _ => rfl
  tink := ⟨fun r i b => by simp [toyPrims], fun r i b => by simp [toyPrims]⟩

theorem toy_wf (c : EC.Cfg) (h1 : 1 ≤ c.d) (h2 : c.n < 65536) (h3 : 1024 ≤ c.stripe) (h4 : c.stripe < 4294967296)
    (h5 : c.d * c.stripe < 4294967296) : EC.WF c toyPrims.code toyPrims.hash where
  d_pos := h1
  n_lt := h2
  stripe_ge := h3
  stripe_lt := h4
  stripeData_lt := h5
  hash_len := fun x => by simp [toyPrims, toyHash]
  parity_len := fun data L hl hx => by
    refine ⟨by simp [toyPrims, toyCode], fun x hxm => ?_⟩
    simp only [toyPrims, toyCode, List.mem_replicate] at hxm
    rw [hxm.2, List.length_map]
    cases data with
    | nil => simp at hl; omega
    | cons a t => exact hx a List.mem_cons_self

/-- The hypotheses of `stack_correct` are met by a concrete non-trivial instance: toy primitives and
the five-letter word cache ∘ outbox ∘ zstd ∘ tink ∘ EC(2+1, 1024). -/
example : StoreSpec (stack toyPrims Fixes.repaired
    [.cache 5000, .outbox, .compress .zstd 2048, .tink, .ec ⟨2, 1, 1024⟩] .sql) := by
  apply stack_correct_over_bases toyPrims toyPrims_ok
  intro w hw
  simp only [List.mem_cons, List.mem_nil_iff, or_false] at hw
  rcases hw with rfl | rfl | rfl | rfl | rfl
  · trivial
  · trivial
  · exact fun h => by cases h
  · trivial
  · exact toy_wf _ (by decide) (by decide) (by decide) (by decide) (by decide)

/-- Non-vacuity of `stack_asis_partial`: as the code is, compression over the SQL store is correct for
EVERY content (the stored stream begins with a header, so nothing reaches SQL empty). -/
example : StoreSpecR ⟨fun _ => True, true, true⟩ (stack toyPrims Fixes.asIs [.compress .gzip 2048] .sql) := by
  obtain ⟨sim⟩ := stack_asis_partial toyPrims toyPrims_ok Fixes.asIs [.compress .gzip 2048]
    (fun w hw => by simp at hw; subst hw; exact fun h => by cases h) _ _ ⟨trivial, trivial⟩ sql_asis_partial
  refine ⟨sim.weaken ?_ id id⟩
  intro b _
  show compressEncode toyPrims .gzip 2048 b ≠ []
  unfold compressEncode
  split <;> intro h <;> have := congrArg List.length h <;>
    simp [newHeader_length, headerSize] at this

/-- Negation witness (erasurecoding.go as it is): GetPart of a part that was never stored answers an
empty part instead of not-found, and the part is then listed. Directed case 1 of the harness. -/
theorem ec_asis_absent_part_readable :
    run (ecWrap toyPrims Fixes.asIs ⟨2, 1, 1024⟩ fsStore) (ecWrap toyPrims Fixes.asIs ⟨2, 1, 1024⟩ fsStore).init
        [.get true 0, .ids]
      = [.got (.ok ⟨[], false, []⟩) false, .ids [0]] := by
  decide +kernel

/-- Negation witness (tink.go as it is): two tink layers over a non-seekable store — every part fails
to read (the upper reader asks the lower one for more after EOF and gets its last segment again). -/
theorem double_tink_asis_unreadable :
    run (stack toyPrims Fixes.asIs [.tink, .tink] .sql) (stack toyPrims Fixes.asIs [.tink, .tink] .sql).init
        [.put true 0 [7], .get true 0]
      = [.done, .got .err false] := by
  decide +kernel

/-- Negation witness (erasurecoding.go over outbox.go as they are): a tx-free GetPart that has to heal
calls PutPart of the outbox shard stores with a nil transaction — a nil dereference. -/
theorem ec_over_outbox_heal_without_tx_panics :
    run (stack toyPrims Fixes.asIs [.ec ⟨2, 1, 1024⟩, .outbox] .fs) (stack toyPrims Fixes.asIs [.ec ⟨2, 1, 1024⟩, .outbox] .fs).init
        [.get false 0]
      = [.got (.ok ⟨[], false, []⟩) true] := by
  decide +kernel

/-! ## reads of the outbox store that race with commits and worker passes (statement level)

`StoreSpec` treats a read as one step (what a SQLite read transaction gives). Under statement-level
visibility the read is the program of `Pithos.OutboxRead`; its decisions are regenerated from outbox.go on
every run (`Pithos.Gen.OutboxRead`) and the real store is driven through divided reads
(`verifx.StaleRepo`, c15_race.go). "With or without a transaction" is part of C15's statement: both read
paths must be the same program. -/

section race
open OutboxRead

/-- **T1 obligation.** Both read paths, as they are in outbox.go: no entry → inner store; delete entry →
not found; the entry vanished before the second statement → RE-EVALUATE (`continue`); the same two
statements; at most `maxGetPartRaceRetries` rounds, then an error. -/
theorem extracted_read_paths_reevaluate :
    Gen.OutboxRead.txRead =
      [("lastEntry == nil", "serve-inner"), ("lastEntry.Operation == partOutboxEntry.DeletePartOperation", "not-found"),
       ("!entryExists", "retry"), ("firstChunk != nil", "stream-entry"), ("tail", "empty-part")] ∧
    Gen.OutboxRead.txFreeRead =
      [("lastEntry == nil", "serve-inner"), ("lastEntry.Operation == partOutboxEntry.DeletePartOperation", "not-found"),
       ("!entryExists", "retry"), ("firstChunk == nil", "empty-part"), ("tail", "stream-entry")] ∧
    Gen.OutboxRead.txReadLookups = ["FindLastPartOutboxEntryByPartId", "FindPartOutboxEntryChunkByIndexWithEntryPresence"] ∧
    Gen.OutboxRead.txFreeReadLookups = Gen.OutboxRead.txReadLookups ∧
    Gen.OutboxRead.txReadAfterLoop = "fail-vanished" ∧ Gen.OutboxRead.txFreeReadAfterLoop = "fail-vanished" ∧
    Gen.OutboxRead.maxGetPartRaceRetries = maxRetries :=
  ⟨rfl, rfl, rfl, rfl, rfl, rfl, rfl⟩

theorem extracted_on_vanished :
    onVanishedOf Gen.OutboxRead.txRead = .retry ∧ onVanishedOf Gen.OutboxRead.txFreeRead = .retry := by
  decide +kernel

/-- **with or without a transaction: the same read.** Under every interleaving of commits and worker
passes between the first statement and the rest, the read without a transaction returns what the read
with a transaction returns (the programs regenerated from the two paths are the same program). -/
theorem txfree_read_agrees_with_transactional_read (s : St) (evs : List Ev) :
    readSplit (onVanishedOf Gen.OutboxRead.txFreeRead) s evs = readSplit (onVanishedOf Gen.OutboxRead.txRead) s evs := by
  rw [extracted_on_vanished.1, extracted_on_vanished.2]

/-- **an undivided read returns what the part holds** (newest pending entry, else the inner store) -/
theorem plain_read_current (act : OnVanished) (s : St) : read act s = ofOpt s.abs :=
  rest_at_lookup_current act _ s

/-- **divided_read_current_at_an_end_partial** ("after a vanished entry the lookup is retried"). A read whose
first statement saw a pending entry and whose remaining statements run after arbitrary commits and worker
passes returns the value the part held at its first statement — or, when that entry has been flushed in
between, re-evaluates and returns the value the part holds at its end. (Partial: the case "first
statement saw no entry", where the inner store is read later, is tied and judged but not proved.) -/
theorem divided_read_current_at_an_end_partial (s : St) (evs : List Ev) (e : OutboxRead.Entry) (h : s.lookup = some e) :
    readSplit .retry s evs = ofOpt s.abs ∨ readSplit .retry s evs = ofOpt (s.run evs).abs := by
  have habs : s.abs = applyEntry s.inner e := by
    unfold St.abs; unfold St.lookup at h; rw [h]
  unfold readSplit
  rw [h, habs]
  -- the fuel: `maxRetries - 1 = 7` rounds for this read, 6 once it has looked the entry up again
  show rest .retry (7) (some e) (s.run evs) = _ ∨ _
  unfold rest
  cases hp : e.isPut with
  | false => left; simp [applyEntry, hp, ofOpt]
  | true =>
    simp only [Bool.not_true, Bool.false_eq_true, if_false]
    by_cases hq : (s.run evs).queue.any (·.seq == e.seq) = true
    · left; simp [hq, applyEntry, hp, ofOpt]
    · right
      simp only [hq, Bool.false_eq_true, if_false]
      exact rest_at_lookup_current .retry 6 (s.run evs)

/-- **Witness (what the seeded change C15-4 does).** The entry the reader saw is flushed, a newer put is
pending: a reader that serves the inner store instead of re-evaluating returns the older version, the
program of the code returns the newer one — the two read paths would disagree. -/
theorem serve_inner_misses_newer_pending_write :
    readSplit .serveInner (({} : St).apply (.put [1])) [.step, .put [2]] = .found [1] ∧
    readSplit .retry (({} : St).apply (.put [1])) [.step, .put [2]] = .found [2] ∧
    readSplit .serveInner (({} : St).apply (.put [1])) [.step, .del] = .found [1] ∧
    readSplit .retry (({} : St).apply (.put [1])) [.step, .del] = .notFound := by
  decide +kernel

end race

end Pithos.C15
