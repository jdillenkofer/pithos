/-
C11, tags of a *version* — PutObjectTagging / DeleteObjectTagging addressed by version id set exactly
the supplied tag set on exactly that version, and a tagging call (by key or by version id) changes
nothing else in the bucket: not the content, ETag, metadata, content type, storage class, version
ids, current-version flags or delete markers of any row.
-/
import Pithos.Lemmas.S3Resave

namespace Pithos.C11
open Pithos.S3

/-- **put_tagging_version_sets_exactly.** An acknowledged PutObjectTagging on the version `vid`
(the null version or a numbered one, current or not) makes GetObjectTagging of that version return
exactly the supplied set. Every state satisfying the row invariant, every quirk setting. -/
theorem put_tagging_version_sets_exactly (q : Quirks) (s s1 : State) (hinv : Inv s) (b k : String)
    (vid : Option Nat) (tags : Pairs) (hack : step q s (.putTags b k (some vid) tags) = (s1, .unit)) :
    (step q s1 (.getTags b k (some vid))).2 = .tags tags :=
  (getTags_resaved (.putTags b k (some vid) tags) hinv hack).elim fun _ h => h

/-- **delete_tagging_version_clears.** An acknowledged DeleteObjectTagging on the version `vid` makes
GetObjectTagging of that version return the empty set. -/
theorem delete_tagging_version_clears (q : Quirks) (s s1 : State) (hinv : Inv s) (b k : String)
    (vid : Option Nat) (hack : step q s (.delTags b k (some vid)) = (s1, .unit)) :
    (step q s1 (.getTags b k (some vid))).2 = .tags [] :=
  (getTags_resaved (.delTags b k (some vid)) hinv hack).elim fun _ h => h

/-- Everything about a row that a tagging call must not change. -/
def keepT (r : Row) :=
  (r.rowId, r.key, r.vid, r.latest, r.dm, r.content, r.etag, r.md, r.ct, r.cls)

/-- **tagging_changes_only_tags (whole bucket).** An acknowledged PutObjectTagging or
DeleteObjectTagging — by key or by version id — leaves, for every row of the bucket and in the same
order, the key, version id, current-version flag, delete-marker flag, content, ETag, metadata,
content type and storage class unchanged. -/
theorem tagging_changes_only_tags (q : Quirks) (s s1 : State) (hinv : Inv s) (b k : String)
    (vid : Option (Option Nat)) (op : Op)
    (hop : (∃ tags, op = .putTags b k vid tags) ∨ op = .delTags b k vid)
    (bk : Bucket) (hfb : findBucket s b = some bk) (hack : step q s op = (s1, .unit)) :
    ∃ bk1, findBucket s1 b = some bk1 ∧ bk1.rows.map keepT = bk.rows.map keepT := by
  have hk : ∀ (r : Row) (t : Pairs), keepT (touch q (s.clock + 1) { r with tags := t }) = keepT r := fun _ _ => by
    simp [keepT, touch, Row.content]
  rcases hop with ⟨tags, rfl⟩ | rfl
  · exact (Resaves.putTags b k vid tags).rows_map hinv hfb hack keepT fun r => hk r tags
  · exact (Resaves.delTags b k vid).rows_map hinv hfb hack keepT fun r => hk r []

/-- Non-vacuity: in a versioned bucket, tagging the noncurrent first version by its id succeeds and
is what GetObjectTagging of that version returns, while the current version keeps its own tags. -/
example :
    let s := (run Quirks.code {} [.mkb "b", .setVer "b" .enabled,
      .put "b" "k" [1] {} false .none, .put "b" "k" [2] {} false .none]).1
    (step Quirks.code s (.putTags "b" "k" (some (some 0)) [("a", "x")])).2 = .unit ∧
    (step Quirks.code (step Quirks.code s (.putTags "b" "k" (some (some 0)) [("a", "x")])).1
      (.getTags "b" "k" (some (some 0)))).2 = .tags [("a", "x")] ∧
    (step Quirks.code (step Quirks.code s (.putTags "b" "k" (some (some 0)) [("a", "x")])).1
      (.getTags "b" "k" none)).2 = .tags [] := by decide

end Pithos.C11
