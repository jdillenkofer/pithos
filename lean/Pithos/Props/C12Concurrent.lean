/-
C12 (concurrent half) — AppendObject does not lose concurrent appends.

Theorems about `Pithos.MetaFine`, the statement-level model of the optimistic-lock protocol (reads
and the guarded commit of every writer are separate atomic steps; schedules are arbitrary lists of
thread indices, so every interleaving of any number of writers is covered — no bound). Proofs:
`Pithos.Lemmas.MetaFine` (invariants by induction over schedules).

On SQLite none of these interleavings occurs (every storage call is one serialised write
transaction — `Pithos.C07.sqlite_write_transactions_serialised`, and the recorded concurrent
histories are checked for linearizability, signatures `C07.append.*`); the theorems say what the
version compare-and-swap guarantees on a database that runs write transactions concurrently.
-/
import Pithos.Lemmas.MetaFine
import Pithos.Gen.CondPaths

namespace Pithos.C12Concurrent
open Pithos.MetaFine

/-- **append_commit_exact.** Appenders (with or without write offset) racing with each other and
with putters/completers of non-empty objects (conditional or not), ARBITRARY interleavings: an
acknowledged append extended exactly the row that was current at its commit by exactly its own
part, the offset it reports is the size of that row, and a write offset it named equals that size. -/
theorem append_commit_exact (sz : PartId → Nat) (row : Option Cell) (nextId : Nat) (progs : List Prog) (sched : List Nat)
    (hid : ∀ c, row = some c → c.id < nextId) (hp : ∀ p ∈ progs, AppendOrPut p) (hf : Fresh row progs) :
    ∀ cm ∈ (exec sz (init row nextId progs) sched).log, ∀ new off, progs[cm.tid]? = some (.append new off) →
      partsOf cm.after = partsOf cm.before ++ [new] ∧
      (∃ t, (exec sz (init row nextId progs) sched).threads[cm.tid]? = some t ∧
        t.loc = .done (.okAt (sizeOf sz (partsOf cm.before)))) ∧
      (∀ n, off = some n → n = sizeOf sz (partsOf cm.before)) :=
  MetaFine.append_commit_exact sz row nextId progs sched hid hp hf

/-- **no_lost_append.** Any number of concurrent appenders, ARBITRARY interleavings of their reads
and compare-and-swap commits: the final content is the initial content followed by the acknowledged
appends in commit order; every acknowledged append occurs exactly once, at the offset it was
accepted for; an append that was not acknowledged does not occur at all. -/
theorem no_lost_append (sz : PartId → Nat) (row : Option Cell) (nextId : Nat) (progs : List Prog) (sched : List Nat)
    (hid : ∀ c, row = some c → c.id < nextId) (ha : ∀ p ∈ progs, ∃ new off, p = .append new off) (hf : Fresh row progs) :
    let s := exec sz (init row nextId progs) sched
    partsOf s.db.row = partsOf row ++ (s.log.flatMap fun cm => (progs[cm.tid]?.map Prog.news).getD []) ∧
    (∀ (i : Nat) (t : Thread) new off o, s.threads[i]? = some t → t.prog = .append new off → t.loc = .done (.okAt o) →
        (partsOf s.db.row).count new = 1 ∧ ∃ pre post, partsOf s.db.row = pre ++ new :: post ∧ sizeOf sz pre = o) ∧
    (∀ (i : Nat) (t : Thread) new off, s.threads[i]? = some t → t.prog = .append new off →
        (∀ o, t.loc ≠ .done (.okAt o)) → new ∉ partsOf s.db.row) :=
  MetaFine.no_lost_append sz row nextId progs sched hid ha hf

/-- The history of the row is the chain of the logged commits (nothing changes the row silently),
and every writer commits at most once. -/
theorem row_history_is_the_log (sz : PartId → Nat) (row : Option Cell) (nextId : Nat) (progs : List Prog) (sched : List Nat) :
    Chain row (exec sz (init row nextId progs) sched).log (exec sz (init row nextId progs) sched).db.row ∧
    ((exec sz (init row nextId progs) sched).log.map (·.tid)).Nodup :=
  have h := (invB_init row nextId progs).exec sz sched
  ⟨h.chain, h.nodup⟩

/-- Negation witness — why `append_commit_exact` excludes deleters (the protocol as it is, OFF
SQLite only): between the storage layer's read and the metadata store's read of an appender the
object is deleted; the appender finds no row, inserts a new one holding the OLD part list plus its
own part and is acknowledged at the old size — it re-creates deleted content (whose parts the
delete has released). The metadata store's own read is not compared with the storage layer's. -/
theorem append_resurrects_deleted_object :
    let s := exec (fun _ => 1) (init (some ⟨0, 1, [1]⟩) 1 [.append 2 none, .del none]) [0, 1, 1, 0, 0]
    s.db.row = some ⟨1, 1, [1, 2]⟩ ∧ s.threads.map (·.loc) = [.done (.okAt 1), .done .ok] := by
  decide

/-- … and the same hole with an upload without parts completed in between (an object with an empty
part list is a prefix of every list): the append is acknowledged at offset 1 although the object
it extended at its commit was empty. -/
theorem append_over_empty_replacement :
    let s := exec (fun _ => 1) (init (some ⟨0, 1, [1]⟩) 1 [.append 2 none, .put [] .none]) [0, 1, 1, 0, 0, 0]
    s.db.row = some ⟨0, 4, [1, 2]⟩ ∧ s.threads.map (·.loc) = [.done (.okAt 1), .done .ok] := by
  decide

/-- The append path WITHOUT the prefix check (what the metadata store would do if the comparison of
the existing part rows with the supplied list were skipped or made to depend on a request option):
read 3 records the part rows but accepts any list. -/
def stepThreadNoPrefix (sz : PartId → Nat) (tid : Nat) (d : Db) (t : Thread) : Db × Loc × Option Commit :=
  match t.prog, t.loc with
  | .append _ _, .r2 c1 (some sc) =>
    let p3 := match d.row with
      | some r => if r.id == sc.id then r.parts else []
      | none => []
    (d, .r3 c1 sc p3, none)
  | _, _ => stepThread sz tid d t

def stepNoPrefix (sz : PartId → Nat) (s : State) (i : Nat) : State :=
  match s.threads[i]? with
  | none => s
  | some t =>
    let (d', l', c) := stepThreadNoPrefix sz i s.db t
    { db := d', threads := setThread s.threads i l', log := s.log ++ c.toList }

def execNoPrefix (sz : PartId → Nat) (s : State) (sched : List Nat) : State := sched.foldl (stepNoPrefix sz) s

/-- Negation witness — why the prefix check must be UNCONDITIONAL (T1 obligation
`Pithos.C07.extracted_append_path_locks_the_row_it_read`): appender 0 takes its storage-layer snapshot
[1]; appender 1 appends 3 and commits; appender 0 re-reads the row (fresh version, so the
compare-and-swap will pass), skips the prefix check and commits the list built from its stale
snapshot: both appends are acknowledged at offset 1 and part 2 is nowhere. With the check (the model
as it is) appender 0 is refused on the same schedule. -/
theorem append_without_prefix_check_is_lost :
    let progs : List Prog := [.append 2 none, .append 3 none]
    let sched := [0, 1, 1, 1, 1, 0, 0, 0]
    (execNoPrefix (fun _ => 1) (init (some ⟨0, 1, [1]⟩) 1 progs) sched).db.row = some ⟨0, 3, [1, 3]⟩ ∧
    (execNoPrefix (fun _ => 1) (init (some ⟨0, 1, [1]⟩) 1 progs) sched).threads.map (·.loc)
      = [.done (.okAt 1), .done (.okAt 1)] ∧
    (exec (fun _ => 1) (init (some ⟨0, 1, [1]⟩) 1 progs) sched).db.row = some ⟨0, 2, [1, 3]⟩ ∧
    (exec (fun _ => 1) (init (some ⟨0, 1, [1]⟩) 1 progs) sched).threads.map (·.loc)
      = [.done .internal, .done (.okAt 1)] := by
  decide +kernel

/-- T1 (regenerated by the `condpaths` extractor): the metadata store's AppendObject takes its
guarded update with the version of the very row whose part rows it read, compares those part rows
with the supplied list as a prefix, and NOTHING else (no request option) decides whether that
comparison applies. -/
theorem append_path_prefix_check_is_unconditional :
    ∃ p ∈ Gen.CondPaths.condPaths, p.fn = "AppendObject" ∧ p.kind = "append" ∧
      p.lockVersionGen.isSome = true ∧ p.lockVersionGen = p.partsReadGen ∧ p.lockEntityGen = p.lockVersionGen ∧
      p.prefixChecked = true ∧ p.prefixCheckUnconditional = true := by
  decide +kernel

/-- Non-vacuity: two appenders that meet every hypothesis; one wins, the other loses the version
race (InvalidWriteOffset) and leaves no trace. -/
example :
    (∀ p ∈ [Prog.append 2 none, .append 3 none], AppendOrPut p) ∧
    Fresh (some ⟨0, 1, [1]⟩) [.append 2 none, .append 3 none] ∧
    (exec (fun _ => 1) (init (some ⟨0, 1, [1]⟩) 1 [.append 2 none, .append 3 none]) [0, 0, 0, 1, 1, 1, 0, 1]).db.row
      = some ⟨0, 2, [1, 2]⟩ ∧
    (exec (fun _ => 1) (init (some ⟨0, 1, [1]⟩) 1 [.append 2 none, .append 3 none]) [0, 0, 0, 1, 1, 1, 0, 1]).threads.map (·.loc)
      = [.done (.okAt 1), .done .invalidOffset] := by
  refine ⟨by simp [AppendOrPut], ⟨by decide, by decide⟩, by decide, by decide⟩

end Pithos.C12Concurrent
