/-
C02 — versioning: every live version stays addressable and the latest is the newest.

Theorems about the storage model `Pithos.S3` (tied to /repo by the differential harness `s3h`).
-/
import Pithos.Lemmas.S3Newest
import Pithos.Lemmas.S3Edit
import Pithos.Props.C01

namespace Pithos.C02
open Pithos.S3

/-- **reachable_one_latest.** After any finite history, under any quirk setting, every key of every
bucket has at most one row flagged `latest`: "the current version" is well defined. -/
theorem reachable_one_latest (q : Quirks) (ops : List Op) :
    ∀ bk ∈ (run q {} ops).1.buckets, ∀ k, lc bk.rows k ≤ 1 :=
  fun bk hbk k => (C01.reachable_inv q ops bk hbk).one k

/-- **latest_is_newest.** With the reference promotion rule (`promoteByCreated = false`; every other
switch arbitrary) the current version of a key is, after ANY history, the most recently written
version of that key that still exists: its write sequence number is the greatest among the key's
rows (versions and delete markers). -/
theorem latest_is_newest (q : Quirks) (hq : q.promoteByCreated = false) (ops : List Op) :
    ∀ bk ∈ (run q {} ops).1.buckets, ∀ r ∈ bk.rows, r.latest = true →
      ∀ r' ∈ bk.rows, r'.key = r.key → r'.wrote ≤ r.wrote :=
  fun bk hbk => ((reachable_winv q hq ops).2 bk hbk).max

/-- The version GET returns is that newest one: whatever `get b k` (no version id) answers in a
reachable state is the view of a row whose write sequence number dominates its key's rows. -/
theorem get_returns_newest (q : Quirks) (hq : q.promoteByCreated = false) (ops : List Op) (b k : String) (v : ObjView)
    (hget : (step q (run q {} ops).1 (.get b k none)).2 = .obj v) :
    ∃ bk r, findBucket (run q {} ops).1 b = some bk ∧ r ∈ bk.rows ∧ v = viewOf r ∧ r.key = k ∧
      ∀ r' ∈ bk.rows, r'.key = k → r'.wrote ≤ r.wrote := by
  obtain ⟨bk, r, hf, hres, rfl⟩ := get_obj hget
  obtain ⟨hr, hk, hlat⟩ := latestRow_some (resolve_none_ok.1 hres).1
  exact ⟨bk, r, hf, hr, rfl, hk, fun r' hr' hk' =>
    latest_is_newest q hq ops bk (findBucket_mem hf) r hr hlat r' hr' (by rw [hk', hk])⟩

/-- **Negation witness for the code as it is** (`Quirks.code`, promotion by `created_at`): the null
version is written, a version v0 is written, the null version is overwritten in place (keeping its
old `created_at`), v1 is written and deleted again — the code makes v0 current although the null
version was written after it. The reference rule answers with the null version. This history is
directed case 1 of the harness (known finding C02.quirk.promoteByCreated). -/
def witnessOps : List Op :=
  [.mkb "b", .put "b" "k" [0] {} false .none, .setVer "b" .enabled, .put "b" "k" [1] {} false .none,
   .setVer "b" .suspended, .put "b" "k" [2] {} false .none, .setVer "b" .enabled, .put "b" "k" [3] {} false .none,
   .del "b" "k" (some (some 1)) .none]

theorem code_promotes_older_version :
    (match (step Quirks.code (run Quirks.code {} witnessOps).1 (.get "b" "k" none)).2 with
     | .obj v => v.body | _ => []) = [1] ∧
    (match (step Quirks.none (run Quirks.none {} witnessOps).1 (.get "b" "k" none)).2 with
     | .obj v => v.body | _ => []) = [2] := by
  decide

/-- …so `latest_is_newest` is false for `Quirks.code`. -/
theorem latest_is_newest_fails_for_code :
    ¬ (∀ bk ∈ (run Quirks.code {} witnessOps).1.buckets, ∀ r ∈ bk.rows, r.latest = true →
      ∀ r' ∈ bk.rows, r'.key = r.key → r'.wrote ≤ r.wrote) := by
  decide

/-- Non-vacuity of `get_returns_newest`: the witness history under the reference rule does reach a
state in which GET answers an object. -/
example : (match (step Quirks.none (run Quirks.none {} witnessOps).1 (.get "b" "k" none)).2 with
    | .obj _ => true | _ => false) = true := by
  decide

/-- After any finite history (append behaviour since /repo 8a5dc41) version ids identify rows: in
every bucket the (key, version id) pairs are pairwise distinct — the null version included — and
every generated version id is below the allocation counter. -/
theorem reachable_vinv (q : Quirks) (hq : q.appendLatestInPlace = false) (ops : List Op) :
    Inv (run q {} ops).1 ∧ VInv (run q {} ops).1 :=
  (vrows_closed hq).reachable ops

/-- **version_addressable.** In every reachable state, every stored version that is an object — a
ULID version or the null version, current or not — is returned by GET and HEAD with its own
version id: exactly that version's bytes, size, ETag, metadata. A delete marker addressed by its
id answers MethodNotAllowed. No version is ever shadowed by another row of the same id. -/
theorem version_addressable (q : Quirks) (hq : q.appendLatestInPlace = false) (ops : List Op) (b : String)
    (bk : Bucket) (r : Row) (hfb : findBucket (run q {} ops).1 b = some bk) (hr : r ∈ bk.rows) :
    (step q (run q {} ops).1 (.get b r.key (some r.vid))).2 = (if r.dm then .err .methodNotAllowed else .obj (viewOf r)) ∧
    (step q (run q {} ops).1 (.head b r.key (some r.vid))).2 = (if r.dm then .err .methodNotAllowed else .obj (viewOf r)) := by
  obtain ⟨_, hv⟩ := reachable_vinv q hq ops
  have hrow := rowByVid_of_mem (hv bk (findBucket_mem hfb)) hr
  rw [step_head, step_get, hfb]
  simp only [resolve, hrow]
  by_cases hd : r.dm = true <;> simp [hd]

/-- Non-vacuity: three versions of one key (one of them the null version) are all addressable. -/
example :
    let s := (run Quirks.code {} [.mkb "b", .put "b" "k" [1] {} false .none, .setVer "b" .enabled,
      .put "b" "k" [2] {} false .none, .put "b" "k" [3] {} false .none]).1
    ((step Quirks.code s (.get "b" "k" (some none))).2 matches .obj { body := [1], .. }) ∧
    ((step Quirks.code s (.get "b" "k" (some (some 0)))).2 matches .obj { body := [2], .. }) ∧
    ((step Quirks.code s (.get "b" "k" (some (some 1)))).2 matches .obj { body := [3], .. }) := by
  decide

end Pithos.C02
