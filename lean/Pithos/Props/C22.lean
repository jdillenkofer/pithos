/-
C22 — event notifications are emitted exactly for committed mutations.

Property theorems about `Pithos.Notify` (tied to internal/storage/notification by the harness
c22.go and by the regenerated table `Pithos.Gen.NotifyOverrides`), against `Pithos.NotifyS3`.
All theorems are for every rule set, every event, every fault, every publish-outcome script of any
length; none carries a bound.
The rule matcher (`matcher_spec`: `ruleMatches` selects exactly what S3's rule semantics select) is
in `Pithos.Lemmas.Notify`, since the rows of one event (`mem_entriesFor`) rest on it;
the trace of a dispatcher run (`runScript_spec`) and the invariant of `dstep` (`Bounded`) are there too.

Partial (named honestly):
* the interleaving of SEVERAL dispatchers on one outbox (claim lease, version CAS) is not modelled —
  the dispatcher theorems are about one entry, which is what the differential run exercises; a crashed
  worker or an expired lease appears there as a report that never lands (`DStep.lose`; `bounded_retries`);
* `AppendObject` is not overridden by the middleware (`appendObject_not_covered`), so
  `mutators_covered_partial` excludes it.
-/
import Pithos.Lemmas.Notify
import Pithos.Gen.NotifyOverrides

namespace Pithos.C22
open Pithos.Notify Pithos.NotifyS3

/-- every override reaches the inner storage only inside the closure run by runWithNotifications -/
theorem overridden_go_through_runWithNotifications :
    ∀ m ∈ Gen.NotifyOverrides.overridden, m ∈ Gen.NotifyOverrides.viaRunWithNotifications :=
  -- the two regenerated lists are the same, literal by literal
  fun _ h => (rfl : Gen.NotifyOverrides.viaRunWithNotifications = Gen.NotifyOverrides.overridden) ▸ h

/-- runWithNotifications opens ONE transaction on the middleware's database handle and runs the
mutation and then the enqueue inside it; the enqueue saves through that transaction. Together
with the run-time premise "the storage below uses the same database handle" (trace line
`shared 1`) this is the shared-transaction premise of `entry_iff_committed`. -/
theorem shared_transaction_shape :
    Gen.NotifyOverrides.runWithNotificationsShape =
      ["database.WithTx", "m.db", "mutate(ctx)", "m.enqueueEvents(ctx, tx, events)"] ∧
    Gen.NotifyOverrides.enqueueSaves = Gen.NotifyOverrides.enqueueSavesInTx ∧
    0 < Gen.NotifyOverrides.enqueueSaves :=
  ⟨rfl, rfl, by decide⟩

/-- the storage methods that change what a reader of an object sees and stand for an S3 event -/
def s3EventMutators : List String :=
  ["PutObject", "CopyObject", "CompleteMultipartUpload", "AppendObject", "DeleteObject", "DeleteObjects",
   "PutObjectTagging", "DeleteObjectTagging"]

theorem s3EventMutators_are_storage_methods :
    ∀ m ∈ s3EventMutators, m ∈ Gen.NotifyOverrides.storageMethods := by decide +kernel

/-- **mutators_covered_partial.** Every such mutator except AppendObject is overridden. -/
theorem mutators_covered_partial :
    ∀ m ∈ s3EventMutators, m ≠ "AppendObject" → m ∈ Gen.NotifyOverrides.overridden := by decide +kernel

/-- negation witness: AppendObject (creates or extends an object) falls through to the delegator,
so no outbox entry is ever written for it (replayed: harness case 4). -/
theorem appendObject_not_covered :
    "AppendObject" ∈ Gen.NotifyOverrides.storageMethods ∧ "AppendObject" ∉ Gen.NotifyOverrides.overridden := by decide +kernel

/-- **entry_iff_committed.** With mutation and outbox inserts in one transaction, for every fault
point — the mutation fails, the i-th insert fails, the commit fails, nothing fails — the rows of
the attempt that exist afterwards are exactly the demanded ones if the mutation committed and none
otherwise; and the caller is told `ok` exactly when it committed. -/
theorem entry_iff_committed (rows : List Row) (f : Fault) :
    (attempt true rows f).rows = (if (attempt true rows f).committed then rows else []) ∧
    (attempt true rows f).ok = (attempt true rows f).committed := by
  cases f with
  | none => simp [attempt]
  | mutationFails => simp [attempt]
  | commitFails => simp [attempt]
  | insertFails i =>
    by_cases h : i < rows.length <;> simp [attempt, h]

/-- … in terms of rules: a row exists iff the mutation committed and a rule OF THE EVENT'S BUCKET
selects one of its events (or that bucket has EventBridge enabled); the row names that bucket and key -/
theorem entry_iff_committed_and_selected (cfgOf : Str → Config) (es : List Event) (f : Fault) (row : Row) :
    row ∈ (attempt true (entriesForAll cfgOf es) f).rows ↔
      (attempt true (entriesForAll cfgOf es) f).committed = true ∧
      ∃ e ∈ es, (∃ r ∈ (cfgOf e.bucket).rules, Selects r e ∧ row = { dest := r.dest, event := e.name, bucket := e.bucket, key := e.key }) ∨
                ((cfgOf e.bucket).eventBridge = true ∧ row = { dest := eventBridgeDest e.bucket, event := e.name, bucket := e.bucket, key := e.key }) := by
  rw [(entry_iff_committed _ f).1]
  cases hc : (attempt true (entriesForAll cfgOf es) f).committed with
  | false => simp
  | true =>
    simp only [if_true, true_and, entriesForAll, List.mem_flatMap, mem_entriesFor]

/-- the whole outbox after any history of attempts is the concatenation of the demanded rows of
the committed ones -/
theorem outbox_eq_demanded (cfgOf : Str → Config) (ops : List (List Event × Fault)) :
    (ops.flatMap fun op => (attempt true (entriesForAll cfgOf op.1) op.2).rows) =
    (ops.flatMap fun op => op.1.flatMap (demanded cfgOf (attempt true (entriesForAll cfgOf op.1) op.2).committed)) := by
  congr 1
  funext op
  rw [(entry_iff_committed _ op.2).1]
  unfold demanded
  cases (attempt true (entriesForAll cfgOf op.1) op.2).committed with
  | true => simp [entriesForAll]
  | false => simp

/-- **event_addressed_to_mutated_bucket.** For every call except AppendObject the events the
middleware builds are exactly the spec's: one per mutated object, named after the mutation, and
carrying the bucket and key of the object that was MUTATED — for a copy its destination, never its
source. The bucket of the event is both the notification configuration consulted
(`entriesForAll`) and the bucket named in the payload. -/
theorem event_addressed_to_mutated_bucket (c : Call) (h : ∀ t, c ≠ .append t) :
    codeEvents c = specEvents c := by
  cases c with
  | put t => rfl
  | copy src dst => rfl
  | complete t => rfl
  | delete t m => cases m <;> rfl
  | deleteObjects b ks refused =>
    simp only [codeEvents, specEvents, mutated, List.map_map]
    apply List.map_congr_left
    intro k _
    cases hk : k.2 <;> simp [removedName, eventName, hk]
  | tagPut t => rfl
  | tagDel t => rfl
  | append t => exact absurd rfl (h t)

/-- … hence every outbox row of a call names a mutated object of that call, carries the event name
of that mutation, and was selected by the configuration of THAT object's bucket -/
theorem rows_belong_to_the_mutated_bucket (cfgOf : Str → Config) (c : Call) (row : Row)
    (h : row ∈ entriesForAll cfgOf (codeEvents c)) :
    ∃ mt ∈ mutated c, row.bucket = mt.2.bucket ∧ row.key = mt.2.key ∧ row.event = eventName mt.1 ∧
      ((∃ r ∈ (cfgOf mt.2.bucket).rules, Selects r { name := eventName mt.1, bucket := mt.2.bucket, key := mt.2.key } ∧ row.dest = r.dest) ∨
       ((cfgOf mt.2.bucket).eventBridge = true ∧ row.dest = eventBridgeDest mt.2.bucket)) := by
  have hne : ∀ t, c ≠ .append t := by
    intro t ht
    subst ht
    simp [codeEvents, entriesForAll] at h
  rw [event_addressed_to_mutated_bucket c hne] at h
  simp only [entriesForAll, specEvents, List.mem_flatMap, List.mem_map] at h
  obtain ⟨e, ⟨mt, hmt, rfl⟩, hrow⟩ := h
  rw [mem_entriesFor] at hrow
  refine ⟨mt, hmt, ?_⟩
  rcases hrow with ⟨r, hr, hs, rfl⟩ | ⟨heb, rfl⟩
  · exact ⟨rfl, rfl, rfl, Or.inl ⟨r, hr, hs, rfl⟩⟩
  · exact ⟨rfl, rfl, rfl, Or.inr ⟨heb, rfl⟩⟩

/-- **refused_batch_entries_emit_nothing.** In a bulk delete every outbox row names one of the keys
the storage reported as deleted; an entry it refused (stale If-Match ETag, If-Match on a missing
key) leaves its object in place and gets no ObjectRemoved row — whatever the rules. -/
theorem refused_batch_entries_emit_nothing (cfgOf : Str → Config) (b : Str) (ks : List (Str × Bool))
    (refused : List Str) (row : Row) (h : row ∈ entriesForAll cfgOf (codeEvents (.deleteObjects b ks refused))) :
    row.bucket = b ∧ row.key ∈ ks.map (·.1) := by
  obtain ⟨mt, hmt, hb, hk, _⟩ := rows_belong_to_the_mutated_bucket cfgOf _ row h
  simp only [mutated, List.mem_map] at hmt
  obtain ⟨k, hkin, rfl⟩ := hmt
  exact ⟨hb, by rw [hk]; exact List.mem_map.2 ⟨k, hkin, rfl⟩⟩

/-- a cross-bucket copy never produces a row for its source bucket (unless source = destination) -/
theorem copy_rows_name_destination (cfgOf : Str → Config) (src dst : Target) (row : Row)
    (h : row ∈ entriesForAll cfgOf (codeEvents (.copy src dst))) :
    row.bucket = dst.bucket ∧ row.key = dst.key := by
  obtain ⟨mt, hmt, hb, hk, _⟩ := rows_belong_to_the_mutated_bucket cfgOf _ row h
  simp only [mutated, List.mem_singleton] at hmt
  subst hmt
  exact ⟨hb, hk⟩

/-- negation witness for the best-effort mode (storage on a DIFFERENT database handle): the insert
fails after the mutation has committed on its own — a committed mutation without its row. -/
theorem split_transaction_breaks_atomicity (r : Row) :
    (attempt false [r] (.insertFails 0)).committed = true ∧ (attempt false [r] (.insertFails 0)).rows = [] := by
  simp [attempt]

/-- **backoff_bounds.** The scheduled delay lies within the configured limits, equals
`min·2^(n−1)` as long as that does not exceed the maximum, and never decreases. -/
theorem backoff_bounds (c : DCfg) (h : c.minBackoff ≤ c.maxBackoff) (n : Nat) :
    c.minBackoff ≤ backoff c n ∧ backoff c n ≤ c.maxBackoff ∧
    (c.minBackoff * 2 ^ (n - 1) ≤ c.maxBackoff → backoff c n = c.minBackoff * 2 ^ (n - 1)) := by
  have hge : c.minBackoff ≤ c.minBackoff * 2 ^ (n - 1) := Nat.le_mul_of_pos_right _ Nat.one_le_two_pow
  rw [backoff_eq_min]
  omega

theorem backoff_mono (c : DCfg) (n m : Nat) (h : n ≤ m) : backoff c n ≤ backoff c m := by
  have hp : 2 ^ (n - 1) ≤ 2 ^ (m - 1) := Nat.pow_le_pow_right (by decide) (by omega)
  have hm : c.minBackoff * 2 ^ (n - 1) ≤ c.minBackoff * 2 ^ (m - 1) := Nat.mul_le_mul_left _ hp
  rw [backoff_eq_min, backoff_eq_min]
  omega

/-- **backoff_saturates.** However long an outage lasts: from attempt `MaxBackoff + 2` on (with a
positive minimum) the delay is exactly MaxBackoff — it never wraps, shrinks or leaves the bounds,
for every attempt count (the model is over `Nat`; the implementation's float64 / int64 path is
compared with it by the tie for attempt counts up to 1100, beyond 2^63 ns and beyond +Inf). -/
theorem backoff_saturates (c : DCfg) (hmin : 0 < c.minBackoff) (n : Nat) (hn : c.maxBackoff + 2 ≤ n) :
    backoff c n = c.maxBackoff := by
  have h1 : n - 1 < 2 ^ (n - 1) := Nat.lt_two_pow_self
  have h2 : 2 ^ (n - 1) ≤ c.minBackoff * 2 ^ (n - 1) := Nat.le_mul_of_pos_left _ hmin
  rw [backoff_eq_min]
  omega

/-- **scheduled_delays_within_bounds.** Every backoff any run schedules — from any attempt count
`a`, however large, with or without lost reports — lies in [MinBackoff, MaxBackoff]
(`delay = 0` marks a publish after which nothing is scheduled). -/
theorem scheduled_delays_within_bounds (c : DCfg) (h : c.minBackoff ≤ c.maxBackoff) (a : Nat) (os : List PubOutcome) :
    ∀ q ∈ (runOutcomes c a os).2, q.delay = 0 ∨ (c.minBackoff ≤ q.delay ∧ q.delay ≤ c.maxBackoff) := by
  induction os generalizing a with
  | nil => exact fun _ hq => nomatch hq
  | cons o rest ih =>
    -- one publish, scheduling nothing or the backoff of its attempt, then the rest of the run
    have hb := backoff_bounds c h (a + 1)
    cases o with
    | ok => exact List.forall_mem_cons.2 ⟨.inl rfl, fun _ hq => nomatch hq⟩
    | fail =>
      simp only [runOutcomes]
      split
      · exact List.forall_mem_cons.2 ⟨.inl rfl, fun _ hq => nomatch hq⟩
      · exact List.forall_mem_cons.2 ⟨.inr ⟨hb.1, hb.2.1⟩, ih (a + 1)⟩
    | okLost => exact List.forall_mem_cons.2 ⟨.inl rfl, ih (a + 1)⟩
    | failLost => exact List.forall_mem_cons.2 ⟨.inl rfl, ih (a + 1)⟩

/-- **deadletter_after_max.** A fresh entry is dead-lettered only with MaxAttempts configured,
after exactly MaxAttempts publishes, all of them failed — never earlier — and whatever outcomes
would follow are not consumed: it is never retried afterwards. -/
theorem deadletter_after_max (c : DCfg) (script : List Bool) (h : (runScript c 0 script).1 = .dead) :
    c.maxAttempts > 0 ∧ (runScript c 0 script).2.length = c.maxAttempts ∧
    (∀ q ∈ (runScript c 0 script).2, q.ok = false) ∧
    ∀ more, runScript c 0 (script ++ more) = runScript c 0 script := by
  obtain ⟨n, hlim, ⟨_, hp⟩ | hd | ⟨h0, h1, hd⟩⟩ := runScript_spec c 0 script
  · rw [hp] at h; cases h
  · rw [← List.append_nil script, hd []] at h; cases h
  · have hs := List.append_nil script ▸ hd []
    refine ⟨h0, ?_, ?_, fun more => (hd more).trans hs.symm⟩
    · rw [hs, List.length_append, length_fails, List.length_singleton]; omega
    · rw [hs]
      exact fun q hq => (List.mem_append.1 hq).elim ok_of_mem_fails fun hq => List.mem_singleton.1 hq ▸ rfl

/-- a delivered entry is likewise never published again -/
theorem delivered_is_final (c : DCfg) (script more : List Bool) (h : (runScript c 0 script).1 = .delivered) :
    runScript c 0 (script ++ more) = runScript c 0 script :=
  runScript_append_of_settled c 0 script more (by intro k hk; rw [h] at hk; cases hk)

/-- **delivered_at_least_once_or_deadlettered.** There is no stuck state: after any sequence of
publish outcomes an entry is delivered (exactly one successful publish, the last), dead-lettered,
or pending with a finite next attempt (`backoff` of its attempt count, which `backoff_bounds`
bounds by MaxBackoff) — and with MaxAttempts configured it cannot stay pending for MaxAttempts
outcomes: it is settled after at most MaxAttempts publishes. -/
theorem delivered_at_least_once_or_deadlettered (c : DCfg) (script : List Bool) :
    ((runScript c 0 script).1 = .delivered ∧
        ∃ pre p, (runScript c 0 script).2 = pre ++ [p] ∧ p.ok = true ∧ ∀ q ∈ pre, q.ok = false) ∨
    (runScript c 0 script).1 = .dead ∨
    ((runScript c 0 script).1 = .pending script.length ∧ (c.maxAttempts = 0 ∨ script.length < c.maxAttempts)) := by
  obtain ⟨n, hlim, ⟨hn, hp⟩ | hd | ⟨_, _, hd⟩⟩ := runScript_spec c 0 script
  · rw [hp, ← hn, Nat.zero_add]
    exact .inr (.inr ⟨rfl, by omega⟩)
  · rw [← List.append_nil script, hd []]
    exact .inl ⟨rfl, _, _, rfl, rfl, fun _ => ok_of_mem_fails⟩
  · rw [← List.append_nil script, hd []]
    exact .inr (.inl rfl)

/-- settled within MaxAttempts publishes -/
theorem settles_within_max (c : DCfg) (script : List Bool) (hm : c.maxAttempts > 0)
    (hl : c.maxAttempts ≤ script.length) :
    (runScript c 0 script).1 = .delivered ∨ (runScript c 0 script).1 = .dead := by
  rcases delivered_at_least_once_or_deadlettered c script with h | h | ⟨_, h⟩
  · exact Or.inl h.1
  · exact Or.inr h
  · omega

/-- **bounded_retries.** For EVERY schedule of claims, reports and lost reports (worker crashes
between claim and report, lease expiry, failing ReleaseClaim / DeadLetter / Delete updates), from
any starting attempt count `a₀` (a lowered MaxAttempts): an entry that is not yet terminal has
`attempts ≤ max (MaxAttempts − 1) a₀ + lost + 1`. With no lost report and a fresh entry this is
`attempts ≤ MaxAttempts`: the attempt counter never passes the bound without the entry being
terminal, except by one per report that was lost. -/
theorem bounded_retries (c : DCfg) (hM : c.maxAttempts > 0) (a0 : Nat) (steps : List DStep) :
    ((drun c { phase := .pending, attempts := a0, lost := 0 } steps).phase = .pending ∨
     (drun c { phase := .pending, attempts := a0, lost := 0 } steps).phase = .claimed) →
    (drun c { phase := .pending, attempts := a0, lost := 0 } steps).attempts ≤
      max (c.maxAttempts - 1) a0 + (drun c { phase := .pending, attempts := a0, lost := 0 } steps).lost + 1 := by
  have h0 : Bounded c a0 { phase := .pending, attempts := a0, lost := 0 } :=
    ⟨fun _ => Nat.le_max_right _ _, Nat.le_succ_of_le (Nat.le_max_right _ _)⟩
  exact fun _ => (List.foldlRecOn steps (dstep c) h0 fun st h x _ => bounded_step c hM a0 st x h).2

/-- **exhausted_failure_is_terminal.** A reported failure of an attempt numbered MaxAttempts or
higher dead-letters the entry — also when the counter has moved PAST MaxAttempts (after a crash on
the last permitted attempt, a failed DeadLetter update, or a lowered MaxAttempts). -/
theorem exhausted_failure_is_terminal (c : DCfg) (hM : c.maxAttempts > 0) (st : DState)
    (hc : st.phase = .claimed) (ha : c.maxAttempts ≤ st.attempts) :
    (dstep c st .reportFail).phase = .dead := by
  simp [dstep, hc, hM, ha]

/-- delivered and dead are absorbing: no step publishes, releases or re-claims such an entry -/
theorem terminal_is_absorbing (c : DCfg) (st : DState) (step : DStep)
    (h : st.phase = .delivered ∨ st.phase = .dead) : dstep c st step = st := by
  rcases h with h | h <;> cases step <;> simp [dstep, h]

/-- `runOutcomes` without lost reports is `runScript` -/
theorem runOutcomes_eq_runScript (c : DCfg) (a : Nat) (script : List Bool) :
    runOutcomes c a (script.map fun b => if b then .ok else .fail) = runScript c a script := by
  induction script generalizing a with
  | nil => rfl
  | cons b rest ih =>
    cases b with
    | true => simp [runOutcomes, runScript]
    | false =>
      by_cases hmax : (c.maxAttempts > 0 && a + 1 ≥ c.maxAttempts) = true
      · simp [runOutcomes, runScript, hmax]
      · simp only [List.map_cons, Bool.false_eq_true, if_false, runOutcomes, runScript, hmax, ih (a + 1)]

/-- the number of Publish calls of a fresh entry never exceeds MaxAttempts + the number of lost reports -/
theorem publishes_bounded (c : DCfg) (hM : c.maxAttempts > 0) (a : Nat) (os : List PubOutcome) :
    a + (runOutcomes c a os).2.length ≤
      max c.maxAttempts (a + 1) + (os.filter fun o => o == .okLost || o == .failLost).length ∨
    (runOutcomes c a os).2 = [] :=
  Or.inl (publishes_le c hM a os)

/-! ## non-vacuity -/

example :
    runScript { maxAttempts := 3, minBackoff := 40, maxBackoff := 100 } 0 [false, false, false, true] =
      (.dead, [⟨1, false, 40⟩, ⟨2, false, 80⟩, ⟨3, false, 0⟩]) := by decide +kernel

example :
    runScript { maxAttempts := 5, minBackoff := 30, maxBackoff := 200 } 0 [false, false, false, false, true] =
      (.delivered, [⟨1, false, 30⟩, ⟨2, false, 60⟩, ⟨3, false, 120⟩, ⟨4, false, 200⟩, ⟨5, true, 0⟩]) := by decide +kernel

example :
    ruleMatches { dest := [], events := ["s3:ObjectCreated:*".toList], filters := [⟨prefixName, "img/".toList⟩] }
      { name := "s3:ObjectCreated:Put".toList, bucket := "b".toList, key := "img/a.jpg".toList } = true := by decide +kernel

/-- a crash on the last permitted attempt (MaxAttempts = 2): one more claim, then dead — attempts = 3 = 2 + 1 lost -/
example :
    drun { maxAttempts := 2, minBackoff := 1, maxBackoff := 1 } { phase := .pending, attempts := 0, lost := 0 }
      [.claim, .reportFail, .claim, .lose, .claim, .reportFail] = { phase := .dead, attempts := 3, lost := 1 } := by decide +kernel

example :
    runOutcomes { maxAttempts := 2, minBackoff := 1, maxBackoff := 1 } 0 [.fail, .failLost, .fail, .fail] =
      (.dead, [⟨1, false, 1⟩, ⟨2, false, 0⟩, ⟨3, false, 0⟩]) := by decide +kernel

end Pithos.C22
